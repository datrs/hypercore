import HC.Proofs.Verify
import HC.Proofs.LiveRefine
/-!
# C13 — replication events announce exactly the state changes that happened

`Step.events` is what an operation hands to the event channel (`Events::send`, in order).  `*_events` give the event
list of each operation; `apply_announces` and `append_announces` say that the `have` ranges are exactly the blocks
that became available.  Fan-out ("every subscriber sees the same events in operation order") is a property of
`async-broadcast`, which is modelled: the driver hands each operation's event list to every attached subscriber; the
run compares one to three real receivers, drained after each call.
-/
namespace HC.C13
open HC HC.Core HC.Tree

theorem append_empty (C : Crypto) (c : Core) (seed : Bytes) (h : c.secret = some seed) :
    (c.appendBatch C []).events = [] ∧ (c.appendBatch C []).journal = [] := by
  simp [appendBatch, h]

theorem append_refused (C : Crypto) (c : Core) (batch : List Bytes) (h : c.secret = none) :
    (c.appendBatch C batch).events = [] ∧ (c.appendBatch C batch).journal = [] ∧ (c.appendBatch C batch).core = c := by
  simp [appendBatch, h]

theorem append_events (C : Crypto) (c : Core) (seed : Bytes) (batch : List Bytes) (hs : c.secret = some seed)
    (hne : batch ≠ []) (hok : (c.appendBatch C batch).result.isOk = true) :
    (c.appendBatch C batch).events =
      [Event.upgrade, Event.have ((batch.foldl (Tree.append C) c.tree.changeset).ancestors) ((batch.foldl (Tree.append C) c.tree.changeset).batchLength)] := by
  unfold appendBatch at hok ⊢
  have hb : batch.isEmpty = false := by cases batch <;> simp_all
  simp only [hs, hb] at hok ⊢
  simp only [Bool.false_eq_true, ite_false] at hok ⊢
  split
  · rename_i e he
    rw [he] at hok
    simp [Except.isOk, Except.toBool] at hok
  · simp [hashAndSign]

theorem get_events (c : Core) (d : Disk) (i : Nat) :
    (c.getBlock d i).events = if c.has i then [] else [Event.get i] := by
  unfold getBlock has
  cases hg : c.bitfield.get i with
  | false => simp
  | true =>
    simp only [Bool.not_true, Bool.false_eq_true, ite_false, ite_true]
    split
    · rfl
    · split
      · rfl
      · split <;> rfl

theorem clear_events (c : Core) (d : Disk) (s e : Nat) : (c.clear d s e).events = [] := by
  -- no branch of `clear` fills the `events` field
  unfold clear
  by_cases h1 : s ≥ e
  · rw [if_pos h1]
  · rw [if_neg h1]
    dsimp only
    generalize (if s < c.header.contiguous then { c.header with contiguous := s } else c.header) = hdr
    generalize c.bitfield.setRange s (e - s) false = bf
    generalize Oplog.appendEntry c.oplog { bitfield := some ⟨true, s, e - s⟩ } = ol
    split
    · rfl
    · split
      · rfl
      · split
        · rfl
        · split <;> rfl

/-- an accepted proof emits `upgrade` iff it carried an upgrade, then `have (index, 1)` iff it carried a block
    (`Core.appliedEvents`).  Stated on `applyVerified`, the commit `verify_and_apply_proof` runs once `verify_proof` has
    accepted; `apply_announces` goes through the whole call. -/
theorem apply_events (c : Core) (p : Proof) (cs : Changeset) (j0 : List SOp) (bu : Option Oplog.BitfieldUpdate)
    (h : (applyVerified c p cs j0 bu).result = .ok true) :
    (applyVerified c p cs j0 bu).events = appliedEvents p bu := by
  unfold applyVerified at h ⊢
  exact finishApply_events _ _ _ _ _ _ _ _ h

theorem refused_events (C : Crypto) (c : Core) (d : Disk) (p : Proof)
    (h : (c.verifyAndApply C d p).result = .ok false) : (c.verifyAndApply C d p).events = [] :=
  (apply_false_noop C c d p h).2.2

/-- the indices a list of events announces as available -/
def announced (evs : List Event) (i : Nat) : Bool :=
  evs.any fun e => match e with
    | .have s l => decide (s ≤ i ∧ i < s + l)
    | _ => false

theorem get_setRange_or (b : Bitfield) (s l i : Nat) :
    (b.setRange s l true).get i = (b.get i || decide (s ≤ i ∧ i < s + l)) := by
  rw [Bitfield.get_setRange]
  by_cases hi : s ≤ i ∧ i < s + l
  · rw [if_pos hi, decide_eq_true hi, Bool.or_true]
  · rw [if_neg hi, decide_eq_false hi, Bool.or_false]

theorem announced_applied (p : Proof) (u : Oplog.BitfieldUpdate) (i : Nat) :
    announced (appliedEvents p (some u)) i = decide (u.start ≤ i ∧ i < u.start + u.length) := by
  unfold appliedEvents announced
  cases p.upgrade.isSome <;> exact Bool.or_false _

theorem announced_upgrade_have (s l i : Nat) : announced [.upgrade, .have s l] i = decide (s ≤ i ∧ i < s + l) :=
  Bool.or_false _

theorem announced_applied_none (p : Proof) (i : Nat) : announced (appliedEvents p none) i = false := by
  unfold appliedEvents announced
  cases p.upgrade.isSome <;> rfl

/-- **the announced ranges are exactly the blocks that became available (proofs)**: after an accepted proof a block is
    held iff it was held before or a `have` event of this call announces it — and every announced block is held -/
theorem apply_announces (C : Crypto) (c : Core) (d : Disk) (p : Proof)
    (h : (c.verifyAndApply C d p).result = .ok true) (i : Nat) :
    (c.verifyAndApply C d p).core.bitfield.get i = (c.bitfield.get i || announced (c.verifyAndApply C d p).events i) := by
  obtain ⟨cs, j0, bu, tr, hf, hv, hc, hd, he, hcommit⟩ := verifyAndApply_true_inv C c d p h
  rw [verifyAndApply_accept C c d p cs j0 bu tr hf hv hc hd he hcommit]
  dsimp only
  rw [Core.maybeFlush_get]
  cases bu with
  | none => rw [announced_applied_none, Bool.or_false]; rfl
  | some u =>
    rw [announced_applied]
    exact get_setRange_or c.bitfield u.start u.length i

/-- **the same for a successful append** -/
theorem append_announces (C : Crypto) (c : Core) (seed : Bytes) (batch : List Bytes) (hs : c.secret = some seed) (hne : batch ≠ [])
    (hok : ∃ o, (c.appendBatch C batch).result = .ok o) (i : Nat) :
    (c.appendBatch C batch).core.bitfield.get i = (c.bitfield.get i || announced (c.appendBatch C batch).events i) := by
  obtain ⟨o, hok⟩ := hok
  have hne' : batch.isEmpty = false := by cases batch with | nil => exact absurd rfl hne | cons a l => rfl
  unfold Core.appendBatch at hok ⊢
  simp only [hs, hne', Bool.false_eq_true, ite_false] at hok ⊢
  cases hcm : c.tree.commit (Tree.hashAndSign C (batch.foldl (Tree.append C) c.tree.changeset) seed) with
  | error e => simp [hcm] at hok
  | ok tr =>
    dsimp only
    rw [Core.maybeFlush_get, announced_upgrade_have]
    exact get_setRange_or c.bitfield _ _ i

end HC.C13
