import HC.Proofs.Rotation
import HC.Proofs.Frame
import HC.Proofs.Crash
import HC.Props.C01
import HC.Proofs.ReplicaTorn
/-!
# C02 — a crash between any two storage operations recovers to before-or-after state

At the level of the reader's rule (abstract headers and entries; a slot is `none` when `validate_leader` rejects it):
`reopen_exact`, `append_commit`, `flush_atomic`, `fresh`, `reachable`, and `crash_atomic_partial`, which puts them together.

On the model of the crate, for a writer: **`crash_atomic`** (any history, any call, any number `k` of its storage operations
done: `Hypercore::new` succeeds and the core represents the log before the call or the log after it),
`crash_then_continue`, `acknowledged_stays`, and **`crash_refinement`** (histories with any number of completed calls,
reopens and crashes, `LogSpec.XStep`).  The crash points inside a flush are covered: pages ahead of the header
(`Reopen.RInv`), nodes already in their slots, the new header written but the stale entries not yet truncated.  Recovery
re-establishes the ghost invariant (`Crash.recover_persist`); this rests on `Oplog::open` cutting off what follows the
entries it read — the repair `a6a0579` of a defect these crash histories exposed in the crate.

Proof applications on a replica: `replica_crash_atomic`, `replica_first_crash_atomic`, `replica_blockgrow_crash_atomic`,
`replica_newblock_crash_atomic` (`Hypercore::new` shows the replica as before the application or as the completed
application leaves it, `Shows`, with `ReplicaReopen.RP` again) and `replica_survives_crashes` (`ReplicaCrash.Reach`).
Torn writes are C07.
-/
namespace HC.C02
open HC.Rotation

variable {H E : Type}

theorem reopen_exact {bits : Bits} {h : H} {es : List E} {l : Log H E} (inv : Inv bits h es l) :
    Sees l bits h es := open_of_inv inv

theorem append_commit {bits : Bits} {h : H} {es : List E} {l : Log H E} (inv : Inv bits h es l) (e : E) :
    Inv bits h (es ++ [e]) { l with entries := l.entries ++ [mk bits.cur e] } := append_inv inv e

theorem flush_atomic {bits : Bits} {h h' : H} {es : List E} {l : Log H E} (inv : Inv bits h es l) :
    Sees (l.writeNext bits h') bits.next h' ([] : List E)
      ∧ Inv bits.next h' ([] : List E) { (l.writeNext bits h') with entries := [] } := switch_atomic inv

theorem fresh (h : H) :
    Inv (E := E) (Bits.next ⟨HC.Spec.initialBits.1, HC.Spec.initialBits.2⟩) h []
      (({ s0 := none, s1 := none, entries := [] } : Log H E).writeNext ⟨HC.Spec.initialBits.1, HC.Spec.initialBits.2⟩ h) :=
  fresh_inv h

inductive LogOp (H E : Type)
  | append (e : E)
  | flush (h : H)

/-- the acknowledged state (bits, header, entries) and the file after a sequence of completed operations -/
def run : List (LogOp H E) → (Bits × H × List E × Log H E) → (Bits × H × List E × Log H E)
  | [], s => s
  | .append e :: ops, (b, h, es, l) => run ops (b, h, es ++ [e], { l with entries := l.entries ++ [mk b.cur e] })
  | .flush h' :: ops, (b, _, _, l) => run ops (b.next, h', [], { (l.writeNext b h') with entries := [] })

/-- every reachable log state satisfies the invariant, hence reopens to exactly the acknowledged state -/
theorem reachable (ops : List (LogOp H E)) (b : Bits) (h : H) (es : List E) (l : Log H E) (inv : Inv b h es l) :
    let s := run ops (b, h, es, l)
    Inv s.1 s.2.1 s.2.2.1 s.2.2.2 := by
  induction ops generalizing b h es l with
  | nil => exact inv
  | cons op ops ih =>
    cases op with
    | append e => exact ih _ _ _ _ (append_inv inv e)
    | flush h' => exact ih _ _ _ _ (switch_atomic inv).2

/-- **C02 at the level of the reader's rule**: after any appends and flushes on a fresh log the reader sees the acknowledged
    state, and a further flush cut after its header write shows the new header and no entries -/
theorem crash_atomic_partial (ops : List (LogOp H E)) (h0 : H) :
    let s := run ops (Bits.next ⟨HC.Spec.initialBits.1, HC.Spec.initialBits.2⟩, h0, [],
      ({ s0 := none, s1 := none, entries := [] } : Log H E).writeNext ⟨HC.Spec.initialBits.1, HC.Spec.initialBits.2⟩ h0)
    Sees s.2.2.2 s.1 s.2.1 s.2.2.1
      ∧ ∀ h', Sees (s.2.2.2.writeNext s.1 h') s.1.next h' ([] : List E) := by
  intro s
  have inv := reachable ops _ h0 [] _ (fresh_inv (E := E) h0)
  exact ⟨open_of_inv inv, fun h' => (switch_atomic inv).1⟩

/-- non-vacuity: two appends, a flush, one more append, on `Nat` headers and entries -/
example : (run [LogOp.append 1, .append 2, .flush 7, .append 3]
    (Bits.next ⟨true, false⟩, 0, [], ({ s0 := none, s1 := none, entries := [] } : Log Nat Nat).writeNext ⟨true, false⟩ 0)).2.2.2.open
    = some (⟨false, true⟩, 7, [3]) := by decide

/-! ### the crate's model: every crash point of every call -/

section Model
open HC HC.LogSpec HC.LiveRefine HC.TreeStore HC.Persist HC.Crash HC.C01 HC.Oplog

/-- `Rep` and the ghost invariant along a history with close-and-reopen steps -/
theorem history_invariants_reopen (C : Crypto) (hC : HashWF C) (hS : SignWF C) (hTw : TreeWF C) (steps : List HStep) :
    ∀ (c : Core) (d : Disk) (a : Abs) (hf : Header) (a0 : Abs) (es : List Entry), Rep C c d a →
      Persist C c d hf a0 es a → AllOK a steps →
      Rep C (runC' C (c, d) steps).1.1 (runC' C (c, d) steps).1.2 (runA' a steps).1
        ∧ ∃ hf' a0' es', Persist C (runC' C (c, d) steps).1.1 (runC' C (c, d) steps).1.2 hf' a0' es' (runA' a steps).1 :=
  fun _ _ _ _ _ _ h hp hok => (WInv.runC' hC hS hTw steps ⟨h, _, _, _, hp⟩ hok).2

/-- a call cut after `k` of its storage operations: the stores open, and the recovered core satisfies the invariant for the log
    before the call or for the log after it -/
theorem _root_.HC.C01.WInv.crash {C : Crypto} (hC : HashWF C) (hS : SignWF C) (hTw : TreeWF C) {s : Core × Disk} {a : Abs} (h : WInv C s a)
    (op : Op) (hv : Valid a op) (hl : Limits a op) (k : Nat) :
    ∃ c' j, Core.openCore C none (crashDisk C s op k) = .ok (c', j)
      ∧ (WInv C (c', (crashDisk C s op k).applyAll j) a ∨ WInv C (c', (crashDisk C s op k).applyAll j) (a.step op).1) := by
  obtain ⟨hrep, hf, a0, es, hp⟩ := h
  rcases crash_step C hC hS hTw s.1 s.2 hf a0 a es hrep hp op hv hl k with ⟨hf', a0', es', hd⟩ | ⟨hf', a0', es', hd⟩
  · obtain ⟨c', j, hopen, hrep', hp'⟩ := recover_persist C hC hTw _ hf' a0' es' _ hd
    exact ⟨c', j, hopen, Or.inl ⟨hrep', _, _, _, hp'⟩⟩
  · obtain ⟨c', j, hopen, hrep', hp'⟩ := recover_persist C hC hTw _ hf' a0' es' _ hd
    exact ⟨c', j, hopen, Or.inr ⟨hrep', _, _, _, hp'⟩⟩

/-- **C02.**  Any history, any call, any crash point inside it: reopening succeeds and the recovered core
    represents the log before the call or the log after it. -/
theorem crash_atomic (C : Crypto) (hC : HashWF C) (hS : SignWF C) (hTw : TreeWF C) (pk sk : Bytes)
    (hpk : pk.length = 32) (hsk : sk.length = 32) (steps : List HStep) (hok : AllOK {} steps) (op : Op)
    (hv : Valid (runA' {} steps).1 op) (hl : Limits (runA' {} steps).1 op) (k : Nat) :
    ∃ c j, Core.openCore C (some (pk, some sk)) {} = .ok (c, j) ∧
      ∃ c' jo, Core.openCore C none (crashDisk C (runC' C (c, ({} : Disk).applyAll j) steps).1 op k) = .ok (c', jo)
        ∧ (Rep C c' ((crashDisk C (runC' C (c, ({} : Disk).applyAll j) steps).1 op k).applyAll jo) (runA' {} steps).1
          ∨ Rep C c' ((crashDisk C (runC' C (c, ({} : Disk).applyAll j) steps).1 op k).applyAll jo) ((runA' {} steps).1.step op).1) := by
  obtain ⟨c, j, h1, h2⟩ := WInv.init C pk sk hpk hsk
  obtain ⟨c', jo, ho, hr⟩ := (WInv.runC' hC hS hTw steps h2 hok).2.crash hC hS hTw op hv hl k
  exact ⟨c, j, h1, c', jo, ho, hr.imp (·.1) (·.1)⟩

/-- the recovered core stays usable: every further sequence of calls behaves like the abstract log it
    recovered to (the one before the interrupted call, or the one after it) -/
theorem crash_then_continue (C : Crypto) (hC : HashWF C) (hS : SignWF C) (hTw : TreeWF C) (pk sk : Bytes)
    (hpk : pk.length = 32) (hsk : sk.length = 32) (steps : List HStep) (hok : AllOK {} steps) (op : Op)
    (hv : Valid (runA' {} steps).1 op) (hl : Limits (runA' {} steps).1 op) (k : Nat) (more : List Op) :
    ∃ c j, Core.openCore C (some (pk, some sk)) {} = .ok (c, j) ∧
      ∃ c' jo, Core.openCore C none (crashDisk C (runC' C (c, ({} : Disk).applyAll j) steps).1 op k) = .ok (c', jo)
        ∧ ((AllValid (runA' {} steps).1 more →
              (runC C (c', (crashDisk C (runC' C (c, ({} : Disk).applyAll j) steps).1 op k).applyAll jo) more).2 = (runA (runA' {} steps).1 more).2)
          ∨ (AllValid ((runA' {} steps).1.step op).1 more →
              (runC C (c', (crashDisk C (runC' C (c, ({} : Disk).applyAll j) steps).1 op k).applyAll jo) more).2
                = (runA ((runA' {} steps).1.step op).1 more).2)) := by
  obtain ⟨c, j, h1, c', jo, h2, h3⟩ := crash_atomic C hC hS hTw pk sk hpk hsk steps hok op hv hl k
  refine ⟨c, j, h1, c', jo, h2, ?_⟩
  rcases h3 with h3 | h3
  · exact Or.inl fun hvm => (live_refinement C hC more c' _ _ h3 hvm).1
  · exact Or.inr fun hvm => (live_refinement C hC more c' _ _ h3 hvm).1

/-- once every storage operation of the call is done, the recovered log is the one after the call -/
theorem acknowledged_stays (C : Crypto) (hC : HashWF C) (hS : SignWF C) (hTw : TreeWF C) (pk sk : Bytes)
    (hpk : pk.length = 32) (hsk : sk.length = 32) (steps : List HStep) (hok : AllOK {} steps) (op : Op)
    (hv : Valid (runA' {} steps).1 op) (hl : Limits (runA' {} steps).1 op) (k : Nat) :
    ∃ c j, Core.openCore C (some (pk, some sk)) {} = .ok (c, j) ∧
      ((journalC C (runC' C (c, ({} : Disk).applyAll j) steps).1 op).length ≤ k →
        ∃ c', Core.openCore C none (crashDisk C (runC' C (c, ({} : Disk).applyAll j) steps).1 op k) = .ok (c', [])
          ∧ Rep C c' (crashDisk C (runC' C (c, ({} : Disk).applyAll j) steps).1 op k) ((runA' {} steps).1.step op).1) := by
  obtain ⟨c, j, h1, h2⟩ := WInv.init C pk sk hpk hsk
  refine ⟨c, j, h1, fun hk => ?_⟩
  obtain ⟨c', hopen, hrep', _⟩ := (((WInv.runC' hC hS hTw steps h2 hok).2.call hC hS hTw op hv hl).2).reopen hC hTw
  rw [crashDisk, List.take_of_length_le hk, ← stepC_disk]
  exact ⟨c', hopen, hrep'⟩

/-- every call of a history with crashes is within the quantifier, whichever way the crashes before it
    were resolved -/
def XOK (a : Abs) : List XStep → Prop
  | [] => True
  | .call op :: rest => Valid a op ∧ Limits a op ∧ XOK (a.step op).1 rest
  | .reopen :: rest => XOK a rest
  | .crash op _ :: rest => Valid a op ∧ Limits a op ∧ XOK a rest ∧ XOK (a.step op).1 rest

theorem winv_runX {C : Crypto} (hC : HashWF C) (hS : SignWF C) (hTw : TreeWF C) : ∀ (steps : List XStep) {s : Core × Disk} {a : Abs},
    WInv C s a → XOK a steps → AbsX a steps (runX C s steps).2
  | [], _, a, _, _ => AbsX.nil a
  | .call op :: rest, s, a, h, hok => by
    obtain ⟨h1, h2⟩ := h.call hC hS hTw op hok.1 hok.2.1
    simp only [LogSpec.runX, stepX]
    rw [h1]
    exact AbsX.call a op rest _ (winv_runX hC hS hTw rest h2 hok.2.2)
  | .reopen :: rest, s, a, h, hok => by
    obtain ⟨c', hopen, h2⟩ := h.reopen hC hTw
    simp only [LogSpec.runX, stepX, stepC', hopen, Disk.applyAll_nil]
    exact AbsX.reopen a rest _ (winv_runX hC hS hTw rest h2 hok)
  | .crash op k :: rest, s, a, h, ⟨hv, hl, hok1, hok2⟩ => by
    obtain ⟨c', j, hopen, h2⟩ := h.crash hC hS hTw op hv hl k
    simp only [LogSpec.runX, stepX, hopen]
    rcases h2 with h2 | h2
    · exact AbsX.crashBefore a op k rest _ (winv_runX hC hS hTw rest h2 hok1)
    · exact AbsX.crashAfter a op k rest _ (winv_runX hC hS hTw rest h2 hok2)

/-- **C02 in full for a writer, on the model.**  Histories in which calls complete, the store is closed and
    reopened, or the process dies after any number of storage operations of a call and the store is
    reopened — any number of times, in any order: every reopen succeeds, and the observations are those of
    the abstract log in which each crash leaves the log before the interrupted call or the log after it. -/
theorem crash_refinement_from (C : Crypto) (hC : HashWF C) (hS : SignWF C) (hTw : TreeWF C) (steps : List XStep) :
    ∀ (c : Core) (d : Disk) (a : Abs) (hf : Header) (a0 : Abs) (es : List Entry), Rep C c d a →
      Persist C c d hf a0 es a → XOK a steps → AbsX a steps (runX C (c, d) steps).2 :=
  fun _ _ _ _ _ _ h hp hok => winv_runX hC hS hTw steps ⟨h, _, _, _, hp⟩ hok

/-- … in particular from a freshly created core (32-byte key and seed) -/
theorem crash_refinement (C : Crypto) (hC : HashWF C) (hS : SignWF C) (hTw : TreeWF C) (pk sk : Bytes)
    (hpk : pk.length = 32) (hsk : sk.length = 32) (steps : List XStep) (hok : XOK {} steps) :
    ∃ c j, Core.openCore C (some (pk, some sk)) {} = .ok (c, j) ∧ AbsX {} steps (runX C (c, ({} : Disk).applyAll j) steps).2 := by
  obtain ⟨c, j, h1, h2⟩ := WInv.init C pk sk hpk hsk
  exact ⟨c, j, h1, winv_runX hC hS hTw steps h2 hok⟩

/-- non-vacuity: two crashes in a row, then further calls, are within the quantifier -/
example : XOK {} [.call (.append [[1, 2], []]), .crash (.append [[3]]) 5, .crash (.clear 0 1) 1, .reopen, .call (.get 0), .call .info] := by
  simp only [XOK, Valid, Limits]
  decide

/-- non-vacuity: a call after a history with a reopen is within the quantifier, and its journal has crash
    points (an append issues a data write and an oplog write before anything else) -/
example : AllOK {} [.call (.append [[1, 2], []]), .reopen, .call (.clear 0 1)] ∧ Valid (runA' {} [.call (.append [[1, 2], []]), .reopen, .call (.clear 0 1)]).1 (.append [[3]])
    ∧ Limits (runA' {} [.call (.append [[1, 2], []]), .reopen, .call (.clear 0 1)]).1 (.append [[3]]) := by
  simp only [AllOK, Valid, Limits, runA']
  decide

end Model

/-! ### proof applications on a replica -/

/-- what a replica of the first `m` blocks of the writer's log `bs` that holds `held` shows: its length and byte
    length are the writer's at `m`, every held block reads back byte-identical to the writer's block, every other index
    reads as not held, `has` is `held` and the contiguous-length hint is the first index not held -/
def Shows (bs : Array Bytes) (m : Nat) (held : Nat → Bool) (c : Core) (d : Disk) : Prop :=
  c.tree.length = m ∧ c.tree.byteLength = Offsets.psum bs m
    ∧ (∀ i, held i = true → (c.getBlock d i).result = .ok (some (bs.getD i [])))
    ∧ (∀ i, held i = false → (c.getBlock d i).result = .ok none)
    ∧ (∀ i, c.has i = held i) ∧ Core.FirstMissing c.bitfield c.info.contiguous

theorem shows_of_showsR (bs : Array Bytes) (m : Nat) (held : Nat → Bool) (c : Core) (d : Disk) (h : ReplicaTorn.ShowsR bs m held c d) :
    Shows bs m held c d :=
  ⟨h.length, h.bytes, h.get, h.miss, h.has, h.contig⟩

theorem shows_of_rp (C : Crypto) (bs : Array Bytes) (m : Nat) (c : Core) (d : Disk) (held : Nat → Bool)
    (h : ReplicaReopen.RP C bs m c d held) : Shows bs m held c d :=
  shows_of_showsR bs m held c d (ReplicaTorn.showsR_of_reprAt h.rep d (fun _ => rfl) rfl)

/-- every exchange step (`ReplicaReopen.StepOK`) cut after `k` storage operations: `Hypercore::new` succeeds and shows the
    replica as before the step or as the completed step leaves it, with the invariants re-established -/
theorem crash_shows (C : Crypto) (bs : Array Bytes) (m m' : Nat) (c c1 : Core) (d : Disk) (held held' : Nat → Bool) (st : Step Bool)
    (e : Oplog.Entry) (j0 : List SOp) (h : ReplicaReopen.RP C bs m c d held) (hk : ReplicaReopen.StepOK C bs m m' c c1 d held held' st e j0)
    (k : Nat) :
    ∃ c' j, Core.openCore C none (d.applyAll (st.journal.take k)) = .ok (c', j) ∧ c'.publicKey = c.publicKey ∧ c'.tree.fork = c.tree.fork
      ∧ ((Shows bs m held c' ((d.applyAll (st.journal.take k)).applyAll j) ∧ ReplicaReopen.RP C bs m c' ((d.applyAll (st.journal.take k)).applyAll j) held)
        ∨ (Shows bs m' held' c' ((d.applyAll (st.journal.take k)).applyAll j)
            ∧ ReplicaReopen.RP C bs m' c' ((d.applyAll (st.journal.take k)).applyAll j) held')) := by
  obtain ⟨c', j, r1, r2, r3, r4⟩ := ReplicaCrash.crash_recover C bs m m' c c1 d held held' st e j0 h hk k
  exact ⟨c', j, r1, r2, r3, r4.imp (fun r => ⟨shows_of_rp C bs m c' _ held r, r⟩) (fun r => ⟨shows_of_rp C bs m' c' _ held' r, r⟩)⟩

/-- **a replica that dies in the middle of a proof application recovers to before-or-after.**  For every replica state
    that satisfies the invariants (every state reached from creation by honest exchanges, reopens and earlier crashes:
    `replica_survives_crashes`), every honest act — the writer's answer to an upgrade, block or hash request — and
    **every prefix of the storage operations** its application issues (the block's data write, the oplog entry, and
    when the periodic flush is due the dirty bitfield pages, the unflushed tree nodes, the header, the truncation):
    `Hypercore::new` on the stores succeeds and shows the replica exactly as it was before the application or exactly
    as the completed application leaves it — and the invariants hold again, so it is fully usable. -/
theorem replica_crash_atomic (C : Crypto) (hC : TreeStore.HashWF C) (hT : TreeStore.TreeWF C) (bs : Array Bytes) (m : Nat) (c : Core) (d : Disk)
    (held : Nat → Bool) (h : ReplicaReopen.RP C bs m c d held) (hm0 : 0 < m) (a : HashReq.Act)
    (hok : HashReq.OkActs C bs c.publicKey c.tree.fork m [a]) (k : Nat) :
    let st := c.verifyAndApply C d (HashReq.actProof C bs c d a)
    let dk := d.applyAll (st.journal.take k)
    ∃ c' j, Core.openCore C none dk = .ok (c', j) ∧ c'.publicKey = c.publicKey ∧ c'.tree.fork = c.tree.fork
      ∧ ((Shows bs m held c' (dk.applyAll j) ∧ ReplicaReopen.RP C bs m c' (dk.applyAll j) held)
        ∨ (Shows bs (HashReq.lenAfter m [a]) (fun i => held i || HashReq.fetched [a] i) c' (dk.applyAll j)
            ∧ ReplicaReopen.RP C bs (HashReq.lenAfter m [a]) c' (dk.applyAll j) (fun i => held i || HashReq.fetched [a] i))) := by
  obtain ⟨c1, e, j0, hk⟩ := ReplicaCrash.act_ok C hC hT bs m c d held h hm0 a hok
  exact crash_shows C bs m _ c c1 d held _ _ e j0 h hk k

/-- the same for first contact: the application of the writer's answer to "upgrade from 0" on a replica of length 0, cut
    after any number of storage operations, leaves the fresh replica or the replica at length `n` -/
theorem replica_first_crash_atomic (C : Crypto) (hC : TreeStore.HashWF C) (hT : TreeStore.TreeWF C) (bs : Array Bytes) (c : Core) (d : Disk)
    (held : Nat → Bool) (h : ReplicaReopen.RP C bs 0 c d held) (n : Nat) (h0 : 0 < n) (hn : n ≤ bs.size) (sig : Bytes) (hsl : sig.length = 64)
    (hver : C.verify c.publicKey (Growth.signableAt C bs n c.tree.fork) sig = true) (k : Nat) :
    let st := c.verifyAndApply C d (Growth.honestFirst C bs c.tree.fork n sig)
    let dk := d.applyAll (st.journal.take k)
    ∃ c' j, Core.openCore C none dk = .ok (c', j) ∧ c'.publicKey = c.publicKey ∧ c'.tree.fork = c.tree.fork
      ∧ ((Shows bs 0 (fun _ => false) c' (dk.applyAll j) ∧ ReplicaReopen.RP C bs 0 c' (dk.applyAll j) (fun _ => false))
        ∨ (Shows bs n (fun _ => false) c' (dk.applyAll j) ∧ ReplicaReopen.RP C bs n c' (dk.applyAll j) (fun _ => false))) := by
  obtain rfl := Growth.reprAt0_held h.rep
  obtain ⟨c1, e, j0, hk⟩ := ReplicaReopen.first_ok C hC hT bs c d _ h n h0 hn sig hsl hver
  exact crash_shows C bs 0 n c c1 d _ _ _ e j0 h hk k

/-- the same for **a block and an upgrade in one proof** (block `i < m`, upgrade `m → n`): the application writes the
    block's bytes, then one oplog entry that carries the nodes, the upgrade and the bitfield update; cut after any number
    of storage operations it leaves the replica of length `m` without the block or the replica of length `n` with it —
    never the upgrade without the block or the block without the upgrade -/
theorem replica_blockgrow_crash_atomic (C : Crypto) (hC : TreeStore.HashWF C) (hT : TreeStore.TreeWF C) (bs : Array Bytes) (m n : Nat) (c : Core) (d : Disk)
    (held : Nat → Bool) (h : ReplicaReopen.RP C bs m c d held) (hm0 : 0 < m) (hmn : m < n) (hn : n ≤ bs.size) (us : List (Nat × Nat))
    (hup : Growth.Up m 0 (RefTree.rootsStack n).reverse us) (sig : Bytes) (hsl : sig.length = 64)
    (hver : C.verify c.publicKey (Growth.signableAt C bs n c.tree.fork) sig = true) (i : Nat) (hi : i < m) (k : Nat) :
    let st := c.verifyAndApply C d (BlockGrow.honestBlockGrowth C bs c d i m n us sig)
    let dk := d.applyAll (st.journal.take k)
    ∃ c' j, Core.openCore C none dk = .ok (c', j) ∧ c'.publicKey = c.publicKey ∧ c'.tree.fork = c.tree.fork
      ∧ ((Shows bs m held c' (dk.applyAll j) ∧ ReplicaReopen.RP C bs m c' (dk.applyAll j) held)
        ∨ (Shows bs n (fun j => held j || j == i) c' (dk.applyAll j) ∧ ReplicaReopen.RP C bs n c' (dk.applyAll j) (fun j => held j || j == i))) := by
  obtain ⟨c1, e, j0, hk⟩ := BlockGrow.blockgrow_ok C hC hT bs m n c d held h hm0 hmn hn us hup sig hsl hver i hi
  exact crash_shows C bs m n c c1 d held _ _ e j0 h hk k

/-- the same for **a block of the new part and an upgrade in one proof** (block `m ≤ i < n` on a replica of length `m`, upgrade
    `m → n` — the download step): cut after any number of storage operations it leaves the replica of length `m` without
    the block or the replica of length `n` with it -/
theorem replica_newblock_crash_atomic (C : Crypto) (hC : TreeStore.HashWF C) (hT : TreeStore.TreeWF C) (bs : Array Bytes) (m n : Nat) (c : Core) (d : Disk)
    (held : Nat → Bool) (h : ReplicaReopen.RP C bs m c d held) (hm0 : 0 < m) (hmn : m < n) (hn : n ≤ bs.size) (us : List (Nat × Nat))
    (hup : Growth.Up m 0 (RefTree.rootsStack n).reverse us) (sig : Bytes) (hsl : sig.length = 64)
    (hver : C.verify c.publicKey (Growth.signableAt C bs n c.tree.fork) sig = true) (i : Nat) (hmi : m ≤ i) (hi : i < n)
    (a b : List (Nat × Nat)) (k : Nat) (hsplit : us = a ++ (k, i / 2 ^ k) :: b) (kk : Nat) :
    let st := c.verifyAndApply C d (BlockGrowGen.honestNewBlock C bs c.tree.fork i m n a b k sig)
    let dk := d.applyAll (st.journal.take kk)
    ∃ c' j, Core.openCore C none dk = .ok (c', j) ∧ c'.publicKey = c.publicKey ∧ c'.tree.fork = c.tree.fork
      ∧ ((Shows bs m held c' (dk.applyAll j) ∧ ReplicaReopen.RP C bs m c' (dk.applyAll j) held)
        ∨ (Shows bs n (fun j => held j || j == i) c' (dk.applyAll j) ∧ ReplicaReopen.RP C bs n c' (dk.applyAll j) (fun j => held j || j == i))) := by
  obtain ⟨c1, e, j0, hk⟩ := BlockGrowGen.newblock_ok C hC hT bs m n c d held h hm0 hmn hn us hup sig hsl hver i hmi hi a b k hsplit
  exact crash_shows C bs m n c c1 d held _ _ e j0 h hk kk

/-- **replicas survive any number of crashes.**  From a replica created with `Hypercore::new` over empty stores and
    the writer's public key: every state reached by first contact, honest exchanges (upgrade, block, hash, block + upgrade
    in one proof — the block below the replica's length or in the new part; with the request computed from the replica's
    current length), close/reopen steps and crashes at any storage operation of any of these applications followed by a
    reopen (`ReplicaCrash.Reach`) shows a prefix of the writer's log — its length and byte length,
    every held block byte-identical, `has` and the contiguous length exact — and satisfies the invariants, so
    `replica_crash_atomic` / `replica_first_crash_atomic` apply again: the next crash is recoverable, without bound. -/
theorem replica_survives_crashes (C : Crypto) (hC : TreeStore.HashWF C) (hT : TreeStore.TreeWF C) (bs : Array Bytes)
    (hs : bs.size < 2 ^ 62 ∧ Offsets.psum bs bs.size < 2 ^ 64) (pk : Bytes) (hpk : pk.length = 32) :
    ∃ c j, Core.openCore C (some (pk, none)) {} = .ok (c, j) ∧ ReplicaCrash.Reach C bs pk 0 (c, ({} : Disk).applyAll j)
      ∧ ∀ s, ReplicaCrash.Reach C bs pk 0 s →
          ∃ m held, m ≤ bs.size ∧ Shows bs m held s.1 s.2 ∧ ReplicaReopen.RP C bs m s.1 s.2 held ∧ s.1.publicKey = pk ∧ s.1.tree.fork = 0 := by
  obtain ⟨c, j, e1, e2, e3, e4, e5, e6⟩ := ReplicaReopen.init_replica C pk hpk
  have hs64 : Codec.U64 bs.size ∧ Codec.U64 (Offsets.psum bs bs.size) := ⟨Nat.lt_trans hs.1 (by decide), hs.2⟩
  have hrp0 : ReplicaReopen.RP C bs 0 c (({} : Disk).applyAll j) (fun _ => false) :=
    ⟨Growth.freshR_reprAt C bs c _ (e4 bs hs64), ⟨_, _, e5, e6 bs⟩, hs.1⟩
  refine ⟨c, j, e1, ReplicaCrash.Reach.start _ _ 0 _ hrp0 e2 e3, fun s hreach => ?_⟩
  obtain ⟨m, held, hrp, hpk', hfk'⟩ := ReplicaCrash.reach_rp C hC hT bs pk 0 s hreach
  exact ⟨m, held, hrp.rep.le, shows_of_rp C bs m s.1 s.2 held hrp, hrp, hpk', hfk'⟩

/-- non-vacuity: first contact is a step of `Reach` -/
example (C : Crypto) (bs : Array Bytes) (pk : Bytes) (c : Core) (d : Disk) (h : ReplicaCrash.Reach C bs pk 0 (c, d)) (hl : c.tree.length = 0)
    (n : Nat) (h0 : 0 < n) (hn : n ≤ bs.size) (sig : Bytes) (hsl : sig.length = 64)
    (hver : C.verify pk (Growth.signableAt C bs n 0) sig = true) :
    ReplicaCrash.Reach C bs pk 0 ((c.verifyAndApply C d (Growth.honestFirst C bs c.tree.fork n sig)).core,
      d.applyAll (c.verifyAndApply C d (Growth.honestFirst C bs c.tree.fork n sig)).journal) :=
  ReplicaCrash.Reach.first c d n sig h hl h0 hn hsl hver

end HC.C02
