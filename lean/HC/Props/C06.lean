import HC.Proofs.Layout
import HC.Proofs.Bitfield
import HC.Proofs.OplogBytes
import HC.Proofs.BitfieldPages
import HC.Props.C01
/-!
# C06 — storage files are readable and writable per the JavaScript on-disk layout

`HC.Oplog.slot`, `HC.Oplog.entryRegion` and `HC.Oplog.frame` *are* the JavaScript layout (two
checksummed 4096-byte header slots, checksummed flag-encoded entries from byte 8192 carrying the
current header bit); `HC.Oplog.openLog` is the reader (`Oplog::open`).

* `frame`            : the leader round trip for every payload of 1 … 2^30−1 bytes, whatever follows;
* `entries_read_back`: an entry region of any length is read back entry by entry with its partial
  flags and its exact byte length, and reading stops at stale (other header bit) or invalid data;
* `read_write`       : a file with both header slots valid is opened to: bits = the two header bits,
  header = slot 0 iff the bits are equal, entries = those of the region minus trailing partial ones,
  bookkeeping = entry count and byte length of the region — for every well-formed header pair, every
  entry list (any flag combination), every tail;
* `header_round_trip`, `entry_round_trip`: the payload encodings.

* `read_any_slots`   : the same for **any** combination of valid and invalid header slots (either slot may
  fail `validate_leader`; a slot is "a header frame followed by anything"), any frames after them with any
  header bits and partial flags, and a tail that is no frame: the result is exactly the JavaScript reader's
  rule `Rotation.Log.open` (newest header = slot 1 iff the bits differ, single-slot bit rules, entries
  while they carry the current bit, trailing partial ones dropped), and whatever follows the entries read
  is cut off;
* `bitfield_pages`   : the bitfield store is read as 4096-byte little-endian pages: bit `i` is bit `i % 8` of
  byte `i / 8`, for every index.

* `node_slot`, `node_slot_inv` : the tree store holds node `i` in the 40 bytes at `40·i` as 8-byte little-endian
  size ‖ 32-byte hash; a slot is the encoding of the node it decodes to;
* `history_stores`   : on the model of the whole crate, after any history of calls and reopen steps: every
  reference node below the length is found at its slot (or still unflushed in memory), and every held block's
  bytes sit in the data store at the sum of the sizes of the blocks before it (the JavaScript data layout).

The hashes of the five-step interoperability
scenario are covered by the run: every dump of every history is read back by this reader in Lean and
compared with what the crate's API reports; the scenario's SHA-256 hashes (computed by the harness on
the real files and by Lean on the model's files) are compared with the constants certified against
the JavaScript implementation in `tests/js_interop.rs`; storages re-encoded in other JS-valid forms
(header in either slot only, stale entries, trailing garbage, trailing partial entries) are opened.
-/
namespace HC.C06
open HC HC.Oplog HC.Codec

theorem frame (payload rest : Bytes) (hb pb : Bool) (h0 : 0 < payload.length) (h30 : payload.length < 2 ^ 30) :
    validateLeader (Oplog.frame payload hb pb ++ rest) = some ⟨hb, pb, payload.length, payload ++ rest⟩ :=
  validateLeader_frame payload rest hb pb h0 h30

theorem header_round_trip (h : Header) (wf : h.WF) (rest : Bytes) : decHeader (encHeader h ++ rest) = .ok (h, rest) :=
  decHeader_enc h wf rest

theorem entry_round_trip (e : Entry) (wf : e.WF) (rest : Bytes) : decEntry (encEntry e ++ rest) = some (e, rest) :=
  decEntry_enc e wf rest

theorem entries_read_back (bit : Bool) (es : List (Entry × Bool)) (tail : Bytes)
    (wf : ∀ p ∈ es, p.1.WF ∧ (encEntry p.1).length < 2 ^ 30)
    (htail : validateLeader tail = none ∨ ∃ l, validateLeader tail = some l ∧ l.headerBit ≠ bit)
    (fuel : Nat) (hfuel : es.length < fuel) :
    readEntries bit fuel (entryRegion es bit ++ tail) = .ok (es, (entryRegion es bit).length) := by
  have h := OplogBytes.readEntries_frames_tail bit _ (OplogBytes.regionFrames_ok bit es wf) tail htail fuel
    (by rw [OplogBytes.regionFrames_length]; exact hfuel)
  rwa [OplogBytes.takeBit_region, OplogBytes.framesBytes_region, OplogBytes.region_pairs] at h

theorem read_write (h0 h1 : Header) (b0 b1 : Bool) (es : List (Entry × Bool)) (tail : Bytes)
    (w0 : h0.WF) (w1 : h1.WF) (f0 : Fits h0) (f1 : Fits h1)
    (wf : ∀ p ∈ es, p.1.WF ∧ (encEntry p.1).length < 2 ^ 30)
    (htail : validateLeader tail = none ∨ ∃ l, validateLeader tail = some l ∧ l.headerBit ≠ Spec.currentBit b0 b1)
    (hne : es ≠ [] ∨ tail ≠ []) :
    openLog none (slot h0 b0 ++ slot h1 b1 ++ (entryRegion es (Spec.currentBit b0 b1) ++ tail)) =
      .ok ⟨{ bits := (b0, b1), entriesLength := es.length,
              entriesByteLength := (entryRegion es (Spec.currentBit b0 b1)).length },
            (if b0 == b1 then h0 else h1),
            (if tail.length > 0 then [.trunc .oplog (Spec.entriesOffset + (entryRegion es (Spec.currentBit b0 b1)).length)] else []),
            (dropTrailingPartial es).map (·.1)⟩ := by
  -- `hne` is not used: with nothing behind the slots the reader keeps its start state, which is the right-hand side.
  -- Both slots hold their headers and all frames carry the current bit: `openLog_abs_tail` at such a file (the tail
  -- may be a frame of the other bit, which `read_any_slots` does not allow).
  have h : openLog none (slot h0 b0 ++ slot h1 b1 ++ (OplogBytes.framesBytes (OplogBytes.regionFrames (Spec.currentBit b0 b1) es) ++ tail))
      = .ok ⟨⟨(b0, b1), (Rotation.takeBit (Spec.currentBit b0 b1) (OplogBytes.regionFrames (Spec.currentBit b0 b1) es)).length,
            (OplogBytes.framesBytes (Rotation.takeBit (Spec.currentBit b0 b1) (OplogBytes.regionFrames (Spec.currentBit b0 b1) es))).length⟩,
          (if b0 == b1 then h0 else h1),
          OplogBytes.truncOpsT (Spec.currentBit b0 b1) (OplogBytes.regionFrames (Spec.currentBit b0 b1) es) tail.length,
          Rotation.seen (Spec.currentBit b0 b1) (OplogBytes.regionFrames (Spec.currentBit b0 b1) es)⟩ :=
    OplogBytes.openLog_abs_tail _ _ (some (b0, h0)) (some (b1, h1)) _ (slot_length h0 b0 f0) (slot_length h1 b1 f1)
      (OplogBytes.slotIs_slot h0 b0 w0 f0) (OplogBytes.slotIs_slot h1 b1 w1 f1) (OplogBytes.regionFrames_ok _ es wf) ⟨b0, b1⟩ _ _
      (Rotation.open_both _ rfl rfl) tail htail
  rwa [OplogBytes.takeBit_region, OplogBytes.framesBytes_region, OplogBytes.regionFrames_length, OplogBytes.truncOpsT_region,
    OplogBytes.seen_region] at h

/-- the held set after a range update is exact for every index (what the pages are filled from) -/
theorem bitfield_exact (b : Bitfield) (start len : Nat) (v : Bool) (i : Nat) :
    (b.setRange start len v).get i = if start ≤ i ∧ i < start + len then v else b.get i :=
  Bitfield.get_setRange b start len v i

/-- `Oplog::open` on any two slots (valid or not), any frames, any tail that is no frame: the reader's rule -/
theorem read_any_slots (s0 s1 : Bytes) (c0 c1 : Option (Bool × Header)) (fs : List (Rotation.Frame Entry))
    (l0 : s0.length = Spec.headerSize) (l1 : s1.length = Spec.headerSize)
    (h0 : OplogBytes.SlotIs s0 c0) (h1 : OplogBytes.SlotIs s1 c1) (hok : ∀ f ∈ fs, OplogBytes.EntryOK f.entry)
    (bits : Rotation.Bits) (h : Header) (es : List Entry)
    (hopen : (⟨c0, c1, fs⟩ : Rotation.Log Header Entry).open = some (bits, h, es))
    (tail : Bytes) (htail : validateLeader tail = none) :
    ∃ ost, openLog none (s0 ++ s1 ++ (OplogBytes.framesBytes fs ++ tail)) = .ok ⟨ost, h, OplogBytes.truncOpsT bits.cur fs tail.length, es⟩
      ∧ ost.bits = (bits.b0, bits.b1) ∧ ost.entriesByteLength = (OplogBytes.framesBytes (Rotation.takeBit bits.cur fs)).length :=
  ⟨_, OplogBytes.openLog_abs_tail s0 s1 c0 c1 fs l0 l1 h0 h1 hok bits h es hopen tail (.inl htail), rfl, rfl⟩

/-- non-vacuity: a file whose first slot is invalid and whose second slot holds a header is within `read_any_slots` -/
example (hdr : Header) : (⟨none, some (true, hdr), []⟩ : Rotation.Log Header Entry).open = some (⟨false, true⟩, hdr, []) := by
  simp [Rotation.Log.open, Rotation.seen, Rotation.takeBit, Rotation.dropTrailingPartial]

/-- the bitfield store as little-endian pages -/
theorem bitfield_pages (f : File) (i : Nat) :
    (Bitfield.ofFile f).get i = (decide (i < (f.size - f.size % 4) * 8) && decide ((f.byte (i / 8)).toNat / 2 ^ (i % 8) % 2 = 1)) :=
  BitfieldPages.ofFile_get f i

/-- a tree-store slot: 8-byte little-endian size, then the 32-byte hash -/
theorem node_slot (n : Codec.Node) (h : n.length < 2 ^ 64) : HC.nodeOfBytes n.index (HC.nodeBytes n) = n :=
  TreeStore.nodeOfBytes_nodeBytes n h

theorem node_slot_inv (i : Nat) (bs : Bytes) (h : bs.length = 40) : HC.nodeBytes (HC.nodeOfBytes i bs) = bs :=
  TreeStore.nodeBytes_nodeOfBytes i bs h

section Model
open HC.LogSpec HC.LiveRefine HC.TreeStore HC.Persist HC.C01 HC.Offsets

/-- the tree and data stores along every history of a freshly created writer core -/
theorem history_stores (C : Crypto) (hC : HashWF C) (hS : SignWF C) (hTw : TreeWF C) (pk sk : Bytes)
    (hpk : pk.length = 32) (hsk : sk.length = 32) (steps : List HStep) (hok : AllOK {} steps) :
    ∃ c j, Core.openCore C (some (pk, some sk)) {} = .ok (c, j) ∧
      (∀ dd o, (o + 1) * 2 ^ dd ≤ (runA' {} steps).1.blocks.size →
          (runC' C (c, ({} : Disk).applyAll j) steps).1.1.tree.node? (runC' C (c, ({} : Disk).applyAll j) steps).1.2.tree (Flat.index dd o)
            = some (RefTree.nodeAt C (runA' {} steps).1.blocks dd o))
      ∧ (∀ i, (runA' {} steps).1.held i = true → ∀ k, k < sz (runA' {} steps).1.blocks i →
          psum (runA' {} steps).1.blocks i + k < (runC' C (c, ({} : Disk).applyAll j) steps).1.2.data.size
            ∧ (runC' C (c, ({} : Disk).applyAll j) steps).1.2.data.byte (psum (runA' {} steps).1.blocks i + k)
                = ((runA' {} steps).1.blocks.getD i []).getD k 0) := by
  obtain ⟨c, j, h1, h2⟩ := WInv.init C pk sk hpk hsk
  obtain ⟨hrep, _⟩ := (WInv.runC' hC hS hTw steps h2 hok).2
  exact ⟨c, j, h1, hrep.nodes, hrep.data⟩

end Model

end HC.C06
