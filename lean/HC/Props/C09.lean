import HC.Proofs.Verify
import HC.Proofs.VerifyTotal
import HC.Proofs.ApplyTotal
import HC.Proofs.PeerSafe
import HC.Props.C01
import HC.Proofs.Sync
/-!
# C09 — no request or proof from a peer can panic the node

The model makes the Rust's panic sites explicit (`.error .panic`; a loop that exhausts its fuel is also a panic: it
means non-termination).  Receiving side: `verify_proof_total`, `verify_and_apply_total`; sending side:
`create_proof_total`, for trees of `RootShape`; `peer_never_panics` closes the induction over arbitrary proofs.
Not covered: `u64` overflow (the model computes in `Nat`; request fields ≥ 2^63 do overflow in the Rust, outside the
property's 2^40 bound).  The correspondence run exercises it: boundary-value requests, altered and arbitrary proofs
under `catch_unwind` with a watchdog, outcome classes compared with the model's.
-/
namespace HC.C09
open HC HC.Tree HC.Codec HC.Flat

theorem queue_total (q : NodeQueue) (i : Nat) : q.shift i ≠ .error .panic := shift_ne_panic q i

theorem climb_total (C : Crypto) (fuel : Nat) (q : NodeQueue) (it : Iter) (cur : Node) (rn : List Node)
    (hf : q.length < fuel) : climb C fuel q it cur rn ≠ .error .panic := climb_ne_panic C fuel q it cur rn hf

/-- **`verify_tree` returns a root or an error for every proof** (block, hash and seek sections of any shape and length, any
    indices); total, whatever the name says -/
theorem verify_tree_total_partial (C : Crypto) (block : Option DataBlock) (hash : Option DataHash)
    (seek : Option DataSeek) (cs : Changeset) : verifyTree C block hash seek cs ≠ .error .panic :=
  verifyTree_notPanic C block hash seek cs

/-- no loop of `verify_upgrade` runs out of fuel: the root loop's iterator index grows every round and stops at `to`
    (merging in `append_root` never moves the right edge of the subtree to the left), the grow loop consumes a queued
    node per round, the descent for additional nodes halves a power-of-two factor per round -/
theorem verify_upgrade_total (C : Crypto) (fork : Nat) (u : DataUpgrade) (blockRoot : Option Node) (pk : Bytes)
    (cs : Changeset) : verifyUpgrade C fork u blockRoot pk cs ≠ .error .panic :=
  verifyUpgrade_notPanic C fork u blockRoot pk cs

/-- **`verify_proof` returns a changeset or an error for every proof, tree state and key** -/
theorem verify_proof_total (C : Crypto) (t : Tree) (f : File) (p : Proof) (pk : Bytes) :
    verifyProof C t f p pk ≠ .error .panic := verifyProof_notPanic C t f p pk

/-- the changeset `verify_proof` returns keeps the two numbers the commit's panic site compares -/
theorem verify_proof_keeps (C : Crypto) (t : Tree) (f : File) (p : Proof) (pk : Bytes) (cs : Changeset)
    (h : verifyProof C t f p pk = .ok cs) : cs.ancestors = t.length ∧ cs.origLength = t.length :=
  ApplyTotal.verifyProof_keeps C t f p pk cs h

/-- **the sending side is total**: for every tree whose roots sit at the root positions of its length (`RootShape`), every
    store content and every request — any node counts, seek offset and upgrade window; block indices below 2^63 and
    tree-node indices below 2^65 − 1, the `u64` domain (the property bounds fields by 2^40) — the answer is a proof or an
    error.  Climbs are entered only when the root contains the start (the guard of the repaired tree) and reach it after
    `depth root − depth start` steps; descents lose one level per round; the loop over the full roots at least halves
    the remaining leaves per round; `nodes_to_root` cannot climb beyond depth 64 because above it every ancestor
    contains the head. -/
theorem create_valueless_proof_total (t : Tree) (f : File) (hT : CreateTotal.RootShape t) (block hash : Option RequestBlock)
    (seek : Option RequestSeek) (upgrade : Option RequestUpgrade)
    (hb : ∀ b, block = some b → b.index < 2 ^ 63) (hh : ∀ h, hash = some h → h.index < 2 ^ 65 - 1) :
    t.createValuelessProof f block hash seek upgrade ≠ .error .panic :=
  CreateTotal.create_total t f hT block hash seek upgrade hb hh

theorem create_proof_total (c : Core) (d : Disk) (hT : CreateTotal.RootShape c.tree) (block hash : Option RequestBlock)
    (seek : Option RequestSeek) (upgrade : Option RequestUpgrade)
    (hb : ∀ b, block = some b → b.index < 2 ^ 63) (hh : ∀ h, hash = some h → h.index < 2 ^ 65 - 1) :
    (c.createProof d block hash seek upgrade).result ≠ .error .panic :=
  ApplyTotal.createProof_total c d hT block hash seek upgrade hb hh

/-- **the receiving side at core level** — verification, the byte offset of the block under the new roots (a walk of the
    replica's own tree), oplog entry, bitfield, tree commit and flush — returns `true`, `false` or an error for every
    proof; the commit's panic site (a truncating commit) is unreachable by `verify_proof_keeps` -/
theorem verify_and_apply_total (C : Crypto) (c : Core) (d : Disk) (hT : CreateTotal.RootShape c.tree) (p : Proof) :
    (c.verifyAndApply C d p).result ≠ .error .panic :=
  ApplyTotal.verifyAndApply_total C c d hT p

section Model
open HC.LogSpec HC.LiveRefine HC.TreeStore HC.Persist HC.C01

/-- along every history of a writer (calls and reopen steps) the core answers every request without panic -/
theorem serve_along_history (C : Crypto) (hC : HashWF C) (hS : SignWF C) (hTw : TreeWF C) (pk sk : Bytes)
    (hpk : pk.length = 32) (hsk : sk.length = 32) (steps : List HStep) (hok : AllOK {} steps)
    (block hash : Option RequestBlock) (seek : Option RequestSeek) (upgrade : Option RequestUpgrade)
    (hb : ∀ b, block = some b → b.index < 2 ^ 63) (hh : ∀ h, hash = some h → h.index < 2 ^ 65 - 1) :
    ∃ c j, Core.openCore C (some (pk, some sk)) {} = .ok (c, j) ∧
      ((runC' C (c, ({} : Disk).applyAll j) steps).1.1.createProof (runC' C (c, ({} : Disk).applyAll j) steps).1.2
          block hash seek upgrade).result ≠ Except.error Fail.panic := by
  obtain ⟨c, j, h1, h2⟩ := WInv.init C pk sk hpk hsk
  obtain ⟨hrep, _⟩ := (WInv.runC' hC hS hTw steps h2 hok).2
  refine ⟨c, j, h1, ?_⟩
  exact create_proof_total _ _ (ApplyTotal.rootShape_of_rootsOK C _ _ hrep.tree hrep.small.1) block hash seek upgrade hb hh

end Model

/-- a replica reached by honest exchanges has `RootShape`, which is all `create_proof_total` and `verify_and_apply_total`
    ask of it -/
theorem serve_on_synced_replica (C : Crypto) (hC : TreeStore.HashWF C) (bs : Array Bytes) (tw : Tree) (fw : File) (pk sig : Bytes)
    (hW : Sync.Writer C bs tw fw pk sig) (fr : File) (tr : Tree) (h : Sync.Reach C bs tw fw pk fr tr) :
    CreateTotal.RootShape tr := by
  obtain ⟨hS, hr, _⟩ := Sync.reach_sparse C hC bs tw fw pk sig hW fr tr h
  apply ApplyTotal.rootShape_of_roots tr bs.size hW.small hS.length
  rw [hr]
  exact ApplyTotal.roots_index_map C bs

/-- and so has the empty tree -/
example : CreateTotal.RootShape {} := ApplyTotal.rootShape_empty

/-- **a replica stays servable whatever it is sent**: after any sequence of arbitrary proofs, the next proof and
    the next request are answered without panic.  `RootShape` survives every proof, refused, failing or accepted
    (`PeerSafe.shape_step`: an accepted upgrade adopts roots whose positions are those of a prefix the writer signed, by
    `C04.sound_upgrade`).  Assumed: no collision of the root-list hash, the key verifies only what the writer signed and
    the writer signs only heads of prefixes of its log (`PeerSafe.World`), lengths are `u64` values (`U64Run`). -/
theorem peer_never_panics (C : Crypto) (bs : Array Bytes) (wfork : Nat) (hnc : ¬ Sound.TreeCollision C) (c : Core) (d : Disk)
    (hW : PeerSafe.World C bs wfork c.publicKey) (hT : CreateTotal.RootShape c.tree) (hf : c.tree.fork < 2 ^ 64)
    (ps : List Proof) (hu : PeerSafe.U64Run C (c, d) ps) (q : Proof)
    (block hash : Option RequestBlock) (seek : Option RequestSeek) (upgrade : Option RequestUpgrade)
    (hb : ∀ b, block = some b → b.index < 2 ^ 63) (hh : ∀ h, hash = some h → h.index < 2 ^ 65 - 1) :
    ((PeerSafe.after C (c, d) ps).1.verifyAndApply C (PeerSafe.after C (c, d) ps).2 q).result ≠ .error .panic
      ∧ ((PeerSafe.after C (c, d) ps).1.createProof (PeerSafe.after C (c, d) ps).2 block hash seek upgrade).result ≠ .error .panic := by
  obtain ⟨h1, _, _⟩ := PeerSafe.shape_after C bs wfork hnc ps c d hW hT hf hu
  exact ⟨verify_and_apply_total C _ _ h1 q, create_proof_total _ _ h1 block hash seek upgrade hb hh⟩

/-- `World` is not vacuous: a key under which nothing verifies -/
example (C : Crypto) (hv : ∀ pk m s, C.verify pk m s = false) (hl : ∀ x, (C.tree x).length = 32) (pk : Bytes) :
    PeerSafe.World C #[] 0 pk :=
  ⟨⟨fun _ => False, (fun m sig h => by rw [hv] at h; cases h), (fun m h => False.elim h)⟩, hl, by decide, by decide⟩

end HC.C09
