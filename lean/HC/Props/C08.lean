import HC.Proofs.Bitfield
import HC.Props.C02
import HC.Proofs.Replica
import HC.Proofs.ReplicaReopen
/-!
# C08 — has() and contiguous_length are exact

* `has_after_update` : after any range update the held set is exactly the old one with the range set
  (or cleared) — for every index, page and size (no bound on the number of pages).
* `contig_step`      : if the hint equals the first missing index before an update, the hint computed
  by `update_contiguous_length` equals the first missing index after it (set and drop, live and
  replayed — `clear`'s own rule is the drop branch, `clear_rule_eq`).
* `contig_reachable` : hence for every sequence of updates (appends, clears, out-of-order proof
  applications, replays) starting from the empty bitfield the hint is exact.

* `rep_exact`, `writer_exact`, `recovered_exact` : on the model of the whole crate — for a writer core after
  **any** history of appends, clears, reads and close-and-reopen steps, and after recovery from a crash at
  **any** storage operation of a further call (bitfield pages partly flushed, header hint older than the
  pages), `has(i)` is the abstract held set for every `i` and `contiguous_length` is exactly the smallest
  index that is not held (the length if none is missing).

* `replica_exact` : on a **replica**, after first contact and the honest answers for any list of block indices in
  any order (with repetitions), applied by `verify_and_apply_proof`: `has(i)` is true exactly for the fetched
  indices and `contiguous_length` is exactly the smallest index not fetched.
* `replica_reopen_exact`, `replica_crash_exact` : the same along upgrades, block and hash exchanges and close/reopen
  steps in any order, and in every state reachable through crashes at any storage operation followed by a reopen.

Not covered here (validated by the correspondence run only): that the Rust page/word/mask arithmetic realises
`setRange`, and the page (de)serialisation — see `C08.Full` and the evidence file.
-/
namespace HC.C08
open HC HC.Core HC.Oplog

theorem has_after_update (b : Bitfield) (u : BitfieldUpdate) (i : Nat) :
    (b.setRange u.start u.length (!u.drop)).get i =
      if u.start ≤ i ∧ i < u.start + u.length then !u.drop else b.get i :=
  Bitfield.get_setRange b u.start u.length (!u.drop) i

theorem contig_step (h : Header) (b : Bitfield) (u : BitfieldUpdate)
    (hc : FirstMissing b h.contiguous) (hl : 0 < u.length) :
    FirstMissing (b.setRange u.start u.length (!u.drop))
      (updateContiguous h (b.setRange u.start u.length (!u.drop)) u).contiguous :=
  updateContiguous_spec h b u hc hl

/-- what `clear` does to the hint is what replaying its entry does -/
theorem clear_rule_eq (h : Header) (b : Bitfield) (start len : Nat) :
    (updateContiguous h b ⟨true, start, len⟩).contiguous = if start < h.contiguous then start else h.contiguous :=
  updateContiguous_drop h b start len

/-- state after a sequence of updates: (bitfield, header) -/
def run (us : List BitfieldUpdate) (s : Bitfield × Header) : Bitfield × Header :=
  us.foldl (fun s u => let b := s.1.setRange u.start u.length (!u.drop); (b, updateContiguous s.2 b u)) s

theorem contig_reachable (us : List BitfieldUpdate) (b : Bitfield) (h : Header)
    (hpos : ∀ u ∈ us, 0 < u.length) (h0 : FirstMissing b h.contiguous) :
    FirstMissing (run us (b, h)).1 (run us (b, h)).2.contiguous := by
  induction us generalizing b h with
  | nil => exact h0
  | cons u us ih =>
    simp only [run, List.foldl_cons]
    exact ih _ _ (fun x hx => hpos x (List.mem_cons_of_mem _ hx)) (contig_step h b u h0 (hpos u List.mem_cons_self))

theorem start_ok (h : Header) (h0 : h.contiguous = 0) : FirstMissing ({} : Bitfield) h.contiguous := by
  rw [h0]; exact ⟨fun i hi => absurd hi (Nat.not_lt_zero i), rfl⟩

/-- non-vacuity: a concrete history (append 3, clear [1,2), append 2, refill 1) -/
example : (run [⟨false, 0, 3⟩, ⟨true, 1, 1⟩, ⟨false, 3, 2⟩, ⟨false, 1, 1⟩] ({}, Header.new [] none)).2.contiguous = 5 := by
  decide

/-- The bitfield-and-hint part of C08 as one statement: after every sequence of non-empty range updates from the
    empty bitfield the hint is the first missing index (`contig_reachable` at `{}`).  That `has` and the reported
    contiguous length of a writer core are exact along histories, reopens and crash recovery is `writer_exact` and
    `recovered_exact` below. -/
def Full : Prop :=
  ∀ (us : List BitfieldUpdate), (∀ u ∈ us, 0 < u.length) →
    FirstMissing (run us ({}, Header.new [] none)).1 (run us ({}, Header.new [] none)).2.contiguous

theorem full : Full := fun us hpos => contig_reachable us {} _ hpos (start_ok _ rfl)

/-- bits equal to a held set and a hint at the first missing bit: `has` and the reported contiguous length are exact -/
theorem exact_of_bits (c : Core) (held : Nat → Bool) (hb : ∀ i, c.bitfield.get i = held i)
    (hc : FirstMissing c.bitfield c.header.contiguous) :
    (∀ i, c.has i = held i) ∧ (∀ i, i < c.info.contiguous → held i = true) ∧ held c.info.contiguous = false :=
  ⟨hb, fun i hi => (hb i).symm.trans (hc.1 i hi), (hb _).symm.trans hc.2⟩

section Model
open HC.LogSpec HC.LiveRefine HC.TreeStore HC.Persist HC.C01

/-- what the representation invariant says about `has` and the hint -/
theorem rep_exact (C : Crypto) (c : Core) (d : Disk) (a : Abs) (h : Rep C c d a) :
    (∀ i, c.has i = a.held i) ∧ (∀ i, i < c.info.contiguous → a.held i = true) ∧ a.held c.info.contiguous = false
      ∧ c.info.contiguous ≤ a.blocks.size := by
  obtain ⟨e1, e2, e3⟩ := exact_of_bits c a.held h.bits h.contig
  exact ⟨e1, e2, e3, contig_le C c d a h⟩

/-- along every history of a freshly created writer core, with any number of reopen steps -/
theorem writer_exact (C : Crypto) (hC : HashWF C) (hS : SignWF C) (hTw : TreeWF C) (pk sk : Bytes)
    (hpk : pk.length = 32) (hsk : sk.length = 32) (steps : List HStep) (hok : AllOK {} steps) :
    ∃ c j, Core.openCore C (some (pk, some sk)) {} = .ok (c, j) ∧
      (∀ i, (runC' C (c, ({} : Disk).applyAll j) steps).1.1.has i = (runA' {} steps).1.held i)
      ∧ (∀ i, i < (runC' C (c, ({} : Disk).applyAll j) steps).1.1.info.contiguous → (runA' {} steps).1.held i = true)
      ∧ (runA' {} steps).1.held (runC' C (c, ({} : Disk).applyAll j) steps).1.1.info.contiguous = false := by
  obtain ⟨c, j, h1, h2⟩ := WInv.init C pk sk hpk hsk
  obtain ⟨hrep, _⟩ := (WInv.runC' hC hS hTw steps h2 hok).2
  obtain ⟨e1, e2, e3, _⟩ := rep_exact C _ _ _ hrep
  exact ⟨c, j, h1, e1, e2, e3⟩

/-- after recovery from a crash at any storage operation of any further call -/
theorem recovered_exact (C : Crypto) (hC : HashWF C) (hS : SignWF C) (hTw : TreeWF C) (pk sk : Bytes)
    (hpk : pk.length = 32) (hsk : sk.length = 32) (steps : List HStep) (hok : AllOK {} steps) (op : Op)
    (hv : Valid (runA' {} steps).1 op) (hl : Limits (runA' {} steps).1 op) (k : Nat) :
    ∃ c j, Core.openCore C (some (pk, some sk)) {} = .ok (c, j) ∧
      ∃ c' jo, Core.openCore C none (crashDisk C (runC' C (c, ({} : Disk).applyAll j) steps).1 op k) = .ok (c', jo)
        ∧ ∃ a, (a = (runA' {} steps).1 ∨ a = ((runA' {} steps).1.step op).1)
            ∧ (∀ i, c'.has i = a.held i) ∧ (∀ i, i < c'.info.contiguous → a.held i = true) ∧ a.held c'.info.contiguous = false := by
  obtain ⟨c, j, h1, c', jo, h2, h3⟩ := C02.crash_atomic C hC hS hTw pk sk hpk hsk steps hok op hv hl k
  refine ⟨c, j, h1, c', jo, h2, ?_⟩
  rcases h3 with h3 | h3
  · obtain ⟨e1, e2, e3, _⟩ := rep_exact C _ _ _ h3
    exact ⟨_, Or.inl rfl, e1, e2, e3⟩
  · obtain ⟨e1, e2, e3, _⟩ := rep_exact C _ _ _ h3
    exact ⟨_, Or.inr rfl, e1, e2, e3⟩

end Model

/-- **replicas, blocks arriving in any order**: `has` is the set of fetched indices and the hint is the first index
    that was not fetched -/
theorem replica_exact (C : Crypto) (hC : TreeStore.HashWF C) (bs : Array Bytes) (c : Core) (d : Disk)
    (h : Replica.FreshR C bs c d) (h0 : 0 < bs.size) (sig : Bytes) (hsl : sig.length = 64)
    (hver : C.verify c.publicKey (RefTree.signableOf C bs c.tree.fork) sig = true)
    (is : List Nat) (his : ∀ i ∈ is, i < bs.size) :
    let st1 := c.verifyAndApply C d (Replica.honestUpgrade C bs c.tree.fork sig)
    let s2 := Replica.fetch C bs (st1.core, d.applyAll st1.journal) is
    (∀ i, s2.1.has i = is.contains i) ∧ (∀ i, i < s2.1.info.contiguous → i ∈ is) ∧ s2.1.info.contiguous ∉ is := by
  intro st1 s2
  obtain ⟨_, r2, _, _⟩ := Replica.apply_first_upgrade C hC bs c d h h0 sig hsl hver
  obtain ⟨r3, _⟩ := Replica.fetch_repr C hC bs is _ _ _ r2 his
  obtain ⟨e1, e2, e3⟩ := exact_of_bits s2.1 _ r3.bits r3.contig
  exact ⟨e1, fun i hi => by simpa using e2 i hi, by simpa using e3⟩

/-- **replicas across growth rounds, hash requests and restarts**: from creation with the writer's public key, first
    contact, then upgrades, block and hash exchanges and close/reopen in any order — `has` is exactly the set of
    fetched indices (the bitfield survives every restart) and the contiguous hint is the first index not fetched -/
theorem replica_reopen_exact (C : Crypto) (hC : TreeStore.HashWF C) (hT : TreeStore.TreeWF C) (bs : Array Bytes)
    (hs : bs.size < 2 ^ 62 ∧ Offsets.psum bs bs.size < 2 ^ 64) (pk : Bytes) (hpk : pk.length = 32)
    (n₁ : Nat) (h0 : 0 < n₁) (hn : n₁ ≤ bs.size) (sig : Bytes) (hsl : sig.length = 64)
    (hver : C.verify pk (Growth.signableAt C bs n₁ 0) sig = true)
    (acts : List ReplicaReopen.ActR) (hok : HashReq.OkActs C bs pk 0 n₁ (ReplicaReopen.exchanges acts)) :
    ∃ c j, Core.openCore C (some (pk, none)) {} = .ok (c, j) ∧
      let d := ({} : Disk).applyAll j
      let st1 := c.verifyAndApply C d (Growth.honestFirst C bs 0 n₁ sig)
      let s2 := ReplicaReopen.playR C bs (st1.core, d.applyAll st1.journal) acts
      (∀ i, s2.1.has i = HashReq.fetched (ReplicaReopen.exchanges acts) i)
        ∧ (∀ i, i < s2.1.info.contiguous → HashReq.fetched (ReplicaReopen.exchanges acts) i = true)
        ∧ HashReq.fetched (ReplicaReopen.exchanges acts) s2.1.info.contiguous = false := by
  obtain ⟨c, j, e1, e2, e3, e4, e5, e6⟩ := ReplicaReopen.init_replica C pk hpk
  refine ⟨c, j, e1, ?_⟩
  intro d st1 s2
  have hfresh := e4 (bs.extract 0 n₁) (Growth.small_extract bs n₁ hn ⟨Nat.lt_trans hs.1 (by decide), hs.2⟩)
  have hver' : C.verify c.publicKey (Growth.signableAt C bs n₁ c.tree.fork) sig = true := by rw [e2, e3]; exact hver
  obtain ⟨_, r2, r3, r4⟩ := ReplicaReopen.rp_first C hC hT bs hs n₁ h0 hn c d hfresh ⟨_, _, e5, e6 bs⟩ sig hsl hver'
  rw [e3] at r2 r3 r4
  obtain ⟨q1, _⟩ := ReplicaReopen.playR_rp C hC hT bs pk 0 acts n₁ _ _ _ r2 h0 (by rw [r3, e2]) r4 hok
  exact exact_of_bits s2.1 _ q1.rep.bits q1.rep.contig

/-- **replicas across crashes**: in every state reachable from a created replica by first contact, honest exchanges
    (upgrade, block, hash, block + upgrade in one proof), close/reopen steps and crashes at any storage operation of any
    of these applications followed by a reopen (`ReplicaCrash.Reach`, unbounded), `has` is exactly the held set of a
    prefix of the writer's log and the contiguous hint is the first index not held — in particular after a crash between
    the bitfield pages and the header of a flush, where the bitfield store is ahead of the replayed hint -/
theorem replica_crash_exact (C : Crypto) (hC : TreeStore.HashWF C) (hT : TreeStore.TreeWF C) (bs : Array Bytes)
    (hs : bs.size < 2 ^ 62 ∧ Offsets.psum bs bs.size < 2 ^ 64) (pk : Bytes) (hpk : pk.length = 32) :
    ∃ c j, Core.openCore C (some (pk, none)) {} = .ok (c, j) ∧ ReplicaCrash.Reach C bs pk 0 (c, ({} : Disk).applyAll j)
      ∧ ∀ s, ReplicaCrash.Reach C bs pk 0 s →
          ∃ (m : Nat) (held : Nat → Bool), m ≤ bs.size ∧ (∀ i, s.1.has i = held i) ∧ (∀ i, held i = true → i < m)
            ∧ (∀ i, i < s.1.info.contiguous → s.1.has i = true) ∧ s.1.has s.1.info.contiguous = false := by
  obtain ⟨c, j, e1, e2, e3⟩ := C02.replica_survives_crashes C hC hT bs hs pk hpk
  refine ⟨c, j, e1, e2, fun s hs' => ?_⟩
  obtain ⟨m, held, hm, hsh, hrp, _, _⟩ := e3 s hs'
  obtain ⟨_, _, _, _, hhas, hfm⟩ := hsh
  exact ⟨m, held, hm, hhas, hrp.rep.heldLt, fun i hi => by simpa [Core.has] using hfm.1 i hi, by simpa [Core.has] using hfm.2⟩

end HC.C08
