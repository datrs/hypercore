import HC.Proofs.Verify
import HC.Props.C07
/-!
# C12 — secret key hygiene

* `not_writable`   : a core without secret key refuses appends: error result, empty journal, unchanged
  core, no event;
* `ro_idempotent`  : `make_read_only` on a read-only core answers `false` and does nothing;
* `ro_result`      : on a writable core it answers `true` and the resulting core has no secret, neither
  in the key pair nor in the in-memory header;
* `ro_journal`     : its oplog operations are exactly: header slot write, truncate to 8192, other
  header slot write (`ro_both_slots`: the two writes go to the two different slots); everything before them goes to
  the bitfield and tree stores (`ro_prefix_stores`); both writes encode the header **without** the secret and are
  zero padded to 4096 bytes — `slot_full`, for a header whose frame fits a slot, which is not shown here for
  the headers of a history (`FormatLimits.headerOK_of_shape` is that fact) — so that then no byte of an earlier
  key-bearing header survives in either slot, and no entry survives the truncate;
* `header_without_secret` : the encoding of a header without secret key is a function of public data
  only — it is the same for any two cores that differ only in their (erased) secret.

* in histories: `make_read_only` is one of the calls of the refinement theorems (`C01.full_refinement`,
  `C02.crash_refinement`, `C07.torn_atomic`): in every history the crate's model answers like the abstract
  log, and in the abstract log a core that was made read-only **stays** read-only — every later append is
  refused, `info().writeable` is false, across any number of reopens and crash recoveries
  (`readonly_forever`);
* `ro_crash_atomic` : a crash at any storage operation of `make_read_only` (also with that write torn,
  `ro_torn_atomic`) leaves stores that reopen to the writable log or to the same log read-only — never to
  a core that has lost blocks, and never to an unopenable store.

`ro_crash_atomic` is the instance of C02's protocol theorem for this three-step flush (the truncate sits
between the two header writes; see `known-findings.json` for the defect that was repaired there); all
crash points inside the call are enumerated by the run, which also scans the raw bytes of all four
stores for the seed, its halves and the expanded secret.
-/
namespace HC.C12
open HC HC.Core HC.Oplog

theorem not_writable (C : Crypto) (c : Core) (batch : List Bytes) (h : c.secret = none) :
    (c.appendBatch C batch).result = .error .err ∧ (c.appendBatch C batch).journal = []
      ∧ (c.appendBatch C batch).core = c ∧ (c.appendBatch C batch).events = [] := by
  simp [appendBatch, h]

theorem ro_idempotent (c : Core) (h : c.secret = none) :
    c.makeReadOnly.result = .ok false ∧ c.makeReadOnly.journal = [] ∧ c.makeReadOnly.core = c := by
  simp [makeReadOnly, h]

theorem ro_result (c : Core) (seed : Bytes) (h : c.secret = some seed) :
    c.makeReadOnly.result = .ok true ∧ c.makeReadOnly.core.secret = none ∧ c.makeReadOnly.core.header.secret = none := by
  simp [makeReadOnly, h, flushAll]

/-- the bytes of a header slot written by `flush(clear_traces)` -/
def slotBytes (h : Header) (bit : Bool) : Bytes :=
  let fr := frame (encHeader h) bit false
  fr ++ List.replicate (Spec.headerSize - fr.length) 0

/-- slot offset and header bit of the first and second header write of `flush(clear_traces)` -/
def firstWrite (bits : Bool × Bool) : Nat × Bool :=
  ((if (Spec.nextSlot bits.1 bits.2).1 then Spec.headerSize else 0), (Spec.nextSlot bits.1 bits.2).2)
def bitsAfter (bits : Bool × Bool) : Bool × Bool :=
  if (Spec.nextSlot bits.1 bits.2).1 then (bits.1, (Spec.nextSlot bits.1 bits.2).2) else ((Spec.nextSlot bits.1 bits.2).2, bits.2)
def secondWrite (bits : Bool × Bool) : Nat × Bool := firstWrite (bitsAfter bits)

theorem headerWrite_full (h : Header) (bits : Bool × Bool) :
    headerWrite h bits true = SOp.write .oplog (firstWrite bits).1 (slotBytes h (firstWrite bits).2) := rfl

theorem ro_journal (c : Core) (seed : Bytes) (h : c.secret = some seed) :
    c.makeReadOnly.journal = (c.bitfield.flush).2 ++ (c.tree.flush).2 ++
      [SOp.write .oplog (firstWrite c.oplog.bits).1 (slotBytes { c.header with secret := none } (firstWrite c.oplog.bits).2),
       SOp.trunc .oplog Spec.entriesOffset,
       SOp.write .oplog (secondWrite c.oplog.bits).1 (slotBytes { c.header with secret := none } (secondWrite c.oplog.bits).2)] := by
  rw [makeReadOnly_writer c (by rw [h]; rfl), flushAll_snd, flush_ops_clear, headerWrite_full, headerWrite_full]
  rfl

theorem ro_both_slots (bits : Bool × Bool) :
    ((firstWrite bits).1 = 0 ∧ (secondWrite bits).1 = Spec.headerSize)
      ∨ ((firstWrite bits).1 = Spec.headerSize ∧ (secondWrite bits).1 = 0) := by
  rcases bits with ⟨b0, b1⟩
  cases b0 <;> cases b1 <;> decide

theorem ro_prefix_stores (c : Core) :
    ∀ op ∈ (c.bitfield.flush).2 ++ (c.tree.flush).2, ∃ s off bs, op = SOp.write s off bs ∧ s ≠ .oplog ∧ s ≠ .data := by
  intro op hop
  simp only [List.mem_append] at hop
  rcases hop with hop | hop
  · simp only [Bitfield.flush, List.mem_map] at hop
    obtain ⟨p, _, rfl⟩ := hop
    exact ⟨_, _, _, rfl, by decide, by decide⟩
  · simp only [Tree.flush, List.mem_map] at hop
    obtain ⟨n, _, rfl⟩ := hop
    exact ⟨_, _, _, rfl, by decide, by decide⟩

theorem slot_full (h : Header) (bit : Bool) (hfit : (frame (encHeader h) bit false).length ≤ Spec.headerSize) :
    (slotBytes h bit).length = Spec.headerSize := by
  show (_ ++ List.replicate _ 0).length = _
  rw [List.length_append, List.length_replicate]
  exact Nat.add_sub_cancel' hfit

/-- what is written for a header without secret does not depend on the secret that was erased -/
theorem header_without_secret (h : Header) (s1 s2 : Option Bytes) :
    encHeader { { h with secret := s1 } with secret := none } = encHeader { { h with secret := s2 } with secret := none } := rfl

section Model
open HC.LogSpec HC.LiveRefine HC.TreeStore HC.Persist HC.C01

theorem step_readonly (a : Abs) (h : a.writable = false) (op : Op) : (a.step op).1.writable = false := by
  cases op with
  | append batch => simp only [Abs.step, h, ite_true]
  | clear s e => simp only [Abs.step]; split <;> exact h
  | makeReadOnly => simp only [Abs.step, h, Bool.false_eq_true, ite_false]
  | get i => exact h
  | has i => exact h
  | info => exact h

/-- … and answers neither with a successful append nor with `writeable` -/
theorem step_obs_readonly (a : Abs) (h : a.writable = false) (op : Op) :
    (∀ n b, (a.step op).2 ≠ Obs.appended n b) ∧ (∀ l b c w, (a.step op).2 = Obs.info l b c w → w = false) := by
  cases op with
  | append batch => simp only [Abs.step, h, ite_true]; exact ⟨fun _ _ => Obs.noConfusion, fun _ _ _ _ => Obs.noConfusion⟩
  | clear s e => simp only [Abs.step]; split <;> exact ⟨fun _ _ => Obs.noConfusion, fun _ _ _ _ => Obs.noConfusion⟩
  | makeReadOnly =>
    simp only [Abs.step, h, Bool.false_eq_true, ite_false]
    exact ⟨fun _ _ => Obs.noConfusion, fun _ _ _ _ => Obs.noConfusion⟩
  | get i => exact ⟨fun _ _ => Obs.noConfusion, fun _ _ _ _ => Obs.noConfusion⟩
  | has i => exact ⟨fun _ _ => Obs.noConfusion, fun _ _ _ _ => Obs.noConfusion⟩
  | info => exact ⟨fun _ _ => Obs.noConfusion, fun l b c w hw => by cases hw; exact h⟩

/-- in the abstract log, read-only is for good: no call makes the log writable again, appends are refused -/
theorem readonly_forever (a : Abs) (h : a.writable = false) (steps : List XStep) :
    ∀ obs, AbsX a steps obs → ∀ o ∈ obs, (∀ n b, o ≠ Obs.appended n b) ∧ (∀ l b c w, o = Obs.info l b c w → w = false) := by
  induction steps generalizing a with
  | nil => intro obs hx o ho; cases hx; cases ho
  | cons st rest ih =>
    intro obs hx o ho
    have hre : (∀ n b, Obs.reopened ≠ Obs.appended n b) ∧ (∀ l b c w, Obs.reopened = Obs.info l b c w → w = false) :=
      ⟨fun _ _ => Obs.noConfusion, fun _ _ _ _ => Obs.noConfusion⟩
    cases hx with
    | call _ op _ obs' hrest =>
      rcases List.mem_cons.mp ho with rfl | ho'
      · exact step_obs_readonly a h op
      · exact ih _ (step_readonly a h op) obs' hrest o ho'
    | reopen _ _ obs' hrest =>
      rcases List.mem_cons.mp ho with rfl | ho'
      · exact hre
      · exact ih a h obs' hrest o ho'
    | crashBefore _ op k _ obs' hrest =>
      rcases List.mem_cons.mp ho with rfl | ho'
      · exact hre
      · exact ih a h obs' hrest o ho'
    | crashAfter _ op k _ obs' hrest =>
      rcases List.mem_cons.mp ho with rfl | ho'
      · exact hre
      · exact ih _ (step_readonly a h op) obs' hrest o ho'

/-- `make_read_only` interrupted at any storage operation: the recovered core represents the writable log or
    the same log read-only -/
theorem ro_crash_atomic (C : Crypto) (hC : HashWF C) (hS : SignWF C) (hTw : TreeWF C) (pk sk : Bytes)
    (hpk : pk.length = 32) (hsk : sk.length = 32) (steps : List HStep) (hok : AllOK {} steps) (k : Nat) :
    ∃ c j, Core.openCore C (some (pk, some sk)) {} = .ok (c, j) ∧
      ∃ c' jo, Core.openCore C none (crashDisk C (runC' C (c, ({} : Disk).applyAll j) steps).1 .makeReadOnly k) = .ok (c', jo)
        ∧ (Rep C c' ((crashDisk C (runC' C (c, ({} : Disk).applyAll j) steps).1 .makeReadOnly k).applyAll jo) (runA' {} steps).1
          ∨ Rep C c' ((crashDisk C (runC' C (c, ({} : Disk).applyAll j) steps).1 .makeReadOnly k).applyAll jo)
              ((runA' {} steps).1.step .makeReadOnly).1) :=
  C02.crash_atomic C hC hS hTw pk sk hpk hsk steps hok .makeReadOnly trivial trivial k

/-- … and with the write in progress torn after `t` bytes (header writes: under the checksum assumption) -/
theorem ro_torn_atomic (C : Crypto) (hC : HashWF C) (hS : SignWF C) (hTw : TreeWF C) (pk sk : Bytes)
    (hpk : pk.length = 32) (hsk : sk.length = 32) (steps : List HStep) (hok : AllOK {} steps) (k t : Nat) :
    ∃ c j, Core.openCore C (some (pk, some sk)) {} = .ok (c, j) ∧
      (C07.CrcDetects C (runC' C (c, ({} : Disk).applyAll j) steps).1 .makeReadOnly k t →
        ∃ c' jo, Core.openCore C none (tornDisk C (runC' C (c, ({} : Disk).applyAll j) steps).1 .makeReadOnly k t) = .ok (c', jo)
          ∧ (Rep C c' ((tornDisk C (runC' C (c, ({} : Disk).applyAll j) steps).1 .makeReadOnly k t).applyAll jo) (runA' {} steps).1
            ∨ Rep C c' ((tornDisk C (runC' C (c, ({} : Disk).applyAll j) steps).1 .makeReadOnly k t).applyAll jo)
                ((runA' {} steps).1.step .makeReadOnly).1)) :=
  C07.torn_atomic C hC hS hTw pk sk hpk hsk steps hok .makeReadOnly trivial trivial k t

end Model

end HC.C12
