import HC.Proofs.RefTree
import HC.Props.C02
/-!
# C05 — Merkle tree, root hash and signature match an independent reference

`HC.RefTree` is the specification: node values by structural recursion on (depth, offset) over the
block list (leaf = `C.leaf data`, parent = `C.parent (sum of sizes) left right`), flat in-order
numbering, roots by the recursive binary decomposition of the length, signed message = namespace ‖
hash of the roots ‖ length ‖ fork.  All theorems hold for **every** crypto record `C`, every block
list and every split into appends; `Crypto.real` (BLAKE2b-256 / Ed25519 written in Lean from the
scheme's description) is what the correspondence run instantiates and compares byte-for-byte with
the crate and with a third reference in the harness.

* `nodes_eq_ref`     : appending one block to a changeset whose roots are the reference roots of `bs`
  gives the reference roots of `bs ++ [b]`, every node it creates (the leaf and each merged
  parent — exactly what is persisted and logged) equals the reference node at its flat index, and
  conversely every reference node whose span ends with the new block is among the created ones;
* `batch_roots`      : the same for any batch;
* `commit_keeps`     : committing such a changeset gives a tree whose roots/length/byte length are the
  reference ones — so the invariant holds across any sequence of `append_batch` calls (`history_tree`);
* `batch_independent`: the roots after appending a block list do not depend on how it was split;
* `root_hash_and_signature` : the hash stored in the header and the signature are
  `C.tree (reference roots)` and `C.sign seed (signableOf …)`; `signature_verifies`: it verifies under
  the public key whenever `verify (publicKey seed) m (sign seed m)` holds.

* `history_tree` : on the model of the whole crate — after **any** history of calls and close-and-reopen steps (the
  roots are then reloaded from the tree store and rebuilt by the replay) the tree's roots, length and byte length are
  the reference ones and every node lookup below the length (unflushed map, then the store) returns the reference node;
  `recovered_tree` : after recovery from a crash at any storage operation of a further call the roots, length and byte
  length are the reference ones of the log before or after that call (node lookups are not claimed there);
* `replica_tree_is_reference` : the same for a replica, in every state reached by first contact, honest exchanges,
  reopens and crashes: reference roots of its length, and every node a lookup finds is the reference node.

Not covered by theorems (validated by the run): that proofs carry persisted nodes (`proof_nodes`), and the
signature stored in the header after a reopen.
-/
namespace HC.C05
open HC HC.Codec HC.Tree HC.RefTree HC.RefProof

theorem nodes_eq_ref (C : Crypto) (bs : Array Bytes) (cs : Changeset) (b : Bytes) (h : RootsOK C bs cs) :
    RootsOK C (bs.push b) (Tree.append C cs b)
      ∧ ∃ added, (Tree.append C cs b).rnodes = added ++ cs.rnodes
          ∧ (∀ n ∈ added, ∃ d o, n = nodeAt C (bs.push b) d o ∧ (o + 1) * 2 ^ d ≤ bs.size + 1)
          ∧ (∀ d o, (o + 1) * 2 ^ d = bs.size + 1 → nodeAt C (bs.push b) d o ∈ added) :=
  append_ref C bs cs b h

theorem batch_roots (C : Crypto) (batch : List Bytes) (bs : Array Bytes) (cs : Changeset) (h : RootsOK C bs cs) :
    RootsOK C (bs ++ batch.toArray) (batch.foldl (Tree.append C) cs) := appendMany_ref C batch bs cs h

theorem roots_determined (C : Crypto) (bs : Array Bytes) (cs : Changeset) (h : RootsOK C bs cs) :
    cs.roots = RefTree.roots C bs :=
  h.roots_eq.trans (Growth.roots_eq_rootsAt C bs).symm

/-- the tree (not a changeset) carries the reference roots of `bs` -/
def TreeOK (C : Crypto) (bs : Array Bytes) (t : Tree) : Prop := RootsOK C bs t.changeset

theorem hashAndSign_roots (C : Crypto) (cs : Changeset) (seed : Bytes) :
    (hashAndSign C cs seed).roots = cs.roots ∧ (hashAndSign C cs seed).length = cs.length
      ∧ (hashAndSign C cs seed).byteLength = cs.byteLength := ⟨rfl, rfl, rfl⟩

theorem commit_keeps (C : Crypto) (bs : Array Bytes) (t : Tree) (batch : List Bytes) (seed : Bytes)
    (hne : batch ≠ []) (h : TreeOK C bs t) :
    ∃ t', t.commit (hashAndSign C (batch.foldl (Tree.append C) t.changeset) seed) = .ok t'
      ∧ TreeOK C (bs ++ batch.toArray) t' := commit_ref C bs t batch seed hne h

theorem treeOK_empty (C : Crypto) : TreeOK C #[] ({} : Tree) := by
  simp only [TreeOK, Tree.changeset]
  exact ⟨rfl, by simp [rootsStack_zero], rfl⟩

theorem batch_independent (C : Crypto) (bs : Array Bytes) (cs1 cs2 : Changeset)
    (h1 : RootsOK C bs cs1) (h2 : RootsOK C bs cs2) : cs1.roots = cs2.roots ∧ cs1.length = cs2.length
      ∧ cs1.byteLength = cs2.byteLength :=
  ⟨(roots_determined C bs cs1 h1).trans (roots_determined C bs cs2 h2).symm, h1.length.trans h2.length.symm,
   h1.bytes.trans h2.bytes.symm⟩

theorem root_hash_and_signature (C : Crypto) (bs : Array Bytes) (cs : Changeset) (seed : Bytes) (h : RootsOK C bs cs) :
    (hashAndSign C cs seed).hash = some (C.tree ((RefTree.roots C bs).map fun n => (n.hash, n.index, n.length)))
      ∧ (hashAndSign C cs seed).signature = some (C.sign seed (RefTree.signableOf C bs cs.fork)) := by
  have hr := roots_determined C bs cs h
  simp [hashAndSign, rootsHash, hr, RefTree.signableOf, h.length]

theorem signature_verifies (C : Crypto) (bs : Array Bytes) (cs : Changeset) (seed : Bytes) (h : RootsOK C bs cs)
    (hsig : ∀ m, C.verify (C.publicKey seed) m (C.sign seed m) = true) :
    ∃ sig, (hashAndSign C cs seed).signature = some sig
      ∧ C.verify (C.publicKey seed) (RefTree.signableOf C bs cs.fork) sig = true :=
  ⟨_, (root_hash_and_signature C bs cs seed h).2, hsig _⟩

/-- non-vacuity: three blocks appended as 1 + 2 satisfy the invariant (any crypto record) -/
example (C : Crypto) : RootsOK C (#[[1], [2, 3], []] : Array Bytes)
    ([[2, 3], []].foldl (Tree.append C) (Tree.append C ({} : Tree).changeset [1])) := by
  have h0 := treeOK_empty C
  have h1 := (append_ref C #[] ({} : Tree).changeset [1] h0).1
  exact appendMany_ref C [[2, 3], []] _ _ h1

section Model
open HC.LogSpec HC.LiveRefine HC.TreeStore HC.Persist HC.C01 HC.Offsets

theorem rep_tree (C : Crypto) (c : Core) (d : Disk) (a : Abs) (h : Rep C c d a) :
    RootsOK C a.blocks c.tree.changeset
      ∧ ∀ dd o, (o + 1) * 2 ^ dd ≤ a.blocks.size → c.tree.node? d.tree (Flat.index dd o) = some (nodeAt C a.blocks dd o) :=
  ⟨h.tree, h.nodes⟩

/-- along every history of a freshly created writer core, with any number of reopen steps -/
theorem history_tree (C : Crypto) (hC : HashWF C) (hS : SignWF C) (hTw : TreeWF C) (pk sk : Bytes)
    (hpk : pk.length = 32) (hsk : sk.length = 32) (steps : List HStep) (hok : AllOK {} steps) :
    ∃ c j, Core.openCore C (some (pk, some sk)) {} = .ok (c, j) ∧
      RootsOK C (runA' {} steps).1.blocks (runC' C (c, ({} : Disk).applyAll j) steps).1.1.tree.changeset
      ∧ ∀ dd o, (o + 1) * 2 ^ dd ≤ (runA' {} steps).1.blocks.size →
          (runC' C (c, ({} : Disk).applyAll j) steps).1.1.tree.node? (runC' C (c, ({} : Disk).applyAll j) steps).1.2.tree (Flat.index dd o)
            = some (nodeAt C (runA' {} steps).1.blocks dd o) := by
  obtain ⟨c, j, h1, h2⟩ := WInv.init C pk sk hpk hsk
  obtain ⟨hrep, _⟩ := (WInv.runC' hC hS hTw steps h2 hok).2
  exact ⟨c, j, h1, hrep.tree, hrep.nodes⟩

/-- after recovery from a crash at any storage operation of any further call -/
theorem recovered_tree (C : Crypto) (hC : HashWF C) (hS : SignWF C) (hTw : TreeWF C) (pk sk : Bytes)
    (hpk : pk.length = 32) (hsk : sk.length = 32) (steps : List HStep) (hok : AllOK {} steps) (op : Op)
    (hv : Valid (runA' {} steps).1 op) (hl : Limits (runA' {} steps).1 op) (k : Nat) :
    ∃ c j, Core.openCore C (some (pk, some sk)) {} = .ok (c, j) ∧
      ∃ c' jo, Core.openCore C none (crashDisk C (runC' C (c, ({} : Disk).applyAll j) steps).1 op k) = .ok (c', jo)
        ∧ ∃ a, (a = (runA' {} steps).1 ∨ a = ((runA' {} steps).1.step op).1) ∧ RootsOK C a.blocks c'.tree.changeset := by
  obtain ⟨c, j, h1, c', jo, h2, h3⟩ := C02.crash_atomic C hC hS hTw pk sk hpk hsk steps hok op hv hl k
  refine ⟨c, j, h1, c', jo, h2, ?_⟩
  rcases h3 with h3 | h3
  · exact ⟨_, Or.inl rfl, h3.tree⟩
  · exact ⟨_, Or.inr rfl, h3.tree⟩

end Model

/-- **replicas hold the reference tree too**: in every replica state reached from creation by first contact, honest
    exchanges, reopens and crashes (`ReplicaCrash.Reach`), the roots are the reference roots of the replica's length, and
    every node a lookup finds — in the unflushed map or in the tree store — is the reference node of its position
    (index, size, hash), inside the replica's length -/
theorem replica_tree_is_reference (C : Crypto) (hC : TreeStore.HashWF C) (hT : TreeStore.TreeWF C) (bs : Array Bytes) (pk : Bytes) (fork : Nat)
    (s : Core × Disk) (h : ReplicaCrash.Reach C bs pk fork s) :
    s.1.tree.roots = Growth.rootsAt C bs s.1.tree.length ∧ s.1.tree.length ≤ bs.size
      ∧ ∀ i n, s.1.tree.node? s.2.tree i = some n →
          ∃ d o, i = Flat.index d o ∧ n = RefTree.nodeAt C bs d o ∧ (o + 1) * 2 ^ d ≤ s.1.tree.length := by
  obtain ⟨m, held, hrp, _, _⟩ := ReplicaCrash.reach_rp C hC hT bs pk fork s h
  have hl : s.1.tree.length = m := hrp.rep.closed.sparse.length
  rw [hl]
  exact ⟨hrp.rep.roots, hrp.rep.le, hrp.rep.closed.sparse.sound⟩

end HC.C05
