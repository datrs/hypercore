import HC.Proofs.Frame
import HC.Proofs.Torn
import HC.Props.C02
/-!
# C07 — a torn final write is tolerated like a clean crash

* `torn_entry_ignored` : a log entry is always appended at the end of the oplog file, so a torn entry
  write leaves a strict prefix of a frame at the end of the file; every strict prefix of a frame is
  "no frame" for `validate_leader` — by the length field alone, **without** any assumption on the
  checksum.  Reading entries therefore stops exactly before the torn one.
* `torn_header_falls_back` : if `validate_leader` rejects one header slot (this is where the CRC is
  relied on: hypothesis `validateLeader torn = none`), `Oplog::open` uses the other slot and derives
  header bits whose *current bit* equals the bit the surviving entries carry.

* **`torn_atomic`** (the property itself, on the model of the crate, for a writer): after any history of calls and
  reopen steps, any further call, any storage operation `k` of it and any number `t` of bytes — the stores as they are
  when the process dies during operation `k` and, if it is a write, only its first `t` bytes arrive (`LogSpec.tornDisk`).
  `Hypercore::new` succeeds and the recovered core represents the log before the call or the log after it: for torn
  data, page, node and entry writes **without any assumption**, and for a torn header write under the one assumption
  the format itself relies on, that the checksum rejects the half-written slot (`CrcDetects`).
  `torn_then_continue`: the recovered core stays usable.

* on a replica, for every exchange step (an upgrade, block or hash answer, first contact, a block and an upgrade in one
  proof): a torn data or entry write recovers to the replica before the application (`replica_torn_commit_point_partial`,
  `replica_blockgrow_torn_commit_point`: the entry write is the commit point); a torn header write of the periodic flush,
  under the checksum assumption, to the replica after it (`replica_torn_header`, `replica_blockgrow_torn_header`,
  `replica_first_torn`) — both with the invariants re-established; a torn page or node write of the flush shows the
  replica after the application (`replica_torn_flush*`, `replica_newblock_torn`; observational only: the stores are no
  longer whole pages and slots).

Partial: that a torn header slot (new bytes over old bytes) fails the CRC is an assumption
(`CrcDetects`), evaluated by the harness on every torn state it generates.
-/
namespace HC.C07
open HC HC.Oplog HC.Codec

theorem torn_entry_ignored (payload : Bytes) (hb pb : Bool) (h30 : payload.length < 2 ^ 30)
    (q s : Bytes) (hs : s ≠ []) (hq : q ++ s = frame payload hb pb) : validateLeader q = none :=
  validateLeader_strict_prefix payload hb pb h30 q s hs hq

/-- reading the entry list stops at a torn frame: nothing after it is looked at -/
theorem readEntries_stops (bit : Bool) (fuel : Nat) (torn : Bytes) (h : validateLeader torn = none) :
    readEntries bit (fuel + 1) torn = .ok ([], 0) := by
  simp [readEntries, h]

/-- header-slot fallback of `Oplog::open` on a file whose first (resp. second) slot is invalid -/
theorem torn_header_falls_back (existing : Bytes) (b : Leader) (hdr : Header) (rest : Bytes)
    (hlen : 2 * Spec.headerSize ≤ existing.length) (hno : existing.length ≤ Spec.entriesOffset)
    (h1 : validateLeader (existing.take Spec.headerSize) = none)
    (h2 : validateLeader ((existing.drop Spec.headerSize).take Spec.headerSize) = some b)
    (hd : decHeader b.state = .ok (hdr, rest)) :
    ∃ o, openLog none existing = .ok o ∧ o.header = hdr ∧ o.state.currentBit = true ∧ o.entries = [] := by
  have e1 : ¬ existing.length < Spec.headerSize := Nat.not_lt.mpr (Nat.le_trans (Nat.le_mul_of_pos_left _ (by decide)) hlen)
  have e2 : ¬ existing.length < 2 * Spec.headerSize := Nat.not_lt.mpr hlen
  have e3 : ¬ existing.length > Spec.entriesOffset := Nat.not_lt.mpr hno
  refine ⟨⟨{ bits := (!b.headerBit, b.headerBit) }, hdr, [], []⟩, ?_, rfl, ?_, rfl⟩
  · simp only [openLog, e1, ↓reduceIte, h1, e2, h2, hd, readLog, gt_iff_lt, e3]
  · simp only [State.currentBit, Spec.currentBit, Bool.not_bne, bne_self_eq_false, Bool.not_false]

/-! ### the crate's model: every torn write of every call -/

section Model
open HC.LogSpec HC.LiveRefine HC.TreeStore HC.Persist HC.Crash HC.Torn HC.C01

/-- the assumption on the checksum: if operation `k` of the call is a header write (an oplog write inside the
    two header slots), the slot it leaves half written does not validate -/
def CrcDetects (C : Crypto) (s : Core × Disk) (op : Op) (k t : Nat) : Prop :=
  ∀ off bs, (journalC C s op)[k]? = some (.write .oplog off bs) → off < Spec.entriesOffset →
    validateLeader (((tornDisk C s op k t).oplog.toList.drop off).take Spec.headerSize) = none

/-- a call with storage operation `k` torn after `t` bytes (a header write: under the checksum assumption): the stores open,
    and the recovered core represents the log before the call or the log after it -/
theorem _root_.HC.C01.WInv.torn {C : Crypto} (hC : HashWF C) (hS : SignWF C) (hTw : TreeWF C) {s : Core × Disk} {a : Abs} (h : WInv C s a)
    (op : Op) (hv : Valid a op) (hl : Limits a op) (k t : Nat) (hcrc : CrcDetects C s op k t) :
    ∃ c' jo, Core.openCore C none (tornDisk C s op k t) = .ok (c', jo)
      ∧ (Rep C c' ((tornDisk C s op k t).applyAll jo) a ∨ Rep C c' ((tornDisk C s op k t).applyAll jo) (a.step op).1) := by
  obtain ⟨hrep, hf, a0, es, hp⟩ := h
  rcases torn_step C hC hS hTw s.1 s.2 hf a0 a es hrep hp op hv hl k t hcrc with ⟨hf', a0', es', hd⟩ | ⟨hf', a0', es', hd⟩
  · obtain ⟨c', jo, ho, hr⟩ := durable_open C hC hTw _ hf' a0' es' _ hd
    exact ⟨c', jo, ho, Or.inl hr⟩
  · obtain ⟨c', jo, ho, hr⟩ := durable_open C hC hTw _ hf' a0' es' _ hd
    exact ⟨c', jo, ho, Or.inr hr⟩

/-- **C07**, from any state that satisfies the representation and ghost invariants -/
theorem torn_atomic_from (C : Crypto) (hC : HashWF C) (hS : SignWF C) (hTw : TreeWF C) (c : Core) (d : Disk) (hf : Header)
    (a0 a : Abs) (es : List Entry) (hrep : Rep C c d a) (hp : Persist C c d hf a0 es a) (op : Op) (hv : Valid a op)
    (hl : Limits a op) (k t : Nat) (hcrc : CrcDetects C (c, d) op k t) :
    ∃ c' jo, Core.openCore C none (tornDisk C (c, d) op k t) = .ok (c', jo)
      ∧ (Rep C c' ((tornDisk C (c, d) op k t).applyAll jo) a ∨ Rep C c' ((tornDisk C (c, d) op k t).applyAll jo) (a.step op).1) :=
  WInv.torn hC hS hTw (s := (c, d)) ⟨hrep, _, _, _, hp⟩ op hv hl k t hcrc

/-- **C07.**  Any history of a freshly created core, any further call, any of its storage operations torn
    after any number of bytes: reopening succeeds and the recovered core represents the log before the call
    or the log after it. -/
theorem torn_atomic (C : Crypto) (hC : HashWF C) (hS : SignWF C) (hTw : TreeWF C) (pk sk : Bytes)
    (hpk : pk.length = 32) (hsk : sk.length = 32) (steps : List HStep) (hok : AllOK {} steps) (op : Op)
    (hv : Valid (runA' {} steps).1 op) (hl : Limits (runA' {} steps).1 op) (k t : Nat) :
    ∃ c j, Core.openCore C (some (pk, some sk)) {} = .ok (c, j) ∧
      (CrcDetects C (runC' C (c, ({} : Disk).applyAll j) steps).1 op k t →
        ∃ c' jo, Core.openCore C none (tornDisk C (runC' C (c, ({} : Disk).applyAll j) steps).1 op k t) = .ok (c', jo)
          ∧ (Rep C c' ((tornDisk C (runC' C (c, ({} : Disk).applyAll j) steps).1 op k t).applyAll jo) (runA' {} steps).1
            ∨ Rep C c' ((tornDisk C (runC' C (c, ({} : Disk).applyAll j) steps).1 op k t).applyAll jo) ((runA' {} steps).1.step op).1)) := by
  obtain ⟨c, j, h1, h2⟩ := WInv.init C pk sk hpk hsk
  exact ⟨c, j, h1, (WInv.runC' hC hS hTw steps h2 hok).2.torn hC hS hTw op hv hl k t⟩

/-- the core recovered from a torn write stays usable: every further sequence of calls behaves like the
    abstract log it recovered to -/
theorem torn_then_continue (C : Crypto) (hC : HashWF C) (hS : SignWF C) (hTw : TreeWF C) (c : Core) (d : Disk) (hf : Header)
    (a0 a : Abs) (es : List Entry) (hrep : Rep C c d a) (hp : Persist C c d hf a0 es a) (op : Op) (hv : Valid a op)
    (hl : Limits a op) (k t : Nat) (hcrc : CrcDetects C (c, d) op k t) (more : List Op) :
    ∃ c' jo, Core.openCore C none (tornDisk C (c, d) op k t) = .ok (c', jo)
      ∧ ((AllValid a more → (runC C (c', (tornDisk C (c, d) op k t).applyAll jo) more).2 = (runA a more).2)
        ∨ (AllValid (a.step op).1 more → (runC C (c', (tornDisk C (c, d) op k t).applyAll jo) more).2 = (runA (a.step op).1 more).2)) := by
  obtain ⟨c', jo, h2, h3⟩ := torn_atomic_from C hC hS hTw c d hf a0 a es hrep hp op hv hl k t hcrc
  refine ⟨c', jo, h2, ?_⟩
  rcases h3 with h3 | h3
  · exact Or.inl fun hvm => (live_refinement C hC more c' _ _ h3 hvm).1
  · exact Or.inr fun hvm => (live_refinement C hC more c' _ _ h3 hvm).1

/-- the checksum assumption only concerns header writes: for every operation that is not an oplog write inside
    the header slots it holds vacuously (e.g. the data write that opens an append) -/
example (C : Crypto) (s : Core × Disk) (op : Op) (t : Nat) (h : ∀ off bs, (journalC C s op)[0]? ≠ some (.write .oplog off bs)) :
    CrcDetects C s op 0 t := fun off bs hget _ => absurd hget (h off bs)

end Model

/-! ### proof applications on a replica -/

theorem durR_shows (C : Crypto) (bs : Array Bytes) (m : Nat) (held : Nat → Bool) (d : Disk) (pk : Bytes) (fork : Nat)
    (h : ReplicaCrash.DurR C bs m held d pk fork) :
    ∃ c' j, Core.openCore C none d = .ok (c', j) ∧ C02.Shows bs m held c' (d.applyAll j) ∧ ReplicaReopen.RP C bs m c' (d.applyAll j) held := by
  obtain ⟨c', j, r1, r2, _, _⟩ := ReplicaCrash.durR_open C bs m held d pk fork h
  exact ⟨c', j, r1, C02.shows_of_rp C bs m c' _ held r2, r2⟩

/-- the data and entry writes torn, for every exchange step: what `replica_torn_commit_point_partial` says -/
theorem torn_commit_of_ok (C : Crypto) (bs : Array Bytes) (m m' : Nat) (c c1 : Core) (d : Disk) (held held' : Nat → Bool) (st : Step Bool)
    (e : Oplog.Entry) (j0 : List SOp) (h : ReplicaReopen.RP C bs m c d held) (hk : ReplicaReopen.StepOK C bs m m' c c1 d held held' st e j0) :
    (∀ op ∈ j0, ∃ off bytes, op = SOp.write .data off bytes ∧ ∀ t, ∃ c' j, Core.openCore C none (d.apply (SOp.write .data off (bytes.take t))) = .ok (c', j)
        ∧ C02.Shows bs m held c' ((d.apply (SOp.write .data off (bytes.take t))).applyAll j)
        ∧ ReplicaReopen.RP C bs m c' ((d.apply (SOp.write .data off (bytes.take t))).applyAll j) held)
    ∧ (∀ t, t < (Oplog.frame (Oplog.encEntry e) c.oplog.currentBit false).length →
        let dt := (d.applyAll j0).apply (SOp.write .oplog (Spec.entriesOffset + c.oplog.entriesByteLength) ((Oplog.frame (Oplog.encEntry e) c.oplog.currentBit false).take t))
        ∃ c' j, Core.openCore C none dt = .ok (c', j) ∧ C02.Shows bs m held c' (dt.applyAll j) ∧ ReplicaReopen.RP C bs m c' (dt.applyAll j) held) := by
  obtain ⟨t1, t2⟩ := ReplicaCrash.torn_ok C bs m _ c c1 d held _ _ e j0 h hk
  refine ⟨fun op hop => ?_, fun t ht => durR_shows C bs m held _ _ _ (t2 t ht)⟩
  obtain ⟨off, bytes, hop', hdur⟩ := t1 op hop
  exact ⟨off, bytes, hop', fun t => durR_shows C bs m held _ _ _ (hdur t)⟩

/-- the header write of the periodic flush torn, for every exchange step (`ReplicaReopen.StepOK`): what
    `replica_torn_header` says, with the state after the step as `m'`, `held'` -/
theorem torn_header_of_ok (C : Crypto) (bs : Array Bytes) (m m' : Nat) (c c1 : Core) (d : Disk) (held held' : Nat → Bool) (st : Step Bool)
    (e : Oplog.Entry) (j0 : List SOp) (h : ReplicaReopen.RP C bs m c d held) (hk : ReplicaReopen.StepOK C bs m m' c c1 d held held' st e j0) :
    ∀ (off : Nat) (bytes : Bytes) (t : Nat),
      (Oplog.insertHeader c1.header 0 c1.oplog.bits false).2.head? = some (.write .oplog off bytes) →
      Oplog.validateLeader (((d.applyAll (j0 ++ (Oplog.appendEntry c.oplog e).2)).oplog.write off (bytes.take t)).toList.drop off |>.take Spec.headerSize) = none →
      let dt := ((d.applyAll (j0 ++ (Oplog.appendEntry c.oplog e).2)).applyAll (c1.bitfield.flush.2 ++ c1.tree.flush.2)).apply (.write .oplog off (bytes.take t))
      ∃ c' j, Core.openCore C none dt = .ok (c', j) ∧ C02.Shows bs m' held' c' (dt.applyAll j) ∧ ReplicaReopen.RP C bs m' c' (dt.applyAll j) held' := by
  intro off bytes t hop hcrc
  have hmid := ReplicaReopen.ok_mid C bs m m' c c1 d held held' st e j0 h hk
  obtain ⟨hf1, es1, hp1, hx1⟩ := hmid.per
  exact durR_shows C bs _ _ _ _ _ (ReplicaCrash.torn_headerR C bs _ c1 _ _ hf1 es1 hmid.rep hp1 hx1 h.size off bytes hop t hcrc)

/-- **the entry write is the commit point of a proof application (partial: data and entry writes).**  For every replica
    state that satisfies the invariants (every state of `C02.replica_survives_crashes`) and every honest act: if the
    write of the block's bytes, or the write of the oplog entry, is torn after any number of bytes, `Hypercore::new`
    succeeds and shows the replica exactly as it was before the application, with the invariants re-established — a
    strict prefix of a frame is no frame (no checksum assumption), and the bytes of a block that is not yet recorded as
    held are not observable.  Torn writes *inside the periodic flush* of a replica: `replica_torn_header` (header) and
    `replica_torn_flush` (pages, nodes). -/
theorem replica_torn_commit_point_partial (C : Crypto) (hC : TreeStore.HashWF C) (hT : TreeStore.TreeWF C) (bs : Array Bytes) (m : Nat) (c : Core) (d : Disk)
    (held : Nat → Bool) (h : ReplicaReopen.RP C bs m c d held) (hm0 : 0 < m) (a : HashReq.Act)
    (hok : HashReq.OkActs C bs c.publicKey c.tree.fork m [a]) :
    ∃ (e : Oplog.Entry) (j0 : List SOp), (∃ j2, (c.verifyAndApply C d (HashReq.actProof C bs c d a)).journal = (j0 ++ (Oplog.appendEntry c.oplog e).2) ++ j2)
      ∧ (∀ op ∈ j0, ∃ off bytes, op = SOp.write .data off bytes ∧ ∀ t, ∃ c' j, Core.openCore C none (d.apply (SOp.write .data off (bytes.take t))) = .ok (c', j)
          ∧ C02.Shows bs m held c' ((d.apply (SOp.write .data off (bytes.take t))).applyAll j)
          ∧ ReplicaReopen.RP C bs m c' ((d.apply (SOp.write .data off (bytes.take t))).applyAll j) held)
      ∧ (∀ t, t < (Oplog.frame (Oplog.encEntry e) c.oplog.currentBit false).length →
          let dt := (d.applyAll j0).apply (SOp.write .oplog (Spec.entriesOffset + c.oplog.entriesByteLength) ((Oplog.frame (Oplog.encEntry e) c.oplog.currentBit false).take t))
          ∃ c' j, Core.openCore C none dt = .ok (c', j) ∧ C02.Shows bs m held c' (dt.applyAll j) ∧ ReplicaReopen.RP C bs m c' (dt.applyAll j) held) := by
  obtain ⟨c1, e, j0, hk⟩ := ReplicaCrash.act_ok C hC hT bs m c d held h hm0 a hok
  exact ⟨e, j0, ⟨_, hk.shape.2⟩, torn_commit_of_ok C bs m _ c c1 d held _ _ e j0 h hk⟩

/-- **the header write of a replica's periodic flush, torn** (with the checksum assumption of `torn_atomic`): `c1` is the
    core right after the act's entry has been logged, `d1` its stores; when the periodic flush that follows has written
    all dirty pages and all unflushed nodes and its header write reaches the store only as a prefix that does not
    validate, `Hypercore::new` succeeds and shows the replica as the completed application leaves it (the old header
    and all entries are replayed over stores that are ahead), with the invariants re-established -/
theorem replica_torn_header (C : Crypto) (hC : TreeStore.HashWF C) (hT : TreeStore.TreeWF C) (bs : Array Bytes) (m : Nat) (c : Core) (d : Disk)
    (held : Nat → Bool) (h : ReplicaReopen.RP C bs m c d held) (hm0 : 0 < m) (a : HashReq.Act)
    (hok : HashReq.OkActs C bs c.publicKey c.tree.fork m [a]) :
    ∃ (c1 : Core) (e : Oplog.Entry) (j0 : List SOp),
      (c.verifyAndApply C d (HashReq.actProof C bs c d a)).journal = (j0 ++ (Oplog.appendEntry c.oplog e).2) ++ c1.maybeFlush.2
      ∧ ∀ (off : Nat) (bytes : Bytes) (t : Nat),
          (Oplog.insertHeader c1.header 0 c1.oplog.bits false).2.head? = some (.write .oplog off bytes) →
          Oplog.validateLeader (((d.applyAll (j0 ++ (Oplog.appendEntry c.oplog e).2)).oplog.write off (bytes.take t)).toList.drop off |>.take Spec.headerSize) = none →
          let dt := ((d.applyAll (j0 ++ (Oplog.appendEntry c.oplog e).2)).applyAll (c1.bitfield.flush.2 ++ c1.tree.flush.2)).apply (.write .oplog off (bytes.take t))
          ∃ c' j, Core.openCore C none dt = .ok (c', j)
            ∧ C02.Shows bs (HashReq.lenAfter m [a]) (fun i => held i || HashReq.fetched [a] i) c' (dt.applyAll j)
            ∧ ReplicaReopen.RP C bs (HashReq.lenAfter m [a]) c' (dt.applyAll j) (fun i => held i || HashReq.fetched [a] i) := by
  obtain ⟨c1, e, j0, hk⟩ := ReplicaCrash.act_ok C hC hT bs m c d held h hm0 a hok
  exact ⟨c1, e, j0, hk.shape.2, torn_header_of_ok C bs m _ c c1 d held _ _ e j0 h hk⟩

/-- the same commit point for a proof that carries a block below the replica's length **and an upgrade**: a torn write of
    the block's bytes or of the single oplog entry (nodes + upgrade + bitfield update) recovers to the replica of length
    `m` without the block -/
theorem replica_blockgrow_torn_commit_point (C : Crypto) (hC : TreeStore.HashWF C) (hT : TreeStore.TreeWF C) (bs : Array Bytes) (m n : Nat) (c : Core) (d : Disk)
    (held : Nat → Bool) (h : ReplicaReopen.RP C bs m c d held) (hm0 : 0 < m) (hmn : m < n) (hn : n ≤ bs.size) (us : List (Nat × Nat))
    (hup : Growth.Up m 0 (RefTree.rootsStack n).reverse us) (sig : Bytes) (hsl : sig.length = 64)
    (hver : C.verify c.publicKey (Growth.signableAt C bs n c.tree.fork) sig = true) (i : Nat) (hi : i < m) :
    ∃ (e : Oplog.Entry) (j0 : List SOp), (∃ j2, (c.verifyAndApply C d (BlockGrow.honestBlockGrowth C bs c d i m n us sig)).journal = (j0 ++ (Oplog.appendEntry c.oplog e).2) ++ j2)
      ∧ (∀ op ∈ j0, ∃ off bytes, op = SOp.write .data off bytes ∧ ∀ t, ∃ c' j, Core.openCore C none (d.apply (SOp.write .data off (bytes.take t))) = .ok (c', j)
          ∧ C02.Shows bs m held c' ((d.apply (SOp.write .data off (bytes.take t))).applyAll j)
          ∧ ReplicaReopen.RP C bs m c' ((d.apply (SOp.write .data off (bytes.take t))).applyAll j) held)
      ∧ (∀ t, t < (Oplog.frame (Oplog.encEntry e) c.oplog.currentBit false).length →
          let dt := (d.applyAll j0).apply (SOp.write .oplog (Spec.entriesOffset + c.oplog.entriesByteLength) ((Oplog.frame (Oplog.encEntry e) c.oplog.currentBit false).take t))
          ∃ c' j, Core.openCore C none dt = .ok (c', j) ∧ C02.Shows bs m held c' (dt.applyAll j) ∧ ReplicaReopen.RP C bs m c' (dt.applyAll j) held) := by
  obtain ⟨c1, e, j0, hk⟩ := BlockGrow.blockgrow_ok C hC hT bs m n c d held h hm0 hmn hn us hup sig hsl hver i hi
  exact ⟨e, j0, ⟨_, hk.shape.2⟩, torn_commit_of_ok C bs m n c c1 d held _ _ e j0 h hk⟩

/-- what `replica_torn_flush*` say about a step `st` of a replica (`c`, `d`) that logs the entry `e` after the data-store
    operations `j0`, reaches the core `c1` and then runs the periodic flush, when the completed step leaves length `m'` and
    held set `held'`: the journal's shape, and for a write of any page `p` behind the first `k1` page writes / (all pages
    written) the `k2`-th node write of the flush reaching the store only as a prefix of `t` bytes, `Hypercore::new`
    succeeds and shows the state after -/
def TornFlushShows (C : Crypto) (bs : Array Bytes) (m' : Nat) (held' : Nat → Bool) (c c1 : Core) (d : Disk) (st : Step Bool) (e : Oplog.Entry) (j0 : List SOp) : Prop :=
  st.journal = (j0 ++ (Oplog.appendEntry c.oplog e).2) ++ c1.maybeFlush.2
    ∧ ((c1.skipFlush = 0 ∨ c1.oplog.entriesByteLength ≥ Spec.maxEntriesBytes) →
        c1.maybeFlush.2 = c1.bitfield.flush.2 ++ c1.tree.flush.2 ++ (Oplog.flush c1.oplog c1.header false).2)
    ∧ (∀ (k1 p t : Nat),
        let dt := ((d.applyAll (j0 ++ (Oplog.appendEntry c.oplog e).2)).applyAll (c1.bitfield.flush.2.take k1)).apply
          (.write .bitfield (p * Spec.pageBytes) ((c1.bitfield.pageBytes p).take t))
        ∃ c' j, Core.openCore C none dt = .ok (c', j) ∧ C02.Shows bs m' held' c' (dt.applyAll j))
    ∧ (∀ (k2 : Nat) (n : Codec.Node) (t : Nat), (Crash.flushList c1.tree)[k2]? = some n →
        let dt := (((d.applyAll (j0 ++ (Oplog.appendEntry c.oplog e).2)).applyAll c1.bitfield.flush.2).applyAll (c1.tree.flush.2.take k2)).apply
          (.write .tree (n.index * Spec.nodeSize) ((HC.nodeBytes n).take t))
        ∃ c' j, Core.openCore C none dt = .ok (c', j) ∧ C02.Shows bs m' held' c' (dt.applyAll j))

/-- every exchange step (`ReplicaReopen.StepOK`) has the property -/
theorem torn_flush_of_ok (C : Crypto) (bs : Array Bytes) (m m' : Nat) (c c1 : Core) (d : Disk) (held held' : Nat → Bool) (st : Step Bool)
    (e : Oplog.Entry) (j0 : List SOp) (h : ReplicaReopen.RP C bs m c d held) (hk : ReplicaReopen.StepOK C bs m m' c c1 d held held' st e j0) :
    TornFlushShows C bs m' held' c c1 d st e j0 := by
  have hmid := ReplicaReopen.ok_mid C bs m m' c c1 d held held' st e j0 h hk
  obtain ⟨hf1, es1, hp1, hx1⟩ := hmid.per
  refine ⟨hk.shape.2, ?_, ?_, ?_⟩
  · intro hdue
    rw [LiveRefine.maybeFlush_eq]
    simp only [hdue, ite_true, Core.flushAll]
  · intro k1 p t
    obtain ⟨c', j, r1, r2, _, _⟩ := ReplicaTorn.torn_flush_pageR C bs _ c1 _ _ hf1 es1 hmid.rep hp1 hx1 h.size k1 p t
    exact ⟨c', j, r1, C02.shows_of_showsR bs _ _ c' _ r2⟩
  · intro k2 n t hn
    obtain ⟨c', j, r1, r2, _, _⟩ := ReplicaTorn.torn_flush_slotR C bs _ c1 _ _ hf1 es1 hmid.rep hp1 hx1 h.size k2 n t hn
    exact ⟨c', j, r1, C02.shows_of_showsR bs _ _ c' _ r2⟩

/-- **torn page and node writes inside the periodic flush of a replica.**  `c1` is the core right after the act's entry has
    been logged; when the periodic flush is due its journal is the dirty bitfield pages, then the unflushed tree nodes
    in index order, then the header write and the truncation.  If a page write behind the first `k1`, or (all pages
    written) the `k2`-th node write, reaches the store only as a prefix of `t` bytes, `Hypercore::new` succeeds and shows the
    replica exactly as the completed application leaves it: length, byte length, every held block byte-identical, every
    other index not held, `has` and the contiguous length exact (`TornFlushShows`).  (A half-written page holds, bit by
    bit, the old or the new value, and the replay of the old header's entries tolerates both; a half-written node is
    one the replayed entries put back into the unflushed map, which shadows the store.)  The stores are then no longer
    whole pages / whole slots, so — unlike `replica_torn_commit_point_partial` and `replica_torn_header` — the ghost
    invariant for *further* crashes is not re-established by this theorem. -/
theorem replica_torn_flush (C : Crypto) (hC : TreeStore.HashWF C) (hT : TreeStore.TreeWF C) (bs : Array Bytes) (m : Nat) (c : Core) (d : Disk)
    (held : Nat → Bool) (h : ReplicaReopen.RP C bs m c d held) (hm0 : 0 < m) (a : HashReq.Act)
    (hok : HashReq.OkActs C bs c.publicKey c.tree.fork m [a]) :
    ∃ (c1 : Core) (e : Oplog.Entry) (j0 : List SOp),
      TornFlushShows C bs (HashReq.lenAfter m [a]) (fun i => held i || HashReq.fetched [a] i) c c1 d (c.verifyAndApply C d (HashReq.actProof C bs c d a)) e j0 := by
  obtain ⟨c1, e, j0, hk⟩ := ReplicaCrash.act_ok C hC hT bs m c d held h hm0 a hok
  exact ⟨c1, e, j0, torn_flush_of_ok C bs m _ c c1 d held _ _ e j0 h hk⟩

/-- the same for first contact -/
theorem replica_torn_flush_first (C : Crypto) (hC : TreeStore.HashWF C) (hT : TreeStore.TreeWF C) (bs : Array Bytes) (c : Core) (d : Disk)
    (held : Nat → Bool) (h : ReplicaReopen.RP C bs 0 c d held) (n : Nat) (h0 : 0 < n) (hn : n ≤ bs.size) (sig : Bytes) (hsl : sig.length = 64)
    (hver : C.verify c.publicKey (Growth.signableAt C bs n c.tree.fork) sig = true) :
    ∃ (c1 : Core) (e : Oplog.Entry) (j0 : List SOp),
      TornFlushShows C bs n (fun _ => false) c c1 d (c.verifyAndApply C d (Growth.honestFirst C bs c.tree.fork n sig)) e j0 := by
  obtain rfl := Growth.reprAt0_held h.rep
  obtain ⟨c1, e, j0, hk⟩ := ReplicaReopen.first_ok C hC hT bs c d _ h n h0 hn sig hsl hver
  exact ⟨c1, e, j0, torn_flush_of_ok C bs 0 n c c1 d _ _ _ e j0 h hk⟩

/-- the same for a block below the replica's length and an upgrade in one proof -/
theorem replica_torn_flush_blockgrow (C : Crypto) (hC : TreeStore.HashWF C) (hT : TreeStore.TreeWF C) (bs : Array Bytes) (m n : Nat) (c : Core) (d : Disk)
    (held : Nat → Bool) (h : ReplicaReopen.RP C bs m c d held) (hm0 : 0 < m) (hmn : m < n) (hn : n ≤ bs.size) (us : List (Nat × Nat))
    (hup : Growth.Up m 0 (RefTree.rootsStack n).reverse us) (sig : Bytes) (hsl : sig.length = 64)
    (hver : C.verify c.publicKey (Growth.signableAt C bs n c.tree.fork) sig = true) (i : Nat) (hi : i < m) :
    ∃ (c1 : Core) (e : Oplog.Entry) (j0 : List SOp),
      TornFlushShows C bs n (fun j => held j || j == i) c c1 d (c.verifyAndApply C d (BlockGrow.honestBlockGrowth C bs c d i m n us sig)) e j0 := by
  obtain ⟨c1, e, j0, hk⟩ := BlockGrow.blockgrow_ok C hC hT bs m n c d held h hm0 hmn hn us hup sig hsl hver i hi
  exact ⟨c1, e, j0, torn_flush_of_ok C bs m n c c1 d held _ _ e j0 h hk⟩

/-- **first contact, torn**: a torn entry write of the first upgrade recovers to the fresh replica; a torn header write of
    its flush recovers to the replica at length `n` -/
theorem replica_first_torn (C : Crypto) (hC : TreeStore.HashWF C) (hT : TreeStore.TreeWF C) (bs : Array Bytes) (c : Core) (d : Disk)
    (held : Nat → Bool) (h : ReplicaReopen.RP C bs 0 c d held) (n : Nat) (h0 : 0 < n) (hn : n ≤ bs.size) (sig : Bytes) (hsl : sig.length = 64)
    (hver : C.verify c.publicKey (Growth.signableAt C bs n c.tree.fork) sig = true) :
    ∃ (c1 : Core) (e : Oplog.Entry) (j0 : List SOp),
      (c.verifyAndApply C d (Growth.honestFirst C bs c.tree.fork n sig)).journal = (j0 ++ (Oplog.appendEntry c.oplog e).2) ++ c1.maybeFlush.2
      ∧ (∀ t, t < (Oplog.frame (Oplog.encEntry e) c.oplog.currentBit false).length →
          let dt := (d.applyAll j0).apply (SOp.write .oplog (Spec.entriesOffset + c.oplog.entriesByteLength) ((Oplog.frame (Oplog.encEntry e) c.oplog.currentBit false).take t))
          ∃ c' j, Core.openCore C none dt = .ok (c', j) ∧ C02.Shows bs 0 (fun _ => false) c' (dt.applyAll j))
      ∧ (∀ (off : Nat) (bytes : Bytes) (t : Nat),
          (Oplog.insertHeader c1.header 0 c1.oplog.bits false).2.head? = some (.write .oplog off bytes) →
          Oplog.validateLeader (((d.applyAll (j0 ++ (Oplog.appendEntry c.oplog e).2)).oplog.write off (bytes.take t)).toList.drop off |>.take Spec.headerSize) = none →
          let dt := ((d.applyAll (j0 ++ (Oplog.appendEntry c.oplog e).2)).applyAll (c1.bitfield.flush.2 ++ c1.tree.flush.2)).apply (.write .oplog off (bytes.take t))
          ∃ c' j, Core.openCore C none dt = .ok (c', j) ∧ C02.Shows bs n (fun _ => false) c' (dt.applyAll j)) := by
  obtain rfl := Growth.reprAt0_held h.rep
  obtain ⟨c1, e, j0, hk⟩ := ReplicaReopen.first_ok C hC hT bs c d _ h n h0 hn sig hsl hver
  refine ⟨c1, e, j0, hk.shape.2, fun t ht => ?_, fun off bytes t hop hcrc => ?_⟩
  · obtain ⟨c', j, r1, r2, _⟩ := (torn_commit_of_ok C bs 0 n c c1 d _ _ _ e j0 h hk).2 t ht
    exact ⟨c', j, r1, r2⟩
  · obtain ⟨c', j, r1, r2, _⟩ := torn_header_of_ok C bs 0 n c c1 d _ _ _ e j0 h hk off bytes t hop hcrc
    exact ⟨c', j, r1, r2⟩

/-- the header write of the flush after **a block + upgrade proof**, torn: recovery shows the replica of length `n` with the
    block -/
theorem replica_blockgrow_torn_header (C : Crypto) (hC : TreeStore.HashWF C) (hT : TreeStore.TreeWF C) (bs : Array Bytes) (m n : Nat) (c : Core) (d : Disk)
    (held : Nat → Bool) (h : ReplicaReopen.RP C bs m c d held) (hm0 : 0 < m) (hmn : m < n) (hn : n ≤ bs.size) (us : List (Nat × Nat))
    (hup : Growth.Up m 0 (RefTree.rootsStack n).reverse us) (sig : Bytes) (hsl : sig.length = 64)
    (hver : C.verify c.publicKey (Growth.signableAt C bs n c.tree.fork) sig = true) (i : Nat) (hi : i < m) :
    ∃ (c1 : Core) (e : Oplog.Entry) (j0 : List SOp),
      (c.verifyAndApply C d (BlockGrow.honestBlockGrowth C bs c d i m n us sig)).journal = (j0 ++ (Oplog.appendEntry c.oplog e).2) ++ c1.maybeFlush.2
      ∧ ∀ (off : Nat) (bytes : Bytes) (t : Nat),
          (Oplog.insertHeader c1.header 0 c1.oplog.bits false).2.head? = some (.write .oplog off bytes) →
          Oplog.validateLeader (((d.applyAll (j0 ++ (Oplog.appendEntry c.oplog e).2)).oplog.write off (bytes.take t)).toList.drop off |>.take Spec.headerSize) = none →
          let dt := ((d.applyAll (j0 ++ (Oplog.appendEntry c.oplog e).2)).applyAll (c1.bitfield.flush.2 ++ c1.tree.flush.2)).apply (.write .oplog off (bytes.take t))
          ∃ c' j, Core.openCore C none dt = .ok (c', j) ∧ C02.Shows bs n (fun j => held j || j == i) c' (dt.applyAll j)
            ∧ ReplicaReopen.RP C bs n c' (dt.applyAll j) (fun j => held j || j == i) := by
  obtain ⟨c1, e, j0, hk⟩ := BlockGrow.blockgrow_ok C hC hT bs m n c d held h hm0 hmn hn us hup sig hsl hver i hi
  exact ⟨c1, e, j0, hk.shape.2, torn_header_of_ok C bs m n c c1 d held _ _ e j0 h hk⟩

/-- a block of the new part + upgrade, torn: the application is a `StepOK` step, to which `torn_commit_of_ok` (entry / data
    writes recover to before) and `torn_header_of_ok` (the flush's header write recovers to after) apply; page and node
    writes of the flush show the state after -/
theorem replica_newblock_torn (C : Crypto) (hC : TreeStore.HashWF C) (hT : TreeStore.TreeWF C) (bs : Array Bytes) (m n : Nat) (c : Core) (d : Disk)
    (held : Nat → Bool) (h : ReplicaReopen.RP C bs m c d held) (hm0 : 0 < m) (hmn : m < n) (hn : n ≤ bs.size) (us : List (Nat × Nat))
    (hup : Growth.Up m 0 (RefTree.rootsStack n).reverse us) (sig : Bytes) (hsl : sig.length = 64)
    (hver : C.verify c.publicKey (Growth.signableAt C bs n c.tree.fork) sig = true) (i : Nat) (hmi : m ≤ i) (hi : i < n)
    (a b : List (Nat × Nat)) (k : Nat) (hsplit : us = a ++ (k, i / 2 ^ k) :: b) :
    ∃ (c1 : Core) (e : Oplog.Entry) (j0 : List SOp),
      ReplicaReopen.StepOK C bs m n c c1 d held (fun j => held j || j == i) (c.verifyAndApply C d (BlockGrowGen.honestNewBlock C bs c.tree.fork i m n a b k sig)) e j0
      ∧ TornFlushShows C bs n (fun j => held j || j == i) c c1 d (c.verifyAndApply C d (BlockGrowGen.honestNewBlock C bs c.tree.fork i m n a b k sig)) e j0 := by
  obtain ⟨c1, e, j0, hk⟩ := BlockGrowGen.newblock_ok C hC hT bs m n c d held h hm0 hmn hn us hup sig hsl hver i hmi hi a b k hsplit
  exact ⟨c1, e, j0, hk, torn_flush_of_ok C bs m n c c1 d held _ _ e j0 h hk⟩

end HC.C07
