import HC.Proofs.Verify
import HC.Proofs.Complete
import HC.Proofs.UpgradeComplete
import HC.Proofs.Sync
import HC.Proofs.Replica
import HC.Proofs.Growth
import HC.Proofs.HashReq
import HC.Proofs.ReplicaReopen
import HC.Proofs.CreateTotal
import HC.Proofs.BlockUpgrade
import HC.Proofs.BlockGrow
import HC.Proofs.BlockGrowWriter
import HC.Proofs.BlockNew
import HC.Proofs.BlockGrowGen
import HC.Proofs.NewBlockWriter
/-!
# C03 — any honest proof is accepted and replicas converge to the writer's data

* `accept_commits`, `accepted_events`: a proof that has passed verification and the commitability gate is always applied
  (never `false`), and its events are "upgrade iff it carried an upgrade" then "have (index, 1) iff it carried a block".
* **`honest_block_accepted`** (tree level): the replica's own `missing_nodes` count, the writer's `create_valueless_proof`
  for that request and the block's bytes form a proof the replica's `verify_proof` accepts.  Components:
  `missing_nodes_spec`, `writer_answers`, `block_accepted`.
* **`honest_first_upgrade_accepted`**: first contact.  Both sides walk the full roots of the length with canonical,
  aligned iterators (`UpgradeSound.fullRoot_canon`); the greedy walk is the recursive root decomposition
  (`FullRoots.cover_lt`).
* **`sync_first_contact`, `sync_invariant`, `sync_progress`** (tree level): the exchange is closed under its own effects
  (`Sync.Reach`), so an honest exchange never gets stuck, for every log, order of requests and length of the exchange.
* **`replica_converges`** (core level): the whole of `verify_and_apply_proof`, for every list of block indices in any
  order.  Behind it `Replica.RepR`: a *closed* sparse tree (every stored node inside the tree has its sibling and parent
  stored, which is what makes `byte_offset_from_nodes` work on a sparse tree), bits = held set, the data store holds
  the held blocks at the writer's offsets, the tree store consists of whole slots.
* **`replica_grows`** (core level, growth rounds): upgrades to the writer's current length, block and hash requests in any
  order.  The upgrade answer is the greedy decomposition of `[m, n)` into aligned blocks (`Growth.Up`, `up_exists`); key
  lemma `Growth.dyadic_append_closed`: one aligned append takes a closed replica of the first `L` blocks to one of the
  first `L + 2^J`.
* `honest_block_is_writers`, `honest_growth_is_writers`, `honest_hash_is_writers`: the proofs applied in these theorems
  are what the writer's `create_valueless_proof` returns for the replica's request.
* **`replica_reopens`** (core level, from creation, across close/reopen).
* **block + upgrade in one proof**, for a block below the replica's length (`honest_block_with_upgrade_accepted`,
  `block_with_upgrade_applied`, `honest_blockgrowth_is_writers`) and for a block of the new part
  (`honest_new_block_with_upgrade_accepted`, `new_block_with_upgrade_applied`, `next_block_with_upgrade_applied`,
  `honest_newblock_is_writers`).
* cleared blocks: `cleared_block_no_proof` (a block whose bit is not set yields no proof) and `created_block_value` (a
  created proof carries what `get` returns).

Not proved complete: proofs with a seek section, upgrades to less than the writer's length (additional nodes), and a replica's
exchanges with a writer that has cleared blocks beyond the two statements above; these are validated by the correspondence
run — every honest proof (all request orders, partial upgrades with additional nodes, seeks, hash sweeps, replica reopen,
cleared blocks) must be accepted by the real crate and by the model, and the replica must converge.
-/
namespace HC.C03
open HC HC.Core HC.Tree

theorem accept_commits (c : Core) (p : Proof) (cs : Changeset) (j0 : List SOp) (bu : Option Oplog.BitfieldUpdate) :
    (applyVerified c p cs j0 bu).result ≠ .ok false := applyVerified_not_false c p cs j0 bu

theorem accepted_events (c : Core) (p : Proof) (cs : Changeset) (j0 : List SOp) (bu : Option Oplog.BitfieldUpdate)
    (h : (applyVerified c p cs j0 bu).result = .ok true) :
    (applyVerified c p cs j0 bu).events = appliedEvents p bu := by
  unfold applyVerified at h ⊢
  exact finishApply_events _ _ _ _ _ _ _ _ h

theorem missing_nodes_spec (C : Crypto) (bs : Array Bytes) (m : Nat) (t : Tree) (f : File)
    (hS : Complete.Sparse C bs m t f) (hm : m < 2 ^ 64) (i : Nat) (hi : i < m) :
    t.node? f (Flat.index (t.missingNodes f (2 * i)) (i / 2 ^ t.missingNodes f (2 * i)))
        = some (RefTree.nodeAt C bs (t.missingNodes f (2 * i)) (i / 2 ^ t.missingNodes f (2 * i)))
      ∧ (i / 2 ^ t.missingNodes f (2 * i) + 1) * 2 ^ t.missingNodes f (2 * i) ≤ m :=
  Complete.missingNodes_spec C bs m t f hS hm i hi

theorem writer_answers (C : Crypto) (bs : Array Bytes) (t : Tree) (f : File) (hT : RefProof.RootsOK C bs t.changeset)
    (hN : Offsets.NodesOK C bs t f) (hs : bs.size < 2 ^ 64) (i k : Nat) (hi : i < bs.size)
    (hk : (i / 2 ^ k + 1) * 2 ^ k ≤ bs.size) :
    t.createValuelessProof f (some ⟨i, k⟩) none none none
      = .ok ⟨t.fork, some ⟨i, Complete.sibPath C bs 0 i k⟩, none, none, none⟩ :=
  Complete.create_block_proof C bs t f hT hN hs i k hi hk

theorem block_accepted (C : Crypto) (bs : Array Bytes) (t : Tree) (f : File) (pk : Bytes) (i k fork : Nat)
    (hstored : t.node? f (Flat.index k (i / 2 ^ k)) = some (RefTree.nodeAt C bs k (i / 2 ^ k))) :
    ∃ cs, t.verifyProof C f ⟨fork, some ⟨i, bs.getD i [], Complete.sibPath C bs 0 i k⟩, none, none, none⟩ pk = .ok cs
      ∧ cs.upgraded = t.changeset.upgraded ∧ cs.length = t.length
      ∧ (∀ n ∈ cs.rnodes, ∃ dn on, n = RefTree.nodeAt C bs dn on ∧ (on + 1) * 2 ^ dn ≤ (i / 2 ^ k + 1) * 2 ^ k)
      ∧ cs.origLength = t.length ∧ cs.origFork = t.fork :=
  Complete.block_proof_complete C bs t f pk i k fork hstored

/-- honest block exchange, end to end on the verification side -/
theorem honest_block_accepted (C : Crypto) (bs : Array Bytes) (tw : Tree) (fw : File) (tr : Tree) (fr : File) (m : Nat)
    (hT : RefProof.RootsOK C bs tw.changeset) (hN : Offsets.NodesOK C bs tw fw) (hs : bs.size < 2 ^ 64)
    (hS : Complete.Sparse C bs m tr fr) (hm : m ≤ bs.size) (i : Nat) (hi : i < m) (pk : Bytes) :
    ∃ nodes cs, tw.createValuelessProof fw (some ⟨i, tr.missingNodes fr (2 * i)⟩) none none none
        = .ok ⟨tw.fork, some ⟨i, nodes⟩, none, none, none⟩
      ∧ tr.verifyProof C fr ⟨tw.fork, some ⟨i, bs.getD i [], nodes⟩, none, none, none⟩ pk = .ok cs
      ∧ (∀ n ∈ cs.rnodes, ∃ dn on, n = RefTree.nodeAt C bs dn on ∧ (on + 1) * 2 ^ dn ≤ m)
      ∧ cs.upgraded = false ∧ cs.origLength = tr.length ∧ cs.origFork = tr.fork :=
  Complete.honest_block_accepted C bs tw fw tr fr m hT hN hs hS hm i hi pk

theorem rootsStack_one : RefTree.rootsStack 1 = [(0, 0)] := by
  rw [RefProof.rootsStack_odd 1 (by decide)]; simp [RefProof.rootsStack_zero]

/-- lookups in a tree whose only node, unflushed, is `n` at index 0, over an empty store -/
theorem node?_single (t : Tree) (n : Codec.Node) (ht : t.unflushed = (∅ : Std.HashMap Nat Codec.Node).insert 0 n) (hb : n.blank = false)
    (i : Nat) : t.node? File.empty i = if i = 0 then some n else none := by
  by_cases hi : i = 0
  · rw [if_pos hi, hi]
    exact TreeStore.node?_of_unflushed t File.empty 0 n (by rw [ht]; exact Std.HashMap.getElem?_insert_self) hb
  · rw [if_neg hi, TreeStore.node?_congr {} t File.empty i
      (by rw [ht, Std.HashMap.getElem?_insert, if_neg (by rw [beq_iff_eq]; exact Ne.symm hi)])]
    exact ReplicaReopen.node?_emptyFile i

/-- non-vacuity: a replica that stores the whole reference tree of a one-block log is `Sparse` -/
example (C : Crypto) (hC : TreeStore.HashWF C) : Complete.Sparse C #[[1, 2, 3]] 1
    { length := 1, unflushed := (∅ : Std.HashMap Nat Codec.Node).insert 0 (RefTree.nodeAt C #[[1, 2, 3]] 0 0) } File.empty := by
  have hlook := node?_single { length := 1, unflushed := (∅ : Std.HashMap Nat Codec.Node).insert 0 (RefTree.nodeAt C #[[1, 2, 3]] 0 0) }
    _ rfl (TreeStore.nodeAt_not_blank C hC #[[1, 2, 3]] 0 0)
  refine ⟨rfl, ?_, ?_⟩
  · intro i n h
    rw [hlook] at h
    split at h
    · rename_i hi
      exact ⟨0, 0, hi, (Option.some.inj h).symm, by decide⟩
    · cases h
  · intro p hp
    rw [rootsStack_one, List.mem_singleton] at hp
    rw [hp, hlook]
    rfl

/-- **First contact, upgrade.**  For every log `bs` (shorter than 2^64, non-empty), every writer state holding it
    (reference roots, reference nodes reachable, a signature that verifies for the reference head) and every
    replica that knows nothing yet: the writer's answer to the request "upgrade from 0 to your length" is its
    reference roots and its signature, and the replica's `verify_proof` accepts it, adopting exactly the writer's
    roots, length and fork. -/
theorem honest_first_upgrade_accepted (C : Crypto) (bs : Array Bytes) (tw : Tree) (fw : File) (tr : Tree) (fr : File) (pk sig : Bytes)
    (hT : RefProof.RootsOK C bs tw.changeset) (hNodes : Offsets.NodesOK C bs tw fw) (hN : bs.size < 2 ^ 64) (h0 : 0 < bs.size)
    (hsig : tw.signature = some sig) (hsl : sig.length = 64)
    (hver : C.verify pk (RefTree.signableOf C bs tw.fork) sig = true)
    (hfresh : tr.roots = []) (hflen : tr.length = 0) :
    ∃ vp cs', tw.createValuelessProof fw none none none (some ⟨0, bs.size⟩) = .ok vp
      ∧ tr.verifyProof C fr ⟨vp.fork, none, none, none, vp.upgrade⟩ pk = .ok cs'
      ∧ cs'.roots = RefTree.roots C bs ∧ cs'.length = bs.size ∧ cs'.fork = tw.fork ∧ cs'.signature = some sig := by
  have hw := UpgradeComplete.create_upgrade_from0 C bs tw fw hT hNodes hN h0 sig hsig
  obtain ⟨cs', h1, h2, h3, h4, h5⟩ := UpgradeComplete.fresh_upgrade_accepted C bs hN h0 tw.fork pk sig tr.changeset
    (by simp [Tree.changeset, hfresh]) (by simp [Tree.changeset, hflen]) hsl hver
  refine ⟨_, cs', hw, ?_, h2, h3, h4, h5.1⟩
  simp [Tree.verifyProof, verifyTree, untrustedOf, noSeekOf, h1]

/-- **Sync, first contact.**  From every replica that stores nothing, the writer's answer to "upgrade from 0" is
    accepted and committed; the replica then is a sparse replica at the writer's length with the writer's roots,
    fork and signature. -/
theorem sync_first_contact (C : Crypto) (hC : TreeStore.HashWF C) (bs : Array Bytes) (tw : Tree) (fw : File) (pk sig : Bytes)
    (hW : Sync.Writer C bs tw fw pk sig) (tr : Tree) (fr : File) (hS : Complete.Sparse C bs 0 tr fr) (hr : tr.roots = []) :
    ∃ vp cs tr', tw.createValuelessProof fw none none none (some ⟨0, bs.size⟩) = .ok vp
      ∧ tr.verifyProof C fr ⟨vp.fork, none, none, none, vp.upgrade⟩ pk = .ok cs
      ∧ tr.commit cs = .ok tr'
      ∧ Sync.Reach C bs tw fw pk fr tr'
      ∧ Complete.Sparse C bs bs.size tr' fr ∧ tr'.roots = RefTree.roots C bs ∧ tr'.fork = tw.fork ∧ tr'.signature = some sig := by
  obtain ⟨vp, cs, tr', h1, h2, h3, h4⟩ := Sync.first_contact C hC bs tw fw pk sig hW tr fr hS hr
  exact ⟨vp, cs, tr', h1, h2, h3, Sync.Reach.first tr vp cs tr' hS hr h1 h2 h3, h4⟩

/-- **Sync, invariant.**  Every replica tree state reachable by honest exchanges is a sparse replica of the
    writer's log at the writer's length, with the writer's roots and fork. -/
theorem sync_invariant (C : Crypto) (hC : TreeStore.HashWF C) (bs : Array Bytes) (tw : Tree) (fw : File) (pk sig : Bytes)
    (hW : Sync.Writer C bs tw fw pk sig) (fr : File) (tr : Tree) (h : Sync.Reach C bs tw fw pk fr tr) :
    Complete.Sparse C bs bs.size tr fr ∧ tr.roots = RefTree.roots C bs ∧ tr.fork = tw.fork :=
  Sync.reach_sparse C hC bs tw fw pk sig hW fr tr h

/-- **Sync, progress.**  From every reachable replica state, the exchange for every block of the log succeeds:
    the writer answers the replica's request, the replica accepts the answer, the commit succeeds, and the
    result is reachable again. -/
theorem sync_progress (C : Crypto) (hC : TreeStore.HashWF C) (bs : Array Bytes) (tw : Tree) (fw : File) (pk sig : Bytes)
    (hW : Sync.Writer C bs tw fw pk sig) (fr : File) (tr : Tree) (h : Sync.Reach C bs tw fw pk fr tr) (i : Nat) (hi : i < bs.size) :
    ∃ nodes cs tr', tw.createValuelessProof fw (some ⟨i, tr.missingNodes fr (2 * i)⟩) none none none
        = .ok ⟨tw.fork, some ⟨i, nodes⟩, none, none, none⟩
      ∧ tr.verifyProof C fr ⟨tw.fork, some ⟨i, bs.getD i [], nodes⟩, none, none, none⟩ pk = .ok cs
      ∧ tr.commit cs = .ok tr' ∧ Sync.Reach C bs tw fw pk fr tr' :=
  Sync.block_progress C hC bs tw fw pk sig hW fr tr h i hi

/-- non-vacuity: a new tree over an empty store is a replica that stores nothing -/
example (C : Crypto) (bs : Array Bytes) : Complete.Sparse C bs 0 {} File.empty ∧ ({} : Tree).roots = [] :=
  ⟨ReplicaReopen.sparse_empty C bs, rfl⟩

/-- a span inside one block is the block itself -/
theorem span_one {d o : Nat} (h : (o + 1) * 2 ^ d ≤ 1) : d = 0 ∧ o = 0 := by
  have hp := RefProof.pow_pos' d
  have h1 : (o + 1) * 2 ^ d = 1 := Nat.le_antisymm h (Nat.mul_pos (Nat.succ_pos o) hp)
  have ho : o = 0 := Nat.succ.inj (Nat.eq_one_of_mul_eq_one_right h1)
  have hd : 2 ^ d = 1 := Nat.eq_one_of_mul_eq_one_left h1
  exact ⟨((Nat.pow_eq_one).mp hd).resolve_left (by decide), ho⟩

/-- non-vacuity: a writer holding a one-block log, with a signing scheme whose signatures are 64 bytes and verify -/
example (C : Crypto) (hC : TreeStore.HashWF C) (seed : Bytes) (hS : LiveRefine.SignWF C)
    (hV : ∀ msg, C.verify (C.publicKey seed) msg (C.sign seed msg) = true) :
    Sync.Writer C #[[1, 2, 3]]
      { roots := [RefTree.nodeAt C #[[1, 2, 3]] 0 0], length := 1, byteLength := 3, signature := some (C.sign seed (RefTree.signableOf C #[[1, 2, 3]] 0)), unflushed := (∅ : Std.HashMap Nat Codec.Node).insert 0 (RefTree.nodeAt C #[[1, 2, 3]] 0 0) }
      File.empty (C.publicKey seed) (C.sign seed (RefTree.signableOf C #[[1, 2, 3]] 0)) := by
  refine ⟨⟨rfl, ?_, rfl⟩, ?_, by decide, by decide, rfl, hS _ _, hV _⟩
  · show [RefTree.nodeAt C #[[1, 2, 3]] 0 0].reverse = (RefTree.rootsStack 1).map _
    rw [rootsStack_one]; rfl
  · intro d o hb
    obtain ⟨rfl, rfl⟩ := span_one hb
    rw [node?_single _ _ rfl (TreeStore.nodeAt_not_blank C hC #[[1, 2, 3]] 0 0)]
    rfl

/-- the proof used below is the writer's: its `create_valueless_proof` for the replica's request returns the same
    fork and nodes, and the value is the writer's block -/
theorem honest_block_is_writers (C : Crypto) (bs : Array Bytes) (tw : Tree) (fw : File) (hT : RefProof.RootsOK C bs tw.changeset)
    (hN : Offsets.NodesOK C bs tw fw) (hs : bs.size < 2 ^ 64) (c : Core) (d : Disk) (held : Nat → Bool)
    (h : Replica.RepR C bs c d held) (hf : c.tree.fork = tw.fork) (i : Nat) (hi : i < bs.size) :
    ∃ nodes, tw.createValuelessProof fw (some ⟨i, c.tree.missingNodes d.tree (2 * i)⟩) none none none
        = .ok ⟨tw.fork, some ⟨i, nodes⟩, none, none, none⟩
      ∧ Replica.honestBlock C bs c d i = ⟨tw.fork, some ⟨i, bs.getD i [], nodes⟩, none, none, none⟩ := by
  obtain ⟨_, hin⟩ := Complete.missingNodes_spec C bs bs.size c.tree d.tree h.closed.sparse hs i hi
  refine ⟨_, Complete.create_block_proof C bs tw fw hT hN hs i _ hi hin, ?_⟩
  simp [Replica.honestBlock, hf]

/-- **C03 at core level: replicas converge to the writer's data.**  A replica that knows nothing applies the writer's
    upgrade answer and then the writer's block answers for the indices `is` — any indices of the log, in any order,
    repetitions allowed.  Every application answers `true`; afterwards the replica reports the writer's length and
    byte length, every fetched block reads back byte-identical to the writer's, and every other index reads as not
    held. -/
theorem replica_converges (C : Crypto) (hC : TreeStore.HashWF C) (bs : Array Bytes) (c : Core) (d : Disk)
    (h : Replica.FreshR C bs c d) (h0 : 0 < bs.size) (sig : Bytes) (hsl : sig.length = 64)
    (hver : C.verify c.publicKey (RefTree.signableOf C bs c.tree.fork) sig = true)
    (is : List Nat) (his : ∀ i ∈ is, i < bs.size) :
    let st1 := c.verifyAndApply C d (Replica.honestUpgrade C bs c.tree.fork sig)
    let s2 := Replica.fetch C bs (st1.core, d.applyAll st1.journal) is
    st1.result = .ok true
      ∧ Replica.fetchResults C bs (st1.core, d.applyAll st1.journal) is = is.map (fun _ => .ok true)
      ∧ s2.1.tree.length = bs.size ∧ s2.1.tree.byteLength = LogSpec.totalBytes bs
      ∧ (∀ j, j ∈ is → (s2.1.getBlock s2.2 j).result = .ok (some (bs.getD j [])))
      ∧ (∀ j, j ∉ is → (s2.1.getBlock s2.2 j).result = .ok none) := by
  intro st1 s2
  obtain ⟨r1, r2, _, _⟩ := Replica.apply_first_upgrade C hC bs c d h h0 sig hsl hver
  obtain ⟨r3, r4⟩ := Replica.fetch_repr C hC bs is _ _ _ r2 his
  refine ⟨r1, r4, r3.closed.sparse.length, by rw [r3.bytes, LiveRefine.psum_total], fun j hj => ?_, fun j hj => ?_⟩
  · exact Replica.get_held C bs _ _ _ r3 j ((Bool.false_or _).trans (List.contains_iff_mem.mpr hj))
  · exact Replica.get_missing C bs _ _ _ r3 j ((Bool.false_or _).trans (Bool.eq_false_iff.mpr (mt List.contains_iff_mem.mp hj)))

/-- non-vacuity: a core with an empty tree, an empty bitfield and hint 0 over empty stores knows nothing -/
example (C : Crypto) (bs : Array Bytes) (hs : bs.size < 2 ^ 64 ∧ Offsets.psum bs bs.size < 2 ^ 64) (c : Core)
    (ht : c.tree = {}) (hb : c.bitfield = {}) (hh : c.header.contiguous = 0) : Replica.FreshR C bs c {} := by
  have hg : ∀ i, c.bitfield.get i = false := by intro i; rw [hb]; rfl
  refine ⟨by rw [ht]; exact ReplicaReopen.sparse_empty C bs, by rw [ht], by rw [ht], ?_, rfl, hg, ?_, hs⟩
  · rw [ht]; intro k n h; simp at h
  · rw [hh]; exact ⟨(fun i hi => by cases hi), hg 0⟩

/-- **C03 at core level with growth rounds.**  First contact at length `n₁`, then any list of acts — upgrades to larger
    lengths of the writer's log, block requests below the current length and hash requests for full nodes inside it
    (`HashReq.apply_hash`: the path is stored, no data, no bitfield change), in any order: every application answers
    `true`; afterwards the replica reports the last length and its byte length, every fetched block reads back
    byte-identical to the writer's, every other index reads as not held. -/
theorem replica_grows (C : Crypto) (hC : TreeStore.HashWF C) (bs : Array Bytes) (hs : bs.size < 2 ^ 64 ∧ Offsets.psum bs bs.size < 2 ^ 64)
    (n₁ : Nat) (h0 : 0 < n₁) (hn : n₁ ≤ bs.size) (c : Core) (d : Disk) (h : Replica.FreshR C (bs.extract 0 n₁) c d)
    (sig : Bytes) (hsl : sig.length = 64) (hver : C.verify c.publicKey (Growth.signableAt C bs n₁ c.tree.fork) sig = true)
    (acts : List HashReq.Act) (hok : HashReq.OkActs C bs c.publicKey c.tree.fork n₁ acts) :
    let st1 := c.verifyAndApply C d (Growth.honestFirst C bs c.tree.fork n₁ sig)
    let s2 := HashReq.play C bs (st1.core, d.applyAll st1.journal) acts
    st1.result = .ok true
      ∧ HashReq.playResults C bs (st1.core, d.applyAll st1.journal) acts = acts.map (fun _ => .ok true)
      ∧ s2.1.tree.length = HashReq.lenAfter n₁ acts ∧ s2.1.tree.byteLength = Offsets.psum bs (HashReq.lenAfter n₁ acts)
      ∧ (∀ j, HashReq.fetched acts j = true → (s2.1.getBlock s2.2 j).result = .ok (some (bs.getD j [])))
      ∧ (∀ j, HashReq.fetched acts j = false → (s2.1.getBlock s2.2 j).result = .ok none) := by
  intro st1 s2
  obtain ⟨r1, r2, r3, r4⟩ := Growth.first_contact_at C hC bs hs n₁ h0 hn c d h sig hsl hver
  obtain ⟨q1, q2⟩ := HashReq.play_repr C hC bs c.publicKey c.tree.fork acts n₁ _ _ _ r2 h0 r4 r3 hok
  exact ⟨r1, q2, q1.closed.sparse.length, q1.bytes, fun j hj => Growth.get_held_at C bs _ _ _ _ q1 j ((Bool.false_or _).trans hj),
    fun j hj => Growth.get_missing_at C bs _ _ _ _ q1 j ((Bool.false_or _).trans hj)⟩

/-- non-vacuity of the acts: for every pair of lengths there is an honest position list -/
example (m n : Nat) (h : m < n) : ∃ us, Growth.Up m 0 (RefTree.rootsStack n).reverse us := Growth.up_exists0 m n h

/-- the upgrade proofs of `replica_grows` are the writer's: a writer whose log is the first `n` blocks answers the request
    "upgrade me from `m`" with exactly `Growth.honestGrowth` -/
theorem honest_growth_is_writers (C : Crypto) (bs : Array Bytes) (n : Nat) (hn : n ≤ bs.size) (hs : bs.size < 2 ^ 64) (tw : Tree) (fw : File)
    (hT : RefProof.RootsOK C (bs.extract 0 n) tw.changeset) (hN : Offsets.NodesOK C (bs.extract 0 n) tw fw)
    (m : Nat) (hm0 : 0 < m) (hmn : m < n) (sig : Bytes) (hsig : tw.signature = some sig)
    (us : List (Nat × Nat)) (hup : Growth.Up m 0 (RefTree.rootsStack n).reverse us) :
    tw.createValuelessProof fw none none none (some ⟨m, n - m⟩)
      = .ok ⟨tw.fork, none, none, none, (Growth.honestGrowth C bs tw.fork m n us sig).upgrade⟩ := by
  have hsz := Growth.size_extract bs n hn
  have := Growth.create_growth_proof C (bs.extract 0 n) tw fw hT hN (by rw [hsz]; exact Nat.lt_of_le_of_lt hn hs) m hm0 (by rw [hsz]; exact hmn) sig hsig us
    (by rw [hsz]; exact hup)
  rw [hsz] at this
  rw [this, ← Growth.honestGrowth_extract C bs n hn tw.fork m us sig hup]
  rfl

/-- the hash proofs of `replica_grows` are the writer's answer to the replica's request -/
theorem honest_hash_is_writers (C : Crypto) (bs : Array Bytes) (tw : Tree) (fw : File) (hT : RefProof.RootsOK C bs tw.changeset)
    (hN : Offsets.NodesOK C bs tw fw) (hs : bs.size < 2 ^ 64) (c : Core) (d : Disk) (held : Nat → Bool)
    (h : Replica.RepR C bs c d held) (hf : c.tree.fork = tw.fork) (d0 o0 : Nat) (hin : (o0 + 1) * 2 ^ d0 ≤ bs.size) :
    ∃ nodes, tw.createValuelessProof fw none (some ⟨Flat.index d0 o0, c.tree.missingNodes d.tree (Flat.index d0 o0)⟩) none none
        = .ok ⟨tw.fork, none, some ⟨Flat.index d0 o0, nodes⟩, none, none⟩
      ∧ HashReq.honestHash C bs c d d0 o0 = ⟨tw.fork, none, some ⟨Flat.index d0 o0, nodes⟩, none, none⟩ := by
  obtain ⟨_, hin', hd0⟩ := HashReq.missingNodes_spec_node C bs bs.size c.tree d.tree h.closed.sparse hs d0 o0 hin
  refine ⟨_, HashReq.create_hash_proof C bs tw fw hT hN hs d0 o0 _ hd0 hin', ?_⟩
  simp [HashReq.honestHash, hf]

/-- **C03 at core level, from creation, across restarts.**  A replica is created with `Hypercore::new` over empty stores
    from the writer's public key alone; first contact at length `n₁`; then any list of acts — upgrades to larger lengths
    of the writer's log, block requests and hash requests inside the current length, and *closing and reopening the
    stores* (`Hypercore::new` with no key pair), in any order.  Every application answers `true`, every reopen succeeds
    (without writing to the stores); at the end the replica reports the last length and its byte length, every fetched
    block reads back byte-identical to the writer's and every other index reads as not held — whatever was fetched
    before a restart is still there after it, and a restarted replica goes on exactly where it stopped. -/
theorem replica_reopens (C : Crypto) (hC : TreeStore.HashWF C) (hT : TreeStore.TreeWF C) (bs : Array Bytes)
    (hs : bs.size < 2 ^ 62 ∧ Offsets.psum bs bs.size < 2 ^ 64) (pk : Bytes) (hpk : pk.length = 32)
    (n₁ : Nat) (h0 : 0 < n₁) (hn : n₁ ≤ bs.size) (sig : Bytes) (hsl : sig.length = 64)
    (hver : C.verify pk (Growth.signableAt C bs n₁ 0) sig = true)
    (acts : List ReplicaReopen.ActR) (hok : HashReq.OkActs C bs pk 0 n₁ (ReplicaReopen.exchanges acts)) :
    ∃ c j, Core.openCore C (some (pk, none)) {} = .ok (c, j) ∧
      let d := ({} : Disk).applyAll j
      let st1 := c.verifyAndApply C d (Growth.honestFirst C bs 0 n₁ sig)
      let s2 := ReplicaReopen.playR C bs (st1.core, d.applyAll st1.journal) acts
      st1.result = .ok true
        ∧ ReplicaReopen.resultsR C bs (st1.core, d.applyAll st1.journal) acts = acts.map (fun _ => .ok true)
        ∧ s2.1.tree.length = HashReq.lenAfter n₁ (ReplicaReopen.exchanges acts)
        ∧ s2.1.tree.byteLength = Offsets.psum bs (HashReq.lenAfter n₁ (ReplicaReopen.exchanges acts))
        ∧ (∀ i, HashReq.fetched (ReplicaReopen.exchanges acts) i = true → (s2.1.getBlock s2.2 i).result = .ok (some (bs.getD i [])))
        ∧ (∀ i, HashReq.fetched (ReplicaReopen.exchanges acts) i = false → (s2.1.getBlock s2.2 i).result = .ok none) := by
  obtain ⟨c, j, e1, e2, e3, e4, e5, e6⟩ := ReplicaReopen.init_replica C pk hpk
  refine ⟨c, j, e1, ?_⟩
  intro d st1 s2
  have hfresh := e4 (bs.extract 0 n₁) (Growth.small_extract bs n₁ hn ⟨Nat.lt_trans hs.1 (by decide), hs.2⟩)
  have hver' : C.verify c.publicKey (Growth.signableAt C bs n₁ c.tree.fork) sig = true := by rw [e2, e3]; exact hver
  obtain ⟨r1, r2, r3, r4⟩ := ReplicaReopen.rp_first C hC hT bs hs n₁ h0 hn c d hfresh ⟨_, _, e5, e6 bs⟩ sig hsl hver'
  rw [e3] at r1 r2 r3 r4
  obtain ⟨q1, q2⟩ := ReplicaReopen.playR_rp C hC hT bs pk 0 acts n₁ _ _ _ r2 h0 (by rw [r3, e2]) r4 hok
  exact ⟨r1, q2, q1.rep.closed.sparse.length, q1.rep.bytes, fun i hi => Growth.get_held_at C bs _ _ _ _ q1.rep i ((Bool.false_or _).trans hi),
    fun i hi => Growth.get_missing_at C bs _ _ _ _ q1.rep i ((Bool.false_or _).trans hi)⟩

/-- non-vacuity: a run with a restart between two fetches meets the hypotheses -/
example (C : Crypto) (bs : Array Bytes) (pk : Bytes) (h : 2 ≤ bs.size) :
    HashReq.OkActs C bs pk 0 2 (ReplicaReopen.exchanges [.act (.fetch 1), .reopen, .act (.hash 1 0), .reopen, .act (.fetch 0)]) := by
  simp only [ReplicaReopen.exchanges, HashReq.OkActs]
  decide

/-- the block section of a created proof names the requested block -/
theorem created_block_index (t : Tree) (f : File) (b : Codec.RequestBlock) (hash : Option Codec.RequestBlock) (seek : Option Codec.RequestSeek)
    (upgrade : Option Codec.RequestUpgrade) (vp : ValuelessProof) (h : t.createValuelessProof f (some b) hash seek upgrade = .ok vp) :
    ∃ ns, vp.block = some ⟨b.index, ns⟩ := by
  obtain ⟨p, hp⟩ := CreateTotal.create_assembled h
  exact CreateTotal.assemble_block hp

/-- **a block that is not held (e.g. cleared by the writer) yields no proof rather than a wrong one**: whatever else the
    request asks for, `create_proof` for a block whose bit is not set answers `None` or an error, never a proof -/
theorem cleared_block_no_proof (c : Core) (d : Disk) (b : Codec.RequestBlock) (hash : Option Codec.RequestBlock) (seek : Option Codec.RequestSeek)
    (upgrade : Option Codec.RequestUpgrade) (hclr : c.bitfield.get b.index = false) (p : Proof) :
    (c.createProof d (some b) hash seek upgrade).result ≠ .ok (some p) := by
  unfold Core.createProof
  cases hv : c.tree.createValuelessProof d.tree (some b) hash seek upgrade with
  | error e => simp
  | ok vp =>
    obtain ⟨ns, hb⟩ := created_block_index c.tree d.tree b hash seek upgrade vp hv
    simp only [hb, Core.getBlock, hclr, Bool.not_false, ite_true]
    simp

/-- … and a proof that *is* created for a block carries exactly what `get` returns for that index (the writer's block,
    by `C01`): the value is not taken from anywhere else -/
theorem created_block_value (c : Core) (d : Disk) (b : Codec.RequestBlock) (hash : Option Codec.RequestBlock) (seek : Option Codec.RequestSeek)
    (upgrade : Option Codec.RequestUpgrade) (p : Proof) (h : (c.createProof d (some b) hash seek upgrade).result = .ok (some p)) :
    ∃ blk, p.block = some blk ∧ blk.index = b.index ∧ (c.getBlock d b.index).result = .ok (some blk.value) := by
  unfold Core.createProof at h
  cases hv : c.tree.createValuelessProof d.tree (some b) hash seek upgrade with
  | error e => rw [hv] at h; simp at h
  | ok vp =>
    obtain ⟨ns, hb⟩ := created_block_index c.tree d.tree b hash seek upgrade vp hv
    rw [hv] at h
    simp only [hb] at h
    cases hg : (c.getBlock d b.index).result with
    | error e => rw [hg] at h; simp at h
    | ok o =>
      cases o with
      | none => rw [hg] at h; simp at h
      | some v =>
        rw [hg] at h
        simp only [] at h
        have := Except.ok.inj h
        have hp := Option.some.inj this
        rw [← hp]
        exact ⟨_, rfl, rfl, rfl⟩

/-- **block + upgrade in one proof (tree level, block below the replica's length).**  For every replica state reached by
    honest replication (`RepRAt`), every block index `i < m` with the node count of the replica's own `missing_nodes`
    query and every upgrade `m → n` of the writer's log: the proof made of the block's bytes, its reference sibling path,
    the honest upgrade nodes and the writer's signature for `n` passes `verify_proof`; the changeset holds the reference
    roots of `n` (`Inv`), is marked upgraded with that signature and is commitable.  (`verify_tree`'s root waits in
    `verify_upgrade`'s queue as its extra node; no upgrade node shares its index — `BlockUpgrade.verifyUpgrade_extra`
    — so it is reported as not consumed and compared with the stored ancestor.)  The application at core level, with the byte
    offset of the block under the merged roots: `block_with_upgrade_applied`; blocks of the new part:
    `honest_new_block_with_upgrade_accepted`. -/
theorem honest_block_with_upgrade_accepted (C : Crypto) (hC : TreeStore.HashWF C) (bs : Array Bytes) (m n : Nat) (c : Core) (d : Disk)
    (held : Nat → Bool) (h : Growth.RepRAt C bs m c d held) (hm0 : 0 < m) (hmn : m < n) (hn : n ≤ bs.size) (us : List (Nat × Nat))
    (hup : Growth.Up m 0 (RefTree.rootsStack n).reverse us) (sig : Bytes) (hsl : sig.length = 64)
    (hver : C.verify c.publicKey (Growth.signableAt C bs n c.tree.fork) sig = true) (i : Nat) (hi : i < m) :
    ∃ cs', c.tree.verifyProof C d.tree
        ⟨c.tree.fork, some ⟨i, bs.getD i [], Complete.sibPath C bs 0 i (c.tree.missingNodes d.tree (2 * i))⟩, none, none,
          some ⟨m, n - m, us.map (fun p => RefTree.nodeAt C bs p.1 p.2), [], sig⟩⟩ c.publicKey = .ok cs'
      ∧ Growth.Inv C bs c.tree d.tree cs' n ∧ cs'.upgraded = true ∧ cs'.signature = some sig ∧ cs'.fork = c.tree.fork
      ∧ c.tree.commitable cs' = true :=
  by
    obtain ⟨cs', h1, h2, h3, h4, h5, h6, _⟩ := BlockUpgrade.honest_old_block_upgrade_accepted C hC bs m n c d held h hm0 hmn hn us hup sig hsl hver i hi
    exact ⟨cs', h1, h2, h3, h4, h5, h6⟩

/-- **block + upgrade in one proof, at core level.**  For every replica state that satisfies the invariants, every block
    index `i < m` and every upgrade `m → n`: `verify_and_apply_proof` on the writer's combined answer returns `true`;
    afterwards the replica shows the first `n` blocks of the writer's log with block `i` held — length, byte length,
    the block's bytes (written at the writer's byte offset, which the replica computes under the *merged* roots:
    `BlockUpgrade.offset_in_upgraded`), `has`, contiguous length — and the invariants hold again (so the step can be
    followed by any other exchange, survives a reopen: `replica_reopens`, and is crash-atomic:
    `C02.replica_blockgrow_crash_atomic`). -/
theorem block_with_upgrade_applied (C : Crypto) (hC : TreeStore.HashWF C) (hT : TreeStore.TreeWF C) (bs : Array Bytes) (m n : Nat) (c : Core) (d : Disk)
    (held : Nat → Bool) (h : ReplicaReopen.RP C bs m c d held) (hm0 : 0 < m) (hmn : m < n) (hn : n ≤ bs.size) (us : List (Nat × Nat))
    (hup : Growth.Up m 0 (RefTree.rootsStack n).reverse us) (sig : Bytes) (hsl : sig.length = 64)
    (hver : C.verify c.publicKey (Growth.signableAt C bs n c.tree.fork) sig = true) (i : Nat) (hi : i < m) :
    let st := c.verifyAndApply C d (BlockGrow.honestBlockGrowth C bs c d i m n us sig)
    st.result = .ok true
      ∧ st.core.tree.length = n ∧ st.core.tree.byteLength = Offsets.psum bs n
      ∧ (st.core.getBlock (d.applyAll st.journal) i).result = .ok (some (bs.getD i []))
      ∧ (∀ j, held j = true → (st.core.getBlock (d.applyAll st.journal) j).result = .ok (some (bs.getD j [])))
      ∧ (∀ j, st.core.has j = (held j || j == i))
      ∧ ReplicaReopen.RP C bs n st.core (d.applyAll st.journal) (fun j => held j || j == i) := by
  intro st
  obtain ⟨r1, r2, _, _⟩ := BlockGrow.rp_blockgrow C hC hT bs m n c d held h hm0 hmn hn us hup sig hsl hver i hi
  have s3 := Growth.get_held_at C bs n _ _ _ r2.rep
  exact ⟨r1, r2.rep.closed.sparse.length, r2.rep.bytes, s3 i (Bool.or_eq_true_iff.mpr (Or.inr (decide_eq_true rfl))),
    fun j hj => s3 j (Bool.or_eq_true_iff.mpr (Or.inl hj)), r2.rep.bits, r2⟩

/-- reference nodes inside the first `n` blocks are the same over the log and over its first `n` blocks -/
theorem map_nodeAt_extract (C : Crypto) (bs : Array Bytes) (n : Nat) (hn : n ≤ bs.size) (l : List (Nat × Nat))
    (hl : ∀ q ∈ l, (q.2 + 1) * 2 ^ q.1 ≤ n) :
    l.map (fun p => RefTree.nodeAt C (bs.extract 0 n) p.1 p.2) = l.map (fun p => RefTree.nodeAt C bs p.1 p.2) :=
  List.map_congr_left fun q hq => Growth.nodeAt_extract C bs n hn q.1 q.2 (hl q hq)

/-- the combined proof of `block_with_upgrade_applied` is the writer's: a writer whose log is the first `n` blocks answers
    the replica's request "block `i` with my `missing_nodes` count, upgrade me from `m`" with exactly those nodes, and the
    value is the writer's block -/
theorem honest_blockgrowth_is_writers (C : Crypto) (bs : Array Bytes) (n : Nat) (hn : n ≤ bs.size) (hs : bs.size < 2 ^ 64) (tw : Tree) (fw : File)
    (hT : RefProof.RootsOK C (bs.extract 0 n) tw.changeset) (hN : Offsets.NodesOK C (bs.extract 0 n) tw fw)
    (m : Nat) (hm0 : 0 < m) (hmn : m < n) (sig : Bytes) (hsig : tw.signature = some sig)
    (us : List (Nat × Nat)) (hup : Growth.Up m 0 (RefTree.rootsStack n).reverse us)
    (c : Core) (d : Disk) (held : Nat → Bool) (h : Growth.RepRAt C bs m c d held) (hf : c.tree.fork = tw.fork) (i : Nat) (hi : i < m) :
    ∃ nodes up, tw.createValuelessProof fw (some ⟨i, c.tree.missingNodes d.tree (2 * i)⟩) none none (some ⟨m, n - m⟩)
        = .ok ⟨tw.fork, some ⟨i, nodes⟩, none, none, some up⟩
      ∧ BlockGrow.honestBlockGrowth C bs c d i m n us sig = ⟨tw.fork, some ⟨i, bs.getD i [], nodes⟩, none, none, some up⟩ := by
  have hsz := Growth.size_extract bs n hn
  have hM : m < 2 ^ 64 := Nat.lt_trans hmn (Nat.lt_of_le_of_lt hn hs)
  obtain ⟨_, hin⟩ := Complete.missingNodes_spec C bs m c.tree d.tree h.closed.sparse hM i hi
  have := BlockGrowWriter.create_blockgrowth_proof C (bs.extract 0 n) tw fw hT hN (by rw [hsz]; exact Nat.lt_of_le_of_lt hn hs) m hm0 (by rw [hsz]; exact hmn) sig hsig us
    (by rw [hsz]; exact hup) i _ hi hin
  rw [hsz] at this
  refine ⟨_, _, this, ?_⟩
  simp only [BlockGrow.honestBlockGrowth, hf]
  rw [Growth.sibPath_extract C bs n hn _ 0 i (by simp only [Nat.zero_add]; exact Nat.le_trans hin (Nat.le_of_lt hmn))]
  rw [map_nodeAt_extract C bs n hn us (Growth.up_bound m n _ 0 us (Offsets.cover_roots n) hup)]

/-- **block of the new part + upgrade in one proof (tree level)** — the usual shape of a download.  For every replica state
    reached by honest replication (`RepRAt` at length `m`), every upgrade `m → n` of the writer's log with its honest
    position list `us`, and every block index `m ≤ i < n`: the block lies under exactly one node `(k, i / 2^k)` of `us`; the
    proof made of the block's bytes, its reference sibling path up to that node, the *other* nodes of `us` and the
    writer's signature for `n` passes `verify_proof` (the block climb recomputes the node, `verify_upgrade` takes it from
    its extra slot exactly when its turn comes and reports it as consumed, so no stored node is compared); the changeset
    holds the reference roots, length and byte length of `n` and the signature, is commitable, records reference nodes
    only, and committing it leaves the replica's tree closed (`ClosedAt`: every stored node below a root has its sibling
    and parent stored).  (The application at core level: `new_block_with_upgrade_applied`.) -/
theorem honest_new_block_with_upgrade_accepted (C : Crypto) (hC : TreeStore.HashWF C) (bs : Array Bytes) (m n : Nat) (c : Core) (d : Disk)
    (held : Nat → Bool) (h : Growth.RepRAt C bs m c d held) (hm0 : 0 < m) (hmn : m < n) (hn : n ≤ bs.size) (us : List (Nat × Nat))
    (hup : Growth.Up m 0 (RefTree.rootsStack n).reverse us) (sig : Bytes) (hsl : sig.length = 64)
    (hver : C.verify c.publicKey (Growth.signableAt C bs n c.tree.fork) sig = true) (i : Nat) (hmi : m ≤ i) (hi : i < n) :
    ∃ (a b : List (Nat × Nat)) (k : Nat) (cs' : Changeset), us = a ++ (k, i / 2 ^ k) :: b ∧ (i / 2 ^ k + 1) * 2 ^ k ≤ n ∧ m ≤ i / 2 ^ k * 2 ^ k
      ∧ c.tree.verifyProof C d.tree
          ⟨c.tree.fork, some ⟨i, bs.getD i [], Complete.sibPath C bs 0 i k⟩, none, none,
            some ⟨m, n - m, (a ++ b).map (fun p => RefTree.nodeAt C bs p.1 p.2), [], sig⟩⟩ c.publicKey = .ok cs'
      ∧ cs'.roots = Growth.rootsAt C bs n ∧ cs'.length = n ∧ cs'.byteLength = Offsets.psum bs n ∧ cs'.upgraded = true
      ∧ cs'.signature = some sig ∧ cs'.fork = c.tree.fork ∧ c.tree.commitable cs' = true
      ∧ (∀ x ∈ cs'.nodes, ∃ dd o, x = RefTree.nodeAt C bs dd o ∧ (o + 1) * 2 ^ dd ≤ n)
      ∧ Growth.ClosedAt C bs n (Growth.vt c.tree cs') d.tree := by
  obtain ⟨a, b, k, cs', h1, h2, h3, h4, h5, h6, h7, h8, h9, h10, h11, h12, h13, _⟩ :=
    BlockNew.honest_new_block_upgrade_accepted C hC bs m n c d held h hm0 hmn hn us hup sig hsl hver i hmi hi
  exact ⟨a, b, k, cs', h1, h2, h3, h4, h5, h6, h7, h8, h9, h10, h11, h12, h13⟩

/-- **a block of the new part + upgrade in one proof, at core level** — the download step.  For every replica state that
    satisfies the invariants (length `m > 0`), every upgrade `m → n` of the writer's log and every block `m ≤ i < n`: the
    block lies under exactly one node `(k, i / 2^k)` of the honest position list (`BlockNew.split_exists`), and for that
    split `verify_and_apply_proof` on the writer's answer to "block `i` and upgrade me to `n`" returns `true`; the block's
    byte offset is computed under the changeset's node list (the block's path, then the upgrade's nodes) and its new roots
    (`BlockNewOffset.offset_new_block`) and is the writer's; one entry carries nodes + upgrade + bitfield update;
    afterwards the replica shows the first `n` blocks of the writer's log with block `i` held, and the invariants hold again
    (so the step reopens, and is crash-atomic: `C02.replica_newblock_crash_atomic`).  With `block_with_upgrade_applied`
    (blocks below `m`) this covers every block + upgrade proof. -/
theorem new_block_with_upgrade_applied (C : Crypto) (hC : TreeStore.HashWF C) (hT : TreeStore.TreeWF C) (bs : Array Bytes) (m n : Nat) (c : Core) (d : Disk)
    (held : Nat → Bool) (h : ReplicaReopen.RP C bs m c d held) (hm0 : 0 < m) (hmn : m < n) (hn : n ≤ bs.size) (us : List (Nat × Nat))
    (hup : Growth.Up m 0 (RefTree.rootsStack n).reverse us) (sig : Bytes) (hsl : sig.length = 64)
    (hver : C.verify c.publicKey (Growth.signableAt C bs n c.tree.fork) sig = true) (i : Nat) (hmi : m ≤ i) (hi : i < n)
    (a b : List (Nat × Nat)) (k : Nat) (hsplit : us = a ++ (k, i / 2 ^ k) :: b) :
    let st := c.verifyAndApply C d (BlockGrowGen.honestNewBlock C bs c.tree.fork i m n a b k sig)
    st.result = .ok true
      ∧ st.core.tree.length = n ∧ st.core.tree.byteLength = Offsets.psum bs n
      ∧ (st.core.getBlock (d.applyAll st.journal) i).result = .ok (some (bs.getD i []))
      ∧ (∀ j, held j = true → (st.core.getBlock (d.applyAll st.journal) j).result = .ok (some (bs.getD j [])))
      ∧ (∀ j, st.core.has j = (held j || j == i))
      ∧ ReplicaReopen.RP C bs n st.core (d.applyAll st.journal) (fun j => held j || j == i) := by
  intro st
  obtain ⟨c1, e, j0, hk⟩ := BlockGrowGen.newblock_ok C hC hT bs m n c d held h hm0 hmn hn us hup sig hsl hver i hmi hi a b k hsplit
  obtain ⟨r1, r2, _, _⟩ := ReplicaReopen.rp_of_ok C bs m n c c1 d held _ _ e j0 h hk
  have s3 := Growth.get_held_at C bs n _ _ _ r2.rep
  exact ⟨r1, r2.rep.closed.sparse.length, r2.rep.bytes, s3 i (Bool.or_eq_true_iff.mpr (Or.inr (decide_eq_true rfl))),
    fun j hj => s3 j (Bool.or_eq_true_iff.mpr (Or.inl hj)), r2.rep.bits, r2⟩

/-- the next block (`i = m`): the live-download step -/
theorem next_block_with_upgrade_applied (C : Crypto) (hC : TreeStore.HashWF C) (hT : TreeStore.TreeWF C) (bs : Array Bytes) (m n : Nat) (c : Core) (d : Disk)
    (held : Nat → Bool) (h : ReplicaReopen.RP C bs m c d held) (hm0 : 0 < m) (hmn : m < n) (hn : n ≤ bs.size) (us : List (Nat × Nat))
    (hup : Growth.Up m 0 (RefTree.rootsStack n).reverse us) (sig : Bytes) (hsl : sig.length = 64)
    (hver : C.verify c.publicKey (Growth.signableAt C bs n c.tree.fork) sig = true)
    (a b : List (Nat × Nat)) (k : Nat) (hsplit : us = a ++ (k, m / 2 ^ k) :: b) :
    let st := c.verifyAndApply C d (BlockGrowGen.honestNextBlock C bs c.tree.fork m n a b k sig)
    st.result = .ok true
      ∧ st.core.tree.length = n ∧ st.core.tree.byteLength = Offsets.psum bs n
      ∧ (st.core.getBlock (d.applyAll st.journal) m).result = .ok (some (bs.getD m []))
      ∧ (∀ j, held j = true → (st.core.getBlock (d.applyAll st.journal) j).result = .ok (some (bs.getD j [])))
      ∧ (∀ j, st.core.has j = (held j || j == m))
      ∧ ReplicaReopen.RP C bs n st.core (d.applyAll st.journal) (fun j => held j || j == m) :=
  new_block_with_upgrade_applied C hC hT bs m n c d held h hm0 hmn hn us hup sig hsl hver m (Nat.le_refl _) hmn a b k hsplit

/-- non-vacuity of the split: every block of the new part lies under exactly one node of the honest position list -/
example (m n : Nat) (us : List (Nat × Nat)) (hup : Growth.Up m 0 (RefTree.rootsStack n).reverse us) (i : Nat) (hmi : m ≤ i) (hi : i < n) :
    ∃ (a b : List (Nat × Nat)) (k : Nat), us = a ++ (k, i / 2 ^ k) :: b := BlockNew.split_exists m n us hup i hmi hi

/-- non-vacuity of the split -/
example (m n : Nat) (hmn : m < n) (us : List (Nat × Nat)) (hup : Growth.Up m 0 (RefTree.rootsStack n).reverse us) :
    ∃ (a b : List (Nat × Nat)) (k : Nat), us = a ++ (k, m / 2 ^ k) :: b := BlockGrowGen.nextblock_split m n hmn us hup

/-- the proof of `new_block_with_upgrade_applied` is the writer's: a writer whose log is the first `n` blocks answers the request
    "block `i` (`m ≤ i < n`, any node count) and upgrade me from `m`" with exactly `BlockGrowGen.honestNewBlock` — the block with its
    reference sibling path up to the node of the honest position list that holds it, the other nodes of that list, and
    its signature -/
theorem honest_newblock_is_writers (C : Crypto) (bs : Array Bytes) (n : Nat) (hn : n ≤ bs.size) (hs : bs.size < 2 ^ 64) (tw : Tree) (fw : File)
    (hT : RefProof.RootsOK C (bs.extract 0 n) tw.changeset) (hN : Offsets.NodesOK C (bs.extract 0 n) tw fw)
    (m : Nat) (hm0 : 0 < m) (hmn : m < n) (sig : Bytes) (hsig : tw.signature = some sig)
    (us : List (Nat × Nat)) (hup : Growth.Up m 0 (RefTree.rootsStack n).reverse us) (i nn : Nat) (hmi : m ≤ i) (hi : i < n)
    (a b : List (Nat × Nat)) (k : Nat) (hsplit : us = a ++ (k, i / 2 ^ k) :: b) :
    ∃ nodes up, tw.createValuelessProof fw (some ⟨i, nn⟩) none none (some ⟨m, n - m⟩) = .ok ⟨tw.fork, some ⟨i, nodes⟩, none, none, some up⟩
      ∧ BlockGrowGen.honestNewBlock C bs tw.fork i m n a b k sig = ⟨tw.fork, some ⟨i, bs.getD i [], nodes⟩, none, none, some up⟩ := by
  have hsz := Growth.size_extract bs n hn
  have hmem : (k, i / 2 ^ k) ∈ us := by rw [hsplit]; simp
  have hb := Growth.up_bound m n _ 0 us (Offsets.cover_roots n) hup _ hmem
  simp only at hb
  have := NewBlockWriter.create_newblock_proof C (bs.extract 0 n) tw fw hT hN (by rw [hsz]; exact Nat.lt_of_le_of_lt hn hs) m hm0 (by rw [hsz]; exact hmn) sig hsig us
    (by rw [hsz]; exact hup) i nn hmi a b k hsplit
  rw [hsz] at this
  refine ⟨_, _, this, ?_⟩
  simp only [BlockGrowGen.honestNewBlock]
  rw [Growth.sibPath_extract C bs n hn _ 0 i (by simp only [Nat.zero_add]; exact hb)]
  have hsub : ∀ q ∈ a ++ b, q ∈ us := by
    intro q hq
    rw [hsplit]
    rcases List.mem_append.mp hq with h | h
    · exact List.mem_append.mpr (Or.inl h)
    · exact List.mem_append.mpr (Or.inr (List.mem_cons_of_mem _ h))
  rw [map_nodeAt_extract C bs n hn (a ++ b) (fun q hq => Growth.up_bound m n _ 0 us (Offsets.cover_roots n) hup q (hsub q hq))]

end HC.C03
