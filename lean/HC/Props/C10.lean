import HC.Props.C02
/-!
# C10 — a storage error surfaces as an error and is recoverable by reopening

In the model every operation returns the journal of storage operations it issues, in issue order.
A single I/O error at the `k`-th of them means: the first `k` reached the disk, the call stops and
answers with an error (`FaultOutcome`).

* `fault_is_crash`    : the disk after a fault at `k` is exactly the disk after a crash before the
  `k`-th operation (`Disk.applyAll (journal.take k)`) — so everything C02 proves about crash points
  (the oplog commit protocol: `C02.reopen_exact`, `C02.flush_atomic`) applies verbatim;
* `fault_prefix_step` : fault points are ordered: the state at `k+1` is the state at `k` plus one operation;
* `fault_before_any`  : a fault at the first operation leaves the disk untouched;
* `no_fault_complete` : a position beyond the journal is no fault: every operation reaches the disk.

* `fault_recovers`    : hence, for a writer core after any history of calls and reopen steps, a fault at any storage
  operation of any further append_batch / clear / make_read_only / read leaves stores on which `Hypercore::new`
  succeeds and yields a core that represents the log before the failed call or the log after it
  (`C02.crash_atomic` applied to the fault's disk) — the write path, on the model;
* `replica_fault_recovers`, `replica_blockgrow_fault_recovers` : the same for a proof application on a replica
  (`C02.replica_crash_atomic`, `C02.replica_blockgrow_crash_atomic` applied to the fault's disk).

Partial: that the Rust really stops issuing operations after the failing one and maps the error
instead of panicking (`flush_infos`, `map_random_access_err`, the `?` after every call) is modelled
glue; the run injects one error at every storage operation (writes, deletes, truncates, reads and
length queries, during calls and during open) of every call of every history and checks: the call
returns an error, never a panic or hang, and drop + reopen shows exactly the state the crash
enumeration (compared with this model) predicts for that prefix.
-/
namespace HC.C10
open HC

structure FaultOutcome where
  disk : Disk
  failed : Bool

def withFault (d : Disk) (journal : List SOp) (k : Nat) : FaultOutcome :=
  if k < journal.length then ⟨d.applyAll (journal.take k), true⟩ else ⟨d.applyAll journal, false⟩

theorem withFault_disk (d : Disk) (journal : List SOp) (k : Nat) : (withFault d journal k).disk = d.applyAll (journal.take k) := by
  unfold withFault
  split
  · rfl
  · rename_i h
    rw [List.take_of_length_le (Nat.le_of_not_lt h)]

theorem fault_is_crash (d : Disk) (journal : List SOp) (k : Nat) (hk : k < journal.length) :
    (withFault d journal k).disk = d.applyAll (journal.take k) ∧ (withFault d journal k).failed = true :=
  ⟨withFault_disk d journal k, by rw [withFault, if_pos hk]⟩

theorem fault_prefix_step (d : Disk) (journal : List SOp) (k : Nat) (hk : k < journal.length) :
    d.applyAll (journal.take (k + 1)) = (d.applyAll (journal.take k)).apply journal[k] := by
  rw [List.take_succ_eq_append_getElem hk, Journal.applyAll_append]
  rfl

theorem fault_before_any (d : Disk) (journal : List SOp) (h : 0 < journal.length) :
    (withFault d journal 0).disk = d := by
  rw [withFault, if_pos h]; rfl

theorem no_fault_complete (d : Disk) (journal : List SOp) (k : Nat) (hk : journal.length ≤ k) :
    (withFault d journal k).disk = d.applyAll journal ∧ (withFault d journal k).failed = false :=
  ⟨by rw [withFault_disk, List.take_of_length_le hk], by rw [withFault, if_neg (Nat.not_lt_of_le hk)]⟩

section Model
open HC.LogSpec HC.LiveRefine HC.TreeStore HC.Persist HC.C01

/-- a fault at the `k`-th storage operation of a call, after any history: reopening recovers the log before
    the call or the log after it -/
theorem fault_recovers (C : Crypto) (hC : HashWF C) (hS : SignWF C) (hTw : TreeWF C) (pk sk : Bytes)
    (hpk : pk.length = 32) (hsk : sk.length = 32) (steps : List HStep) (hok : AllOK {} steps) (op : Op)
    (hv : Valid (runA' {} steps).1 op) (hl : Limits (runA' {} steps).1 op) (k : Nat) :
    ∃ c j, Core.openCore C (some (pk, some sk)) {} = .ok (c, j) ∧
      ∃ c' jo, Core.openCore C none (withFault (runC' C (c, ({} : Disk).applyAll j) steps).1.2
            (journalC C (runC' C (c, ({} : Disk).applyAll j) steps).1 op) k).disk = .ok (c', jo)
        ∧ (Rep C c' ((withFault (runC' C (c, ({} : Disk).applyAll j) steps).1.2
              (journalC C (runC' C (c, ({} : Disk).applyAll j) steps).1 op) k).disk.applyAll jo) (runA' {} steps).1
          ∨ Rep C c' ((withFault (runC' C (c, ({} : Disk).applyAll j) steps).1.2
              (journalC C (runC' C (c, ({} : Disk).applyAll j) steps).1 op) k).disk.applyAll jo) ((runA' {} steps).1.step op).1) := by
  obtain ⟨c, j, h1, c', jo, h2, h3⟩ := C02.crash_atomic C hC hS hTw pk sk hpk hsk steps hok op hv hl k
  refine ⟨c, j, h1, c', jo, ?_⟩
  rw [withFault_disk]
  exact ⟨h2, h3⟩

end Model

/-- **a storage error during a proof application on a replica**: for every replica state that satisfies the invariants
    (every state of `C02.replica_survives_crashes`), every honest act and every position `k` of the failing storage
    operation, dropping the instance and reopening the stores succeeds and shows the replica before the application or
    after it, with the invariants re-established -/
theorem replica_fault_recovers (C : Crypto) (hC : TreeStore.HashWF C) (hT : TreeStore.TreeWF C) (bs : Array Bytes) (m : Nat) (c : Core) (d : Disk)
    (held : Nat → Bool) (h : ReplicaReopen.RP C bs m c d held) (hm0 : 0 < m) (a : HashReq.Act)
    (hok : HashReq.OkActs C bs c.publicKey c.tree.fork m [a]) (k : Nat) :
    let df := (withFault d (c.verifyAndApply C d (HashReq.actProof C bs c d a)).journal k).disk
    ∃ c' j, Core.openCore C none df = .ok (c', j) ∧ c'.publicKey = c.publicKey
      ∧ ((C02.Shows bs m held c' (df.applyAll j) ∧ ReplicaReopen.RP C bs m c' (df.applyAll j) held)
        ∨ (C02.Shows bs (HashReq.lenAfter m [a]) (fun i => held i || HashReq.fetched [a] i) c' (df.applyAll j)
            ∧ ReplicaReopen.RP C bs (HashReq.lenAfter m [a]) c' (df.applyAll j) (fun i => held i || HashReq.fetched [a] i))) := by
  intro df
  obtain ⟨c', j, r1, r2, _, r4⟩ := C02.replica_crash_atomic C hC hT bs m c d held h hm0 a hok k
  rw [← withFault_disk] at r1 r4
  exact ⟨c', j, r1, r2, r4⟩

/-- the same for a proof that carries a block below the replica's length and an upgrade -/
theorem replica_blockgrow_fault_recovers (C : Crypto) (hC : TreeStore.HashWF C) (hT : TreeStore.TreeWF C) (bs : Array Bytes) (m n : Nat) (c : Core) (d : Disk)
    (held : Nat → Bool) (h : ReplicaReopen.RP C bs m c d held) (hm0 : 0 < m) (hmn : m < n) (hn : n ≤ bs.size) (us : List (Nat × Nat))
    (hup : Growth.Up m 0 (RefTree.rootsStack n).reverse us) (sig : Bytes) (hsl : sig.length = 64)
    (hver : C.verify c.publicKey (Growth.signableAt C bs n c.tree.fork) sig = true) (i : Nat) (hi : i < m) (k : Nat) :
    let df := (withFault d (c.verifyAndApply C d (BlockGrow.honestBlockGrowth C bs c d i m n us sig)).journal k).disk
    ∃ c' j, Core.openCore C none df = .ok (c', j) ∧ c'.publicKey = c.publicKey
      ∧ ((C02.Shows bs m held c' (df.applyAll j) ∧ ReplicaReopen.RP C bs m c' (df.applyAll j) held)
        ∨ (C02.Shows bs n (fun j => held j || j == i) c' (df.applyAll j)
            ∧ ReplicaReopen.RP C bs n c' (df.applyAll j) (fun j => held j || j == i))) := by
  intro df
  obtain ⟨c', j, r1, r2, _, r4⟩ := C02.replica_blockgrow_crash_atomic C hC hT bs m n c d held h hm0 hmn hn us hup sig hsl hver i hi k
  rw [← withFault_disk] at r1 r4
  exact ⟨c', j, r1, r2, r4⟩

end HC.C10
