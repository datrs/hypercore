import HC.Proofs.CodecMsgs
/-!
# C11 — wire messages round-trip exactly and match the compact-encoding spec

For each protocol type `T ∈ {Node, RequestBlock, RequestSeek, RequestUpgrade, DataBlock, DataHash,
DataSeek, DataUpgrade}` and every well-formed value (integers `< 2^64`, hashes 32 bytes) one theorem (`node`,
`requestBlock`, …) of type `Holds enc dec size v`, whose fields are:

* `roundtrip`    : `dec (enc v ++ r) = some (v, r)` — decoding yields the original value and
  leaves exactly the bytes that followed (`exact` is the case `r = []`: nothing left over);
* `size`         : `(enc v).length = size v` — encoding writes exactly the announced number of bytes;
* `strictPrefix` : every strict prefix of `enc v` decodes to an error;
* "compact-encoding of the fields in protocol order" is the *definition* of `enc` in
  `HC/Model/Codec.lean` (written from the compact-encoding spec, compared byte-for-byte with the
  crate by the correspondence run).

No theorem here is bounded: lists of nodes and byte strings have arbitrary length.
-/
namespace HC.C11
open HC.Codec

/-- A decoder/encoder pair satisfies C11 on a value. -/
structure Holds {α : Type} (enc : α → Bytes) (dec : Bytes → Option (α × Bytes)) (size : α → Nat) (v : α) : Prop where
  roundtrip : ∀ r, dec (enc v ++ r) = some (v, r)
  exact : dec (enc v) = some (v, [])
  size : (enc v).length = size v
  strictPrefix : ∀ q s, s ≠ [] → q ++ s = enc v → dec q = none

private theorem mk {α : Type} {enc : α → Bytes} {dec : Bytes → Option (α × Bytes)} {size : α → Nat} {v : α}
    (rt : ∀ r, dec (enc v ++ r) = some (v, r)) (sz : (enc v).length = size v)
    (mono : Mono dec) : Holds enc dec size v :=
  have ex : dec (enc v) = some (v, []) := by simpa using rt []
  ⟨rt, ex, sz, fun q s hs h => prefix_none dec (enc v) v ex mono q s hs h⟩

theorem node (v : Node) (h : v.WF) : Holds encNode decNode sizeNode v :=
  mk (decNode_encNode v h) (encNode_length v h) decNode_mono

theorem requestBlock (v : RequestBlock) (h : v.WF) : Holds encRequestBlock decRequestBlock sizeRequestBlock v :=
  mk (decRequestBlock_enc v h) (encRequestBlock_length v) decRequestBlock_mono

theorem requestSeek (v : RequestSeek) (h : v.WF) : Holds encRequestSeek decRequestSeek sizeRequestSeek v :=
  mk (decRequestSeek_enc v h) (encRequestSeek_length v) decRequestSeek_mono

theorem requestUpgrade (v : RequestUpgrade) (h : v.WF) :
    Holds encRequestUpgrade decRequestUpgrade sizeRequestUpgrade v :=
  mk (decRequestUpgrade_enc v h) (encRequestUpgrade_length v) decRequestUpgrade_mono

theorem dataBlock (v : DataBlock) (h : v.WF) : Holds encDataBlock decDataBlock sizeDataBlock v :=
  mk (decDataBlock_enc v h) (encDataBlock_length v h) decDataBlock_mono

theorem dataHash (v : DataHash) (h : v.WF) : Holds encDataHash decDataHash sizeDataHash v :=
  mk (decDataHash_enc v h) (encDataHash_length v h) decDataHash_mono

theorem dataSeek (v : DataSeek) (h : v.WF) : Holds encDataSeek decDataSeek sizeDataSeek v :=
  mk (decDataSeek_enc v h) (encDataSeek_length v h) decDataSeek_mono

theorem dataUpgrade (v : DataUpgrade) (h : v.WF) : Holds encDataUpgrade decDataUpgrade sizeDataUpgrade v :=
  mk (decDataUpgrade_enc v h) (encDataUpgrade_length v h) decDataUpgrade_mono

/-! Non-vacuity: concrete non-trivial values meet the hypotheses, at varint boundaries. -/
example : (⟨65536, 2^64 - 1, List.replicate 32 7⟩ : Node).WF := by decide
example : (⟨253, 2^32, [⟨0, 252, List.replicate 32 1⟩, ⟨2^32 - 1, 65535, List.replicate 32 0⟩], [],
    List.replicate 64 9⟩ : DataUpgrade).WF := by decide
example : (⟨4, [1, 2, 3], [⟨10, 3, List.replicate 32 1⟩]⟩ : DataBlock).WF := by decide

/-! The uint encoding is the compact-encoding varint: spot values at every width (tests, labelled as such). -/
example : encUint 252 = [252] := by decide
example : encUint 253 = [0xfd, 253, 0] := by decide
example : encUint 65536 = [0xfe, 0, 0, 1, 0] := by decide
example : encUint (2^32) = [0xff, 0, 0, 0, 0, 1, 0, 0, 0] := by decide

end HC.C11
