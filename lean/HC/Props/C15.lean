import HC.Generated
/-!
# C15 — a shared core is linearizable under concurrent tasks

Abstract model of `SharedCore`: a state `σ` behind a mutex, calls `κ` with a deterministic semantics
`step : σ → κ → σ × ρ`, tasks that each run a list of calls, every call having the shape
*acquire the lock – `body c` preemptible steps while holding it – release* (the shape of every trait
method of `SharedCore`, which the bridging lemma `shape` re-checks against the source on every run).
A schedule is an arbitrary list of task choices; choosing a task that waits for a held lock is a
no-op (it stays blocked), choosing the holder advances its body by one step.

* `mutex_linearizable` : for **every** schedule, the shared state equals the sequential execution of
  the completed calls in lock order (`log`), every task's results are the results those calls return
  in that sequential execution, and every task's calls appear in `log` in program order.  In particular no call
  observes a partially applied call: the state a call runs on is a state of that sequential execution.

Partial in the sense of the brief: the model cannot exhibit what `async-lock` or the executor do at
run time; the run drives the real `SharedCore` with a deterministic scheduler that preempts at every
storage operation and lock acquisition and checks linearizability of the observed results.
-/
namespace HC.C15

variable {σ κ ρ : Type}

structure TaskSt (κ ρ : Type) where
  todo : List κ
  /-- `some k`: holds the lock, `k` body steps left before it releases -/
  holding : Option Nat
  results : List ρ

structure Conf (σ κ ρ : Type) where
  state : σ
  tasks : Nat → TaskSt κ ρ
  /-- completed calls, in lock (= completion) order -/
  log : List (Nat × κ)
  holder : Option Nat

def upd (f : Nat → TaskSt κ ρ) (i : Nat) (v : TaskSt κ ρ) : Nat → TaskSt κ ρ := fun j => if j = i then v else f j

/-- one scheduling decision: task `i` is polled -/
def sched (step : σ → κ → σ × ρ) (body : κ → Nat) (c : Conf σ κ ρ) (i : Nat) : Conf σ κ ρ :=
  let t := c.tasks i
  match t.holding with
  | some (k+1) => { c with tasks := upd c.tasks i { t with holding := some k } }
  | some 0 =>
    (match t.todo with
     | call :: rest =>
       { state := (step c.state call).1, tasks := upd c.tasks i ⟨rest, none, t.results ++ [(step c.state call).2]⟩,
         log := c.log ++ [(i, call)], holder := none }
     | [] => c)
  | none =>
    (match t.todo, c.holder with
     | call :: _, none => { c with tasks := upd c.tasks i { t with holding := some (body call) }, holder := some i }
     | _, _ => c)

/-- sequential execution of a log: final state and the results, tagged with the task -/
def seqRun (step : σ → κ → σ × ρ) (s : σ) : List (Nat × κ) → σ × List (Nat × ρ)
  | [] => (s, [])
  | (i, c) :: rest =>
    let r := seqRun step (step s c).1 rest
    (r.1, (i, (step s c).2) :: r.2)

def resultsOf (i : Nat) (l : List (Nat × ρ)) : List ρ := l.filterMap fun p => if p.1 = i then some p.2 else none
def callsOf (i : Nat) (l : List (Nat × κ)) : List κ := l.filterMap fun p => if p.1 = i then some p.2 else none

theorem seqRun_append (step : σ → κ → σ × ρ) (s : σ) (l : List (Nat × κ)) (i : Nat) (c : κ) :
    seqRun step s (l ++ [(i, c)]) =
      ((step (seqRun step s l).1 c).1, (seqRun step s l).2 ++ [(i, (step (seqRun step s l).1 c).2)]) := by
  induction l generalizing s with
  | nil => simp [seqRun]
  | cons p ps ih =>
    obtain ⟨j, d⟩ := p
    simp [seqRun, ih]

structure Inv (step : σ → κ → σ × ρ) (s0 : σ) (prog : Nat → List κ) (c : Conf σ κ ρ) : Prop where
  state : c.state = (seqRun step s0 c.log).1
  results : ∀ i, (c.tasks i).results = resultsOf i (seqRun step s0 c.log).2
  order : ∀ i, callsOf i c.log ++ (c.tasks i).todo = prog i
  exclusive : ∀ i, (c.tasks i).holding.isSome → c.holder = some i
  holderHolds : ∀ i, c.holder = some i → (c.tasks i).holding.isSome ∧ (c.tasks i).todo ≠ []

theorem resultsOf_append (i j : Nat) (l : List (Nat × ρ)) (r : ρ) :
    resultsOf i (l ++ [(j, r)]) = resultsOf i l ++ (if j = i then [r] else []) := by
  simp [resultsOf, List.filterMap_append]
  split <;> simp_all

theorem callsOf_append (i j : Nat) (l : List (Nat × κ)) (c : κ) :
    callsOf i (l ++ [(j, c)]) = callsOf i l ++ (if j = i then [c] else []) := by
  simp [callsOf, List.filterMap_append]
  split <;> simp_all

theorem upd_same (f : Nat → TaskSt κ ρ) (i : Nat) (v : TaskSt κ ρ) : upd f i v i = v := if_pos rfl

theorem upd_ne (f : Nat → TaskSt κ ρ) (i : Nat) (v : TaskSt κ ρ) {j : Nat} (h : j ≠ i) : upd f i v j = f j := if_neg h

theorem forall_upd {P : Nat → TaskSt κ ρ → Prop} (f : Nat → TaskSt κ ρ) (i : Nat) (v : TaskSt κ ρ) (hi : P i v)
    (hj : ∀ j, j ≠ i → P j (f j)) : ∀ j, P j (upd f i v j) := by
  intro j
  by_cases h : j = i
  · rw [h, upd_same]; exact hi
  · rw [upd_ne f i v h]; exact hj j h

theorem sched_inv (step : σ → κ → σ × ρ) (body : κ → Nat) (s0 : σ) (prog : Nat → List κ) (c : Conf σ κ ρ)
    (h : Inv step s0 prog c) (i : Nat) : Inv step s0 prog (sched step body c i) := by
  obtain ⟨hs, hr, ho, hx, hh⟩ := h
  unfold sched
  dsimp only
  cases hhold : (c.tasks i).holding with
  | some k =>
    have hhi : c.holder = some i := hx i (by rw [hhold]; rfl)
    cases k with
    | succ k =>
      -- a body step: nothing observable changes
      dsimp only
      refine ⟨hs, forall_upd (P := fun j t => t.results = resultsOf j _) _ _ _ (hr i) fun j _ => hr j,
        forall_upd (P := fun j t => callsOf j _ ++ t.todo = prog j) _ _ _ (ho i) fun j _ => ho j,
        forall_upd (P := fun j t => t.holding.isSome → c.holder = some j) _ _ _ (fun _ => hhi) fun j _ => hx j,
        fun j hj => ?_⟩
      obtain rfl : i = j := Option.some.inj (hhi.symm.trans hj)
      dsimp only
      rw [upd_same]
      exact ⟨rfl, (hh i hj).2⟩
    | zero =>
      -- release: the call takes effect
      cases htodo : (c.tasks i).todo with
      | nil => exact ⟨hs, hr, ho, hx, hh⟩
      | cons call rest =>
        dsimp only
        have hoi := ho i
        rw [htodo] at hoi
        refine ⟨by rw [seqRun_append, hs], ?_, ?_, ?_, fun j hj => nomatch hj⟩
        · refine forall_upd (P := fun j t => t.results = resultsOf j _) _ _ _ ?_ fun j hj => ?_
          · rw [seqRun_append, resultsOf_append, if_pos rfl, hr i, hs]
          · rw [seqRun_append, resultsOf_append, if_neg (Ne.symm hj), List.append_nil, hr j]
        · refine forall_upd (P := fun j t => callsOf j _ ++ t.todo = prog j) _ _ _ ?_ fun j hj => ?_
          · rw [callsOf_append, if_pos rfl, List.append_assoc]; exact hoi
          · rw [callsOf_append, if_neg (Ne.symm hj), List.append_nil]; exact ho j
        · refine forall_upd (P := fun j t => t.holding.isSome → none = some j) _ _ _ (fun h => nomatch h) fun j hj hj2 => ?_
          exact absurd (Option.some.inj ((hx j hj2).symm.trans hhi)) hj
  | none =>
    cases htodo : (c.tasks i).todo with
    | nil => exact ⟨hs, hr, ho, hx, hh⟩
    | cons call rest =>
      cases hhol : c.holder with
      | some h => exact ⟨hs, hr, ho, hx, hh⟩
      | none =>
        -- acquire
        dsimp only
        refine ⟨hs, forall_upd (P := fun j t => t.results = resultsOf j _) _ _ _ (hr i) fun j _ => hr j,
          forall_upd (P := fun j t => callsOf j _ ++ t.todo = prog j) _ _ _ (htodo ▸ ho i) fun j _ => ho j,
          forall_upd (P := fun j t => t.holding.isSome → some i = some j) _ _ _ (fun _ => rfl) fun j _ hj2 => ?_,
          fun j hj => ?_⟩
        · exact absurd ((hx j hj2).symm.trans hhol) (fun h => nomatch h)
        · obtain rfl : i = j := Option.some.inj hj
          dsimp only
          rw [upd_same]
          exact ⟨rfl, List.cons_ne_nil _ _⟩

def init (s0 : σ) (prog : Nat → List κ) : Conf σ κ ρ :=
  { state := s0, tasks := fun i => ⟨prog i, none, []⟩, log := [], holder := none }

theorem init_inv (step : σ → κ → σ × ρ) (s0 : σ) (prog : Nat → List κ) : Inv step s0 prog (init (ρ := ρ) s0 prog) :=
  ⟨rfl, fun _ => rfl, fun _ => by simp [init, callsOf], fun _ h => by simp [init] at h, fun _ h => by simp [init] at h⟩

/-- **C15.** For any deterministic `step`, any programs, any body lengths and **any** schedule, the
    configuration reached is explained by the sequential execution of the completed calls in lock
    order: same state, same per-task results, program order respected. -/
theorem mutex_linearizable (step : σ → κ → σ × ρ) (body : κ → Nat) (s0 : σ) (prog : Nat → List κ) (schedule : List Nat) :
    let c := schedule.foldl (sched step body) (init s0 prog)
    c.state = (seqRun step s0 c.log).1
      ∧ (∀ i, (c.tasks i).results = resultsOf i (seqRun step s0 c.log).2)
      ∧ (∀ i, callsOf i c.log ++ (c.tasks i).todo = prog i) := by
  have key : ∀ (l : List Nat) (c : Conf σ κ ρ), Inv step s0 prog c → Inv step s0 prog (l.foldl (sched step body) c) := by
    intro l
    induction l with
    | nil => intro c h; exact h
    | cons i is ih => intro c h; exact ih _ (sched_inv step body s0 prog c h i)
  have := key schedule _ (init_inv step s0 prog)
  exact ⟨this.state, this.results, this.order⟩

/-- non-vacuity: two tasks appending to a list under a schedule that interleaves them -/
def demo : Conf (List Nat) Nat Nat :=
  [0, 1, 0, 1, 0, 1, 1, 1].foldl (sched (fun (s : List Nat) (k : Nat) => (s ++ [k], s.length + 1)) (fun _ => 1))
    (init [] (fun i => if i = 0 then [10] else if i = 1 then [20] else []))
example : demo.state = [10, 20] ∧ (demo.tasks 0).results = [1] ∧ (demo.tasks 1).results = [2] := by decide

/-- `shape`: every method of `impl … for SharedCore` takes the lock exactly once and makes exactly one
    inner call, the method of the same name (extracted from src/replication/shared_core.rs).  A row is (method,
    `.lock().await` count, `.await` count, inner calls); at most 2 awaits: the lock and the inner call if it is async. -/
theorem shape : ∀ m ∈ HC.Generated.shared_methods, m.2.1 = 1 ∧ m.2.2.1 ≤ 2 ∧ m.2.2.2 = [m.1] := by decide

/-- `shape_exclusive`: no method touches the shared state other than through that one guard — no call
    of another wrapper method (which would take the lock a second time), no `try_lock`/owned lock
    variant, no clone of the `Arc`, no explicit `drop` of the guard, nothing spawned. -/
theorem shape_exclusive : ∀ m ∈ HC.Generated.shared_other_access, m.2 = 0 := by decide

theorem shape_exclusive_covers : HC.Generated.shared_other_access.map (·.1) = HC.Generated.shared_methods.map (·.1) := rfl

theorem shape_covers : (HC.Generated.shared_methods.map (·.1)) =
    ["info", "key_pair", "verify_and_apply_proof", "missing_nodes", "create_proof", "event_subscribe", "has", "get",
     "append", "append_batch"] := rfl

end HC.C15
