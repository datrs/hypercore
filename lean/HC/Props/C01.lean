import HC.Proofs.Frame
import HC.Proofs.Bitfield
import HC.Proofs.LiveRefine
import HC.Proofs.Reopen
import HC.Proofs.Persist
/-!
# C01 — log contents equal an append-only list model, across close and reopen

**`live_refinement`** (unbounded, every crypto record with 32-byte non-zero digests): starting from a
freshly created core (`created`) — or any state satisfying the representation invariant `Rep` —
**every** sequence of `append_batch` / `clear` / `get` / `has` / `info` / `make_read_only` calls on the model of the crate
(memory state + the four stores, each call's journal applied to the disk) yields exactly the
observations of the abstract log `LogSpec.Abs` (block list + held set): lengths and byte lengths of
appends, block bytes of reads (`None` exactly for blocks that are not held), `has`, and
`info().contiguous_length` = the first missing index; and `Rep` holds again afterwards.  `Rep` says:
roots = reference roots, node lookup (unflushed map, then the tree store) = reference tree, bitfield =
held set, hint = first missing index, every held block's bytes sit in the data store at the
prefix-sum offset.  The flush cadence (every fourth operation / 64 KiB) is inside the model, so the
theorem covers histories in which nodes move from memory to the store at arbitrary points.

**`history_then_reopen`** / **`reopen_then_continue`**: after any such history (within the size limits of
the on-disk formats: fewer than 2^62 blocks, batches below 2^20 blocks, 32-byte key and seed, 64-byte
signatures, 32-byte digests), `Hypercore::new` on the four stores yields a core that represents the same
abstract log, and every further call behaves like the abstract log again.  The proof composes the oplog's
commit protocol (`Rotation.Inv`) with its byte layout (`OplogBytes`: `Oplog::open` on the bytes = the
reader's rule on the abstraction; appends and flushes keep the abstraction), the flushed stores (`Persist`:
bitfield pages decode to the bits in memory, tree slots hold the reference nodes) and the replay
(`Reopen`: `full_roots` = reference roots, `truncate` + commit rebuild the roots).

**`full_refinement`** (an instance of `full_refinement_from`) is the statement for the property: for every history of
calls with any number of close-and-reopen steps in between, from a freshly created core, the observations are
those of the abstract log.

So C01 is proved for the model in full: create, any calls, close, reopen, any calls.  What ties the model
to the Rust is the correspondence run.  The format-level components are stated on their own as well:

* `entry_reopen`   : every log entry the crate can write (any combination of the four sections)
  decodes to itself, whatever follows it in the file;
* `header_reopen`  : every header decodes to itself;
* `frame_reopen`   : the checksummed leader yields payload and both bits back;
* `held_after`     : range updates of the held set (append = set, clear = drop) are exact.

`refines_partial` (two entries read back in sequence) is subsumed by the theorems above.
-/
namespace HC.C01
open HC HC.Oplog HC.Codec HC.LogSpec HC.LiveRefine HC.TreeStore

/-- run a sequence of API calls on the model of the crate -/
def runC (C : Crypto) (s : Core × Disk) : List Op → (Core × Disk) × List Obs
  | [] => (s, [])
  | op :: rest =>
    let r := stepC C s op
    let rr := runC C r.1 rest
    (rr.1, r.2 :: rr.2)

/-- the same calls on the abstract log -/
def runA (a : Abs) : List Op → Abs × List Obs
  | [] => (a, [])
  | op :: rest =>
    let r := a.step op
    let rr := runA r.1 rest
    (rr.1, r.2 :: rr.2)

/-- every call is within C01's quantifier in the abstract state it is issued in -/
def AllValid (a : Abs) : List Op → Prop
  | [] => True
  | op :: rest => Valid a op ∧ AllValid (a.step op).1 rest

theorem step_refines (C : Crypto) (hC : HashWF C) (c : Core) (d : Disk) (a : Abs) (h : Rep C c d a) (op : Op)
    (hv : Valid a op) :
    (stepC C (c, d) op).2 = (a.step op).2 ∧ Rep C (stepC C (c, d) op).1.1 (stepC C (c, d) op).1.2 (a.step op).1 := by
  cases op with
  | append batch => exact append_refines C hC c d a h batch hv
  | clear s e => exact clear_refines C hC c d a h s e hv
  | get i => rw [get_refines C c d a h i]; exact ⟨rfl, h⟩
  | has i => rw [has_refines C c d a h i]; exact ⟨rfl, h⟩
  | info => rw [info_refines C c d a h]; exact ⟨rfl, h⟩
  | makeReadOnly => exact makeReadOnly_refines C hC c d a h

/-- **C01, live part.**  Any sequence of calls from a state satisfying `Rep` is observationally the
    abstract log, and ends in a state satisfying `Rep`. -/
theorem live_refinement (C : Crypto) (hC : HashWF C) (ops : List Op) :
    ∀ (c : Core) (d : Disk) (a : Abs), Rep C c d a → AllValid a ops →
      (runC C (c, d) ops).2 = (runA a ops).2
        ∧ Rep C (runC C (c, d) ops).1.1 (runC C (c, d) ops).1.2 (runA a ops).1 := by
  induction ops with
  | nil => intro c d a h _; exact ⟨rfl, h⟩
  | cons op rest ih =>
    intro c d a h hv
    obtain ⟨h1, h2⟩ := step_refines C hC c d a h op hv.1
    obtain ⟨i1, i2⟩ := ih _ _ _ h2 hv.2
    simp only [runC, runA]
    exact ⟨by rw [h1, i1], i2⟩

/-- a freshly created core represents the empty log -/
theorem created (C : Crypto) (pk sk : Bytes) :
    ∃ c j, Core.openCore C (some (pk, some sk)) {} = .ok (c, j) ∧ Rep C c (({} : Disk).applyAll j) {} :=
  init_rep C pk sk

/-- hence every history of a freshly created core behaves like the list model -/
theorem created_refines (C : Crypto) (hC : HashWF C) (pk sk : Bytes) (ops : List Op) (hv : AllValid {} ops) :
    ∃ c j, Core.openCore C (some (pk, some sk)) {} = .ok (c, j)
      ∧ (runC C (c, ({} : Disk).applyAll j) ops).2 = (runA {} ops).2 := by
  obtain ⟨c, j, h1, h2⟩ := created C pk sk
  exact ⟨c, j, h1, (live_refinement C hC ops c _ {} h2 hv).1⟩

/-- every call is also within the size limits of the on-disk formats (see `Persist.Limits`) -/
def AllLimits (a : Abs) : List Op → Prop
  | [] => True
  | op :: rest => Persist.Limits a op ∧ AllLimits (a.step op).1 rest

/-- what the state of a writer satisfies along every history: it represents `a`, and for some ghosts (the header of the
    last flush, the log at that flush, the entries since) the stores are as `Persist` says -/
def WInv (C : Crypto) (s : Core × Disk) (a : Abs) : Prop :=
  Rep C s.1 s.2 a ∧ ∃ hf a0 es, Persist.Persist C s.1 s.2 hf a0 es a

theorem WInv.init (C : Crypto) (pk sk : Bytes) (hpk : pk.length = 32) (hsk : sk.length = 32) :
    ∃ c j, Core.openCore C (some (pk, some sk)) {} = .ok (c, j) ∧ WInv C (c, ({} : Disk).applyAll j) {} := by
  obtain ⟨c, j, h1, h2, h3⟩ := Persist.init_both C pk sk hpk hsk
  exact ⟨c, j, h1, h2, _, _, _, h3⟩

/-- a call answers as the abstract log does and keeps the invariant -/
theorem WInv.call {C : Crypto} (hC : HashWF C) (hS : SignWF C) (hTw : TreeWF C) {s : Core × Disk} {a : Abs} (h : WInv C s a)
    (op : Op) (hv : Valid a op) (hl : Persist.Limits a op) :
    (stepC C s op).2 = (a.step op).2 ∧ WInv C (stepC C s op).1 (a.step op).1 := by
  obtain ⟨hrep, hf, a0, es, hp⟩ := h
  obtain ⟨h1, h2⟩ := step_refines C hC s.1 s.2 a hrep op hv
  exact ⟨h1, h2, Persist.persist_step C hC hS hTw s.1 s.2 hf a0 a es hrep hp op hv hl⟩

/-- closing and reopening writes nothing and keeps the invariant -/
theorem WInv.reopen {C : Crypto} (hC : HashWF C) (hTw : TreeWF C) {s : Core × Disk} {a : Abs} (h : WInv C s a) :
    ∃ c', Core.openCore C none s.2 = .ok (c', []) ∧ WInv C (c', s.2) a := by
  obtain ⟨hrep, hf, a0, es, hp⟩ := h
  obtain ⟨c', hopen, hrep', hp'⟩ := Persist.reopen_persist C hC hTw s.1 s.2 hf a0 a es hrep hp
  exact ⟨c', hopen, hrep', hf, a0, es, hp'⟩

theorem WInv.runC {C : Crypto} (hC : HashWF C) (hS : SignWF C) (hTw : TreeWF C) (ops : List Op) : ∀ {s : Core × Disk} {a : Abs},
    WInv C s a → AllValid a ops → AllLimits a ops → WInv C (runC C s ops).1 (runA a ops).1 := by
  induction ops with
  | nil => exact fun h _ _ => h
  | cons op rest ih => exact fun h hv hl => ih (h.call hC hS hTw op hv.1 hl.1).2 hv.2 hl.2

/-- `Rep` and the ghost invariant `Persist` along a whole history -/
theorem history_invariants (C : Crypto) (hC : HashWF C) (hS : SignWF C) (hTw : TreeWF C) (ops : List Op) :
    ∀ (c : Core) (d : Disk) (a : Abs) (hf : Header) (a0 : Abs) (es : List Entry), Rep C c d a →
      Persist.Persist C c d hf a0 es a → AllValid a ops → AllLimits a ops →
      Rep C (runC C (c, d) ops).1.1 (runC C (c, d) ops).1.2 (runA a ops).1
        ∧ ∃ hf' a0' es', Persist.Persist C (runC C (c, d) ops).1.1 (runC C (c, d) ops).1.2 hf' a0' es' (runA a ops).1 :=
  fun _ _ _ _ _ _ h hp hv hl => WInv.runC hC hS hTw ops ⟨h, _, _, _, hp⟩ hv hl

/-- **C01 across close and reopen.**  After any history of a freshly created core (32-byte key and seed),
    `Hypercore::new` on the four stores — `open(true)`, no key pair supplied — yields a core that
    represents the same abstract log, so that `live_refinement` applies to every further call: every
    block that was held reads back byte-identical, `has` and the contiguous length are unchanged,
    length and byte length are unchanged.  The proof composes: the commit protocol of the oplog
    (`Rotation.Inv`) with its byte layout (`OplogBytes.openLog_abs_tail`: `Oplog::open` on the bytes = the
    reader's rule on the abstraction), the flushed tree and bitfield stores (`Persist`), and the replay
    of the logged entries (`Reopen.reopen_refines`). -/
theorem history_then_reopen (C : Crypto) (hC : HashWF C) (hS : SignWF C) (hTw : TreeWF C) (pk sk : Bytes)
    (hpk : pk.length = 32) (hsk : sk.length = 32) (ops : List Op) (hv : AllValid {} ops) (hl : AllLimits {} ops) :
    ∃ c j, Core.openCore C (some (pk, some sk)) {} = .ok (c, j) ∧
      ∃ c', Core.openCore C none (runC C (c, ({} : Disk).applyAll j) ops).1.2 = .ok (c', [])
        ∧ Rep C c' (runC C (c, ({} : Disk).applyAll j) ops).1.2 (runA {} ops).1 := by
  obtain ⟨c, j, h1, h2⟩ := WInv.init C pk sk hpk hsk
  obtain ⟨c', hopen, hrep', _⟩ := (WInv.runC hC hS hTw ops h2 hv hl).reopen hC hTw
  exact ⟨c, j, h1, c', hopen, hrep'⟩

/-- histories with reopen steps in the middle: a reopened core continues like the abstract log -/
theorem reopen_then_continue (C : Crypto) (hC : HashWF C) (hS : SignWF C) (hTw : TreeWF C) (pk sk : Bytes)
    (hpk : pk.length = 32) (hsk : sk.length = 32) (ops more : List Op) (hv : AllValid {} ops) (hl : AllLimits {} ops)
    (hv2 : AllValid (runA {} ops).1 more) :
    ∃ c j, Core.openCore C (some (pk, some sk)) {} = .ok (c, j) ∧
      ∃ c', Core.openCore C none (runC C (c, ({} : Disk).applyAll j) ops).1.2 = .ok (c', [])
        ∧ (runC C (c', (runC C (c, ({} : Disk).applyAll j) ops).1.2) more).2 = (runA (runA {} ops).1 more).2 := by
  obtain ⟨c, j, h1, c', h2, h3⟩ := history_then_reopen C hC hS hTw pk sk hpk hsk ops hv hl
  exact ⟨c, j, h1, c', h2, (live_refinement C hC more c' _ _ h3 hv2).1⟩

/-- histories with any number of close-and-reopen steps -/
def runC' (C : Crypto) (s : Core × Disk) : List HStep → (Core × Disk) × List Obs
  | [] => (s, [])
  | st :: rest =>
    let r := stepC' C s st
    let rr := runC' C r.1 rest
    (rr.1, r.2 :: rr.2)

def runA' (a : Abs) : List HStep → Abs × List Obs
  | [] => (a, [])
  | st :: rest =>
    let r := a.step' st
    let rr := runA' r.1 rest
    (rr.1, r.2 :: rr.2)

def AllOK (a : Abs) : List HStep → Prop
  | [] => True
  | .call op :: rest => Valid a op ∧ Persist.Limits a op ∧ AllOK (a.step op).1 rest
  | .reopen :: rest => AllOK a rest

/-- histories with close-and-reopen steps: the observations are those of the abstract log, and the invariant holds at the end -/
theorem WInv.runC' {C : Crypto} (hC : HashWF C) (hS : SignWF C) (hTw : TreeWF C) (steps : List HStep) : ∀ {s : Core × Disk} {a : Abs},
    WInv C s a → AllOK a steps → (runC' C s steps).2 = (runA' a steps).2 ∧ WInv C (runC' C s steps).1 (runA' a steps).1 := by
  induction steps with
  | nil => exact fun h _ => ⟨rfl, h⟩
  | cons st rest ih =>
    intro s a h hok
    cases st with
    | call op =>
      obtain ⟨h1, h2⟩ := h.call hC hS hTw op hok.1 hok.2.1
      obtain ⟨i1, i2⟩ := ih h2 hok.2.2
      exact ⟨by simp only [C01.runC', runA', stepC', Abs.step']; rw [h1, i1], i2⟩
    | reopen =>
      obtain ⟨c', hopen, h2⟩ := h.reopen hC hTw
      obtain ⟨i1, i2⟩ := ih h2 hok
      simp only [C01.runC', runA', stepC', Abs.step', hopen, Disk.applyAll_nil]
      exact ⟨by rw [i1], i2⟩

/-- **C01 in full, on the model.**  For every history of API calls and close-and-reopen steps, starting
    from any state that satisfies the representation invariant and the ghost invariant: the observations
    are those of the abstract log — the block list with its held set, unchanged by a reopen. -/
theorem full_refinement_from (C : Crypto) (hC : HashWF C) (hS : SignWF C) (hTw : TreeWF C) (steps : List HStep) :
    ∀ (c : Core) (d : Disk) (a : Abs) (hf : Header) (a0 : Abs) (es : List Entry), Rep C c d a →
      Persist.Persist C c d hf a0 es a → AllOK a steps →
      (runC' C (c, d) steps).2 = (runA' a steps).2 :=
  fun _ _ _ _ _ _ h hp hok => (WInv.runC' hC hS hTw steps ⟨h, _, _, _, hp⟩ hok).1

/-- … in particular from a freshly created core (32-byte key and seed) -/
theorem full_refinement (C : Crypto) (hC : HashWF C) (hS : SignWF C) (hTw : TreeWF C) (pk sk : Bytes)
    (hpk : pk.length = 32) (hsk : sk.length = 32) (steps : List HStep) (hok : AllOK {} steps) :
    ∃ c j, Core.openCore C (some (pk, some sk)) {} = .ok (c, j)
      ∧ (runC' C (c, ({} : Disk).applyAll j) steps).2 = (runA' {} steps).2 := by
  obtain ⟨c, j, h1, h2⟩ := WInv.init C pk sk hpk hsk
  exact ⟨c, j, h1, (WInv.runC' hC hS hTw steps h2 hok).1⟩

/-- non-vacuity: a history with two reopen steps is within the quantifier -/
example : AllOK {} [.call (.append [[1, 2], []]), .reopen, .call (.clear 0 1), .call (.get 0), .reopen, .call (.append [[3]]), .call .info] :=
  ⟨⟨by decide, by decide⟩, ⟨by decide, by decide⟩, fun _ => by decide, (by decide : 1 < 2 ^ 64), trivial, trivial, ⟨by decide, by decide⟩,
    ⟨by decide, by decide⟩, trivial, trivial, trivial⟩

/-- non-vacuity: `make_read_only` in the middle of a history; the abstract log then refuses appends and reports
    `writeable = false`, also after a reopen -/
example : AllOK {} [.call (.append [[1]]), .call .makeReadOnly, .call (.append [[2]]), .reopen, .call .info, .call (.clear 0 1)] :=
  ⟨⟨by decide, by decide⟩, ⟨by decide, by decide⟩, trivial, trivial, ⟨by decide, by decide⟩, ⟨by decide, by decide⟩, trivial, trivial,
    fun _ => by decide, (by decide : 1 < 2 ^ 64), trivial⟩
example : (runA' {} [.call (.append [[1]]), .call .makeReadOnly, .call (.append [[2]]), .reopen, .call .info]).2
    = [.appended 1 1, .readOnly true, .failed .err, .reopened, .info 1 1 1 false] := rfl

/-- non-vacuity of the hypothesis on the hash functions: a record with constant non-zero 32-byte digests -/
example : HashWF { leaf := fun _ => List.replicate 32 1, parent := fun _ _ _ => List.replicate 32 2, tree := fun _ => [],
                   publicKey := id, sign := fun _ _ => [], verify := fun _ _ _ => true } :=
  ⟨fun _ => List.length_replicate, fun _ _ _ => List.length_replicate, fun _ => rfl, fun _ _ _ => rfl⟩

/-- non-vacuity: a concrete history is within the quantifier, and the abstract log answers it -/
example : AllValid {} [.append [[1, 2], []], .clear 0 1, .get 0, .get 1, .append [[3]], .info] :=
  ⟨⟨by decide, by decide⟩, fun _ => by decide, trivial, trivial, ⟨by decide, by decide⟩, trivial, trivial⟩
example : (runA {} [.append [[1, 2], []], .clear 0 1, .has 0, .has 1]).2.length = 4 := rfl

theorem entry_reopen (e : Entry) (wf : e.WF) (rest : Bytes) : decEntry (encEntry e ++ rest) = some (e, rest) :=
  decEntry_enc e wf rest

theorem header_reopen (h : Header) (wf : h.WF) (rest : Bytes) : decHeader (encHeader h ++ rest) = .ok (h, rest) :=
  decHeader_enc h wf rest

theorem frame_reopen (payload rest : Bytes) (hb pb : Bool) (h0 : 0 < payload.length) (h30 : payload.length < 2 ^ 30) :
    validateLeader (frame payload hb pb ++ rest) = some ⟨hb, pb, payload.length, payload ++ rest⟩ :=
  validateLeader_frame payload rest hb pb h0 h30

theorem held_after (b : Bitfield) (start len : Nat) (v : Bool) (i : Nat) :
    (b.setRange start len v).get i = if start ≤ i ∧ i < start + len then v else b.get i :=
  Bitfield.get_setRange b start len v i

/-- an append entry followed by a clear entry, as the crate writes them, read back in sequence -/
theorem refines_partial (e1 e2 : Entry) (w1 : e1.WF) (w2 : e2.WF) (hb : Bool)
    (h1 : (encEntry e1).length < 2 ^ 30) (h2 : (encEntry e2).length < 2 ^ 30) (rest : Bytes) :
    ∃ l1 l2, validateLeader (frame (encEntry e1) hb false ++ (frame (encEntry e2) hb false ++ rest)) = some l1
      ∧ l1.headerBit = hb ∧ decEntry l1.state = some (e1, frame (encEntry e2) hb false ++ rest)
      ∧ validateLeader (frame (encEntry e2) hb false ++ rest) = some l2
      ∧ l2.headerBit = hb ∧ decEntry l2.state = some (e2, rest) :=
  ⟨_, _, validateLeader_frame _ _ hb false (encEntry_pos e1) h1, rfl, decEntry_enc e1 w1 _,
    validateLeader_frame _ _ hb false (encEntry_pos e2) h2, rfl, decEntry_enc e2 w2 _⟩

/-- non-vacuity: the entry of `clear(0,1)` and an upgrade entry are well-formed -/
example : ({ bitfield := some ⟨true, 0, 1⟩ } : Entry).WF :=
  ⟨⟨by decide, by simp⟩, ⟨by decide, by simp⟩, by simp, by intro b hb; cases hb; exact ⟨by decide, by decide⟩⟩

end HC.C01
