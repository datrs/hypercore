import HC.Proofs.File
import HC.Model.Tree
import HC.Proofs.Replica
import HC.Proofs.Journal
/-!
# C14 — behaviour and bytes are independent of storage backend and node cache

The model runs over a flat file of bytes.  What makes the choice of backend irrelevant:

* `file_laws`        : the flat file satisfies the contract the crate relies on — size after a write,
  every byte after a write (zero extension included), a write reads back exactly;
* `backend_indep`    : reads are determined by (size, bytes), and writes preserve agreement on
  (size, bytes): two backends whose files agree byte-for-byte stay in agreement and answer every read
  alike, whatever they are made of (pages, OS files, vectors);
* `backend_simulation`, `backends_agree`: a backend whose single operations realise the flat file (law per
  operation: `Backend.run_ok`, `read_ok`) realises it along every journal, so two such backends started from
  the same bytes hold the same bytes and answer every read alike after any sequence of writes, deletes and
  truncations; `journal_on_backend`: so a backend given the operations of its store of any of the model's journals
  stands for that store of the resulting disk;
* `cache_transparent`: a node cache whose entries are non-blank nodes of the store (what
  `infos_to_nodes` inserts) never changes the result of a node lookup, for any content — hence any
  capacity and eviction policy; `cache_fill_ok`: a cache filled from a lookup is such a cache again.

* `cache_inv_transparent`, `cache_inv_fill`, `cache_inv_evict`, `cache_inv_insert`, `cache_inv_flush`: the
  invariant that makes the cache invisible **along a history** — `CacheInv` (every cached node is the non-blank
  node the tree *store* holds at that index: what `infos_to_nodes` and `to_node_cache` insert) together with
  `Agree` (an unflushed node never contradicts a non-blank stored node: appended nodes sit on fresh slots, a
  replica's nodes were compared with the stored ones) gives the same answer with and without the cache although
  the cache is consulted *before* the unflushed map; the invariant survives cache fills from the store,
  evictions of any kind, new unflushed nodes that agree with the store, and `flush_nodes` (which moves the
  unflushed nodes to their slots and empties the map: `Replica.flush_lookup`); `cache_inv_open`: it holds of the cache
  a tree is opened with.  `cache_invisible_along`: hence along every history of such events (`CStep`) every lookup
  through the cache answers as the lookup without it.

That `random-access-memory` (paged), `random-access-disk` (sparse or not) and the instrumented
backend realise the flat file is validated by running them against it on random operation sequences;
that the crate's observations and raw files coincide under {memory, disk, instrumented} x {cache off,
default, 300 bytes} is validated by running every generated history under six configurations.
-/
namespace HC.C14
open HC HC.File HC.Codec

theorem file_laws (f : File) (off : Nat) (bs : Bytes) :
    (f.write off bs).size = max f.size (off + bs.length)
      ∧ (∀ i, (f.write off bs).byte i = if off ≤ i ∧ i < off + bs.length then bs.getD (i - off) 0 else f.byte i)
      ∧ (f.write off bs).read off bs.length = some bs :=
  ⟨size_write f off bs, byte_write f off bs, read_write_same f off bs⟩

theorem backend_indep (f g : File) (hs : f.size = g.size) (hb : ∀ i, f.byte i = g.byte i) :
    (∀ off len, f.read off len = g.read off len)
      ∧ (∀ off bs, (f.write off bs).size = (g.write off bs).size ∧ ∀ i, (f.write off bs).byte i = (g.write off bs).byte i) :=
  ⟨read_congr f g hs hb, write_congr f g hs hb⟩

/-- lookup through a cache in front of the tree (`MerkleTree::node` with the `cache` feature) -/
def nodeWithCache (cache : Nat → Option Node) (t : Tree) (f : File) (i : Nat) : Option Node :=
  match cache i with
  | some n => some n
  | none => t.node? f i

theorem cache_transparent (cache : Nat → Option Node) (t : Tree) (f : File)
    (hsub : ∀ i n, cache i = some n → t.node? f i = some n) (i : Nat) :
    nodeWithCache cache t f i = t.node? f i := by
  unfold nodeWithCache
  cases h : cache i with
  | none => rfl
  | some n => exact (hsub i n h).symm

/-- the empty cache, and a cache filled from lookups, satisfy the hypothesis -/
example (t : Tree) (f : File) : ∀ i n, (fun _ => (none : Option Node)) i = some n → t.node? f i = some n := by
  intro i n h; cases h

theorem cache_fill_ok (cache : Nat → Option Node) (t : Tree) (f : File)
    (hsub : ∀ i n, cache i = some n → t.node? f i = some n) (j : Nat) :
    ∀ i n, (fun k => if k = j then (match t.node? f j with | some m => some m | none => cache k) else cache k) i = some n
      → t.node? f i = some n := by
  intro i n h
  simp only at h
  split at h
  · rename_i hij
    subst hij
    cases hn : t.node? f i with
    | some m => simp [hn] at h; rw [← h]
    | none =>
      simp [hn] at h
      have := hsub i n h
      rw [hn] at this
      cases this
  · exact hsub i n h

/-! ## any backend that realises the flat file, operation by operation, realises it along every journal -/
/-- the mutating operations of `RandomAccess` on one store -/
inductive FOp
  | write (off : Nat) (bs : Bytes)
  | del (off len : Nat)
  | trunc (n : Nat)

/-- their effect on the flat file (an out-of-bounds `del` fails and changes nothing, as in `Disk.apply`) -/
def FOp.run (f : File) : FOp → File
  | .write off bs => f.write off bs
  | .del off len => match f.del off len with
    | some g => g
    | none => f
  | .trunc n => f.truncate n

/-- a backend (pages in memory, an OS file with or without holes, the instrumented store) with the flat file it
    stands for; the two laws are per operation — what the backend differential of the harness exercises -/
structure Backend (β : Type) where
  view : β → File
  run : β → FOp → β
  read : β → Nat → Nat → Option Bytes
  run_ok : ∀ b op, view (run b op) = FOp.run (view b) op
  read_ok : ∀ b off len, read b off len = (view b).read off len

theorem backend_simulation {β : Type} (B : Backend β) (ops : List FOp) (b : β) :
    B.view (ops.foldl B.run b) = ops.foldl FOp.run (B.view b)
      ∧ ∀ off len, B.read (ops.foldl B.run b) off len = (ops.foldl FOp.run (B.view b)).read off len := by
  induction ops generalizing b with
  | nil => exact ⟨rfl, B.read_ok b⟩
  | cons op rest ih =>
    simp only [List.foldl_cons]
    rw [← B.run_ok b op]
    exact ih (B.run b op)

/-- **two backends that start from the same bytes hold the same bytes and answer every read alike after any journal** -/
theorem backends_agree {β γ : Type} (B : Backend β) (G : Backend γ) (b : β) (g : γ) (h0 : B.view b = G.view g) (ops : List FOp) :
    B.view (ops.foldl B.run b) = G.view (ops.foldl G.run g)
      ∧ ∀ off len, B.read (ops.foldl B.run b) off len = G.read (ops.foldl G.run g) off len := by
  obtain ⟨b1, b2⟩ := backend_simulation B ops b
  obtain ⟨g1, g2⟩ := backend_simulation G ops g
  refine ⟨by rw [b1, g1, h0], fun off len => by rw [b2, g2, h0]⟩

def toF : SOp → FOp
  | .write _ off bs => .write off bs
  | .del _ off len => .del off len
  | .trunc _ len => .trunc len

theorem onFile_eq (op : SOp) (f : File) : op.onFile f = FOp.run f (toF op) := by
  cases op with
  | write s off bs => rfl
  | del s off len => simp only [SOp.onFile, toF, FOp.run]; cases f.del off len <;> rfl
  | trunc s len => rfl

/-- **the model's journals on any backend**: if backend `b` stands for store `s` of the model's disk, then after any
    journal of the model (any call, any history) the backend that was given the operations of its store stands
    for store `s` of the resulting disk, and answers every read as that file does -/
theorem journal_on_backend {β : Type} (B : Backend β) (b : β) (d : Disk) (s : Store) (h0 : B.view b = d.get s) (ops : List SOp) :
    let b' := ((ops.filter fun op => op.store = s).map toF).foldl B.run b
    B.view b' = (d.applyAll ops).get s ∧ ∀ off len, B.read b' off len = ((d.applyAll ops).get s).read off len := by
  have e : (d.applyAll ops).get s = ((ops.filter fun op => op.store = s).map toF).foldl FOp.run (B.view b) := by
    rw [Journal.applyAll_get, h0, List.foldl_map]
    congr 1
    funext f op
    exact onFile_eq op f
  obtain ⟨h1, h2⟩ := backend_simulation B ((ops.filter fun op => op.store = s).map toF) b
  exact ⟨by rw [h1, e], fun off len => by rw [h2, e]⟩

/-- non-vacuity: the flat file itself is a backend -/
def flatBackend : Backend File := ⟨id, FOp.run, File.read, fun _ _ => rfl, fun _ _ _ => rfl⟩

/-! ## the cache along a history -/
open HC.TreeStore in
/-- what the tree store alone answers for index `i` (`none` = out of bounds or blank) -/
def storeNode (f : File) (i : Nat) : Option Node :=
  match f.read (i * Spec.nodeSize) Spec.nodeSize with
  | none => none
  | some bs => let n := nodeOfBytes i bs; if n.blank then none else some n

theorem node?_of_none (t : Tree) (f : File) (i : Nat) (h : t.unflushed[i]? = none) : t.node? f i = storeNode f i := by
  simp only [Tree.node?, storeNode, h]
  cases f.read (i * Spec.nodeSize) Spec.nodeSize <;> rfl

theorem node?_noUnflushed (t : Tree) (f : File) (i : Nat) : ({ t with unflushed := {} } : Tree).node? f i = storeNode f i :=
  node?_of_none _ f i Std.HashMap.getElem?_empty

theorem storeNode_nonblank (f : File) (i : Nat) (n : Node) (h : storeNode f i = some n) : n.blank = false := by
  unfold storeNode at h
  split at h
  · cases h
  · simp only at h
    split at h
    · cases h
    · rename_i hb
      cases h
      simpa using hb

/-- every cached node is the non-blank node of the store at that index -/
def CacheInv (cache : Nat → Option Node) (f : File) : Prop := ∀ i n, cache i = some n → storeNode f i = some n
/-- an unflushed node never contradicts a non-blank stored node -/
def Agree (t : Tree) (f : File) : Prop := ∀ i u n, t.unflushed[i]? = some u → storeNode f i = some n → u = n

theorem cache_sub (cache : Nat → Option Node) (t : Tree) (f : File) (hc : CacheInv cache f) (ha : Agree t f) :
    ∀ i n, cache i = some n → t.node? f i = some n := by
  intro i n h
  have hs := hc i n h
  cases hu : t.unflushed[i]? with
  | none => rw [node?_of_none t f i hu]; exact hs
  | some u =>
    obtain rfl := ha i u n hu hs
    exact TreeStore.node?_of_unflushed t f i u hu (storeNode_nonblank f i u hs)

/-- **the cache is invisible** although it is consulted before the unflushed map -/
theorem cache_inv_transparent (cache : Nat → Option Node) (t : Tree) (f : File) (hc : CacheInv cache f) (ha : Agree t f) (i : Nat) :
    nodeWithCache cache t f i = t.node? f i :=
  cache_transparent cache t f (cache_sub cache t f hc ha) i

/-- `infos_to_nodes` / `to_node_cache`: a non-blank node read from the store is inserted -/
theorem cache_inv_fill (cache : Nat → Option Node) (f : File) (hc : CacheInv cache f) (j : Nat) (n : Node) (h : storeNode f j = some n) :
    CacheInv (fun k => if k = j then some n else cache k) f := by
  intro i m hm
  simp only at hm
  split at hm
  · rename_i e; subst e; cases hm; exact h
  · exact hc i m hm

/-- any eviction policy (capacity, time to live, time to idle) -/
theorem cache_inv_evict (cache cache' : Nat → Option Node) (f : File) (hc : CacheInv cache f)
    (hsub : ∀ i n, cache' i = some n → cache i = some n) : CacheInv cache' f :=
  fun i n h => hc i n (hsub i n h)

/-- a commit adds unflushed nodes; `Agree` is kept when each agrees with what the store holds at its slot -/
theorem cache_inv_insert (t : Tree) (f : File) (ha : Agree t f) (n : Node) (hn : ∀ m, storeNode f n.index = some m → n = m) :
    Agree (t.addNode n) f := by
  intro i u m hu hs
  simp only [Tree.addNode, Std.HashMap.getElem?_insert] at hu
  split at hu
  · rename_i e
    have e' : n.index = i := by simpa using e
    subst e'; cases hu; exact hn m hs
  · exact ha i u m hu hs

/-- a tree with nothing unflushed contradicts no store -/
theorem agree_flushed (t : Tree) (f : File) : Agree { t with unflushed := {} } f := fun i u n hu _ => by
  simp only [Std.HashMap.getElem?_empty] at hu
  cases hu

theorem mapWF_empty : TreeStore.MapWF ({} : Std.HashMap Nat Node) := fun k m hk => by
  simp only [Std.HashMap.getElem?_empty] at hk
  cases hk

/-- `flush_nodes`: the unflushed nodes go to their slots, the map is emptied; both invariants survive -/
theorem cache_inv_flush (cache : Nat → Option Node) (t : Tree) (f : File) (hwf : TreeStore.MapWF t.unflushed) (hal : f.size % 40 = 0)
    (hc : CacheInv cache f) (ha : Agree t f) :
    ∃ L : List Node, t.flush = ({ t with unflushed := {} }, L.map fun n => SOp.write .tree (n.index * Spec.nodeSize) (nodeBytes n))
      ∧ CacheInv cache (TreeStore.writeSlots f L) ∧ Agree { t with unflushed := {} } (TreeStore.writeSlots f L)
      ∧ (TreeStore.writeSlots f L).size % 40 = 0 := by
  obtain ⟨L, h1, h2, h3⟩ := Replica.flush_lookup t f hwf hal
  refine ⟨L, h1, fun i n h => ?_, agree_flushed t _, h3⟩
  rw [← node?_noUnflushed t, h2 i]
  exact cache_sub cache t f hc ha i n h

/-- `to_node_cache(roots)`: the cache a tree is opened with holds the roots it has just read from the store -/
def cacheOf : List Node → (Nat → Option Node)
  | [] => fun _ => none
  | n :: ns => fun k => if k = n.index then some n else cacheOf ns k

theorem cache_inv_open (f : File) (L : List Node) (h : ∀ n ∈ L, storeNode f n.index = some n) : CacheInv (cacheOf L) f := by
  induction L with
  | nil => intro _ _ hc; cases hc
  | cons n ns ih =>
    exact cache_inv_fill (cacheOf ns) f (ih (fun m hm => h m (List.mem_cons_of_mem _ hm))) n.index n (h n List.mem_cons_self)

/-- unflushed nodes on slots where the store has nothing (an appended range) agree with the store -/
theorem agree_of_fresh (t : Tree) (f : File) (h : ∀ i u, t.unflushed[i]? = some u → storeNode f i = none) : Agree t f := by
  intro i u n hu hs
  rw [h i u hu] at hs
  cases hs

/-- non-vacuity: the empty cache over any store, and a tree without unflushed nodes -/
example (f : File) : CacheInv (fun _ => none) f := fun _ _ h => by cases h
example (t : Tree) (f : File) : Agree { t with unflushed := {} } f := agree_flushed t f

/-- cache, tree (its unflushed map) and tree store -/
abbrev CState := (Nat → Option Node) × Tree × File

/-- what can happen to them: a node read from the store is cached; entries are evicted (any policy); a commit adds
    an unflushed node that agrees with the store; `flush_nodes` writes the unflushed nodes and empties the map -/
inductive CStep : CState → CState → Prop
  | fill (c : Nat → Option Node) (t : Tree) (f : File) (j : Nat) (n : Node) :
      storeNode f j = some n → CStep (c, t, f) ((fun k => if k = j then some n else c k), t, f)
  | evict (c c' : Nat → Option Node) (t : Tree) (f : File) :
      (∀ i n, c' i = some n → c i = some n) → CStep (c, t, f) (c', t, f)
  | insert (c : Nat → Option Node) (t : Tree) (f : File) (n : Node) :
      (∀ m, storeNode f n.index = some m → n = m) → n.hash.length = 32 → n.length < 2 ^ 64 → CStep (c, t, f) (c, t.addNode n, f)
  | flush (c : Nat → Option Node) (t : Tree) (f : File) :
      CStep (c, t, f) (c, t.flush.1, t.flush.2.foldl (fun f op => op.onFile f) f)

/-- histories of such events -/
inductive CReach : CState → CState → Prop
  | refl (s : CState) : CReach s s
  | step (s s' s'' : CState) : CReach s s' → CStep s' s'' → CReach s s''

/-- what is carried along them: `CacheInv`, `Agree`, and what `cache_inv_flush` needs of the map and the store -/
def CInv (s : CState) : Prop := CacheInv s.1 s.2.2 ∧ Agree s.2.1 s.2.2 ∧ TreeStore.MapWF s.2.1.unflushed ∧ s.2.2.size % 40 = 0

theorem cstep_inv (s s' : CState) (h : CInv s) (st : CStep s s') : CInv s' := by
  obtain ⟨hc, ha, hwf, hal⟩ := h
  cases st with
  | fill c t f j n hn => exact ⟨cache_inv_fill c f hc j n hn, ha, hwf, hal⟩
  | evict c c' t f hsub => exact ⟨cache_inv_evict c c' f hc hsub, ha, hwf, hal⟩
  | insert c t f n hn h32 hlen =>
    exact ⟨hc, cache_inv_insert t f ha n hn,
      TreeStore.mapWF_insertAll [n] _ hwf fun x hx => by cases List.mem_singleton.mp hx; exact ⟨h32, hlen⟩, hal⟩
  | flush c t f =>
    obtain ⟨L, h1, h2, h3, h4⟩ := cache_inv_flush c t f hwf hal hc ha
    have e : t.flush.2.foldl (fun f op => op.onFile f) f = TreeStore.writeSlots f L := by
      rw [h1]
      simp only [List.foldl_map, TreeStore.writeSlots]
      rfl
    have e1 : t.flush.1 = { t with unflushed := {} } := by rw [h1]
    show CacheInv c _ ∧ Agree _ _ ∧ TreeStore.MapWF _ ∧ _
    rw [e, e1]
    exact ⟨h2, h3, mapWF_empty, h4⟩

/-- **along every history of fills, evictions, agreeing commits and flushes the cache is invisible**: every lookup
    through the cache (consulted first) answers as the lookup without it -/
theorem cache_invisible_along (s s' : CState) (h : CInv s) (r : CReach s s') (i : Nat) :
    nodeWithCache s'.1 s'.2.1 s'.2.2 i = s'.2.1.node? s'.2.2 i := by
  have hinv : CInv s' := by
    induction r with
    | refl => exact h
    | step s1 s2 _ st ih => exact cstep_inv _ _ ih st
  exact cache_inv_transparent _ _ _ hinv.1 hinv.2.1 i

/-- non-vacuity: an opened tree (nothing unflushed) over an aligned store with the empty cache -/
example (t : Tree) (f : File) (hal : f.size % 40 = 0) : CInv ((fun _ => none), { t with unflushed := {} }, f) :=
  ⟨fun _ _ h => (by cases h), agree_flushed t f, mapWF_empty, hal⟩

end HC.C14
