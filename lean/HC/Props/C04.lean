import HC.Proofs.Verify
import HC.Proofs.Sound
import HC.Proofs.UpgradeSound
import HC.Proofs.UpgradeBytes
import HC.Proofs.SeekSound
import HC.Proofs.HashUpgradeSound
/-!
# C04 — forged or altered proofs never change what a replica believes

`refuse_*`: a proof `verify_and_apply` does not accept leaves the core as it was, writes nothing and emits no event.
`sound_*`: for every combination of sections `verify_proof` accepts, what an accepted proof delivers (block, nodes,
adopted length, byte length, roots) is the writer's, or the run exhibits a hash collision.  The signature enters as
`hunf` (the key verifies only what the writer signed) and `hsig` (the writer signs only the reference roots of a
prefix of its log, with that length and its fork).  The alteration run checks the same on the implementation.
-/
namespace HC.C04
open HC HC.Core HC.Tree

/-- **a proof for another fork** is answered `false`; nothing is written, the core is unchanged, no event -/
theorem refuse_fork (C : Crypto) (c : Core) (d : Disk) (p : Proof) (h : p.fork ≠ c.tree.fork) :
    (c.verifyAndApply C d p).result = .ok false ∧ (c.verifyAndApply C d p).journal = []
      ∧ (c.verifyAndApply C d p).core = c ∧ (c.verifyAndApply C d p).events = [] :=
  apply_fork_mismatch C c d p h

/-- **a proof that fails verification** (bad hash path, bad signature, wrong node order, …) is answered with the
    error — the fork is compared first, hence the `if` —; nothing is written, the core is unchanged, no event -/
theorem refuse_invalid (C : Crypto) (c : Core) (d : Disk) (p : Proof) (e : Fail)
    (h : c.tree.verifyProof C d.tree p c.publicKey = .error e) :
    (c.verifyAndApply C d p).result = (if p.fork ≠ c.tree.fork then .ok false else .error e)
      ∧ (c.verifyAndApply C d p).journal = [] ∧ (c.verifyAndApply C d p).core = c
      ∧ (c.verifyAndApply C d p).events = [] :=
  apply_verify_error C c d p e h

theorem refuse_noop (C : Crypto) (c : Core) (d : Disk) (p : Proof)
    (h : (c.verifyAndApply C d p).result = .ok false) :
    (c.verifyAndApply C d p).journal = [] ∧ (c.verifyAndApply C d p).core = c ∧ (c.verifyAndApply C d p).events = [] :=
  apply_false_noop C c d p h

/-- an error while locating the block's byte offset, after verification has succeeded, also changes nothing -/
theorem refuse_before_commit (C : Crypto) (c : Core) (d : Disk) (p : Proof) (cs : Changeset) (e : Fail)
    (hf : p.fork = c.tree.fork) (hv : c.tree.verifyProof C d.tree p c.publicKey = .ok cs)
    (hc : c.tree.commitable cs = true) (hd : dataStep c d p cs = .error e) :
    (c.verifyAndApply C d p).result = .error e ∧ (c.verifyAndApply C d p).journal = []
      ∧ (c.verifyAndApply C d p).core = c :=
  apply_dataStep_error C c d p cs e hf hv hc hd

/-- **block-only proofs**: on a replica whose stored nodes are authentic, an accepted proof delivers the writer's block
    and every sibling node it carries is the reference node (index, size, hash) — or the run exhibits a collision of
    `leaf` or `parent` -/
theorem sound_block (C : Crypto) (bs : Array Bytes) (t : Tree) (f : File) (pk : Bytes) (p : Proof) (b : Codec.DataBlock)
    (cs : Changeset) (hb : p.block = some b) (hs : p.seek = none) (hu : p.upgrade = none)
    (hauth : Sound.StoreAuthentic C bs t f) (hv : t.verifyProof C f p pk = .ok cs) :
    Sound.Collision C ∨ (b.value = bs.getD b.index [] ∧ ∀ n ∈ b.nodes, ∃ dn on, n = RefTree.nodeAt C bs dn on) := by
  obtain ⟨root, cs1, hvt, hr⟩ := SeekSound.verifyProof_root_stored C bs t f pk p cs hu hauth hv
  obtain ⟨r, rfl, _, hsound⟩ := SeekSound.block_section C p b _ root cs1 hb hs hvt
  exact hsound bs (hr r rfl)

/-- **whenever `verify_upgrade` accepts**, the adopted length is a signed length, the fork is the writer's and the
    adopted roots are the reference roots of that length — or the run exhibits a collision of the root-list hash -/
theorem sound_upgrade (C : Crypto) (bs : Array Bytes) (wfork : Nat) (Signed : Bytes → Prop)
    (fork : Nat) (u : Codec.DataUpgrade) (blockRoot : Option Codec.Node) (pk : Bytes) (cs cs' : Changeset) (consumed : Bool)
    (hunf : ∀ m sig, C.verify pk m sig = true → Signed m)
    (hsig : ∀ m, Signed m → ∃ n, n ≤ bs.size ∧ m = RefTree.signableOf C (bs.extract 0 n) wfork)
    (hlen : ∀ x, (C.tree x).length = 32) (hsize : bs.size < 2 ^ 64) (hwf : wfork < 2 ^ 64)
    (hb1 : cs'.length < 2 ^ 64) (hb2 : fork < 2 ^ 64)
    (h : verifyUpgrade C fork u blockRoot pk cs = .ok (consumed, cs')) :
    Sound.TreeCollision C ∨ (cs'.length ≤ bs.size ∧ fork = wfork
      ∧ cs'.roots.map (fun n => (n.hash, n.index, n.length)) =
          (RefTree.roots C (bs.extract 0 cs'.length)).map (fun n => (n.hash, n.index, n.length))) :=
  Sound.upgrade_sound C bs wfork Signed fork u blockRoot pk cs cs' consumed hunf hsig hlen hsize hwf hb1 hb2 h

/-- the hash climb from any start node: a root that carries the reference hash authenticates everything below it but
    the start node's own size (which is why it also serves for hash-only sections) -/
theorem path_sound (C : Crypto) (bs : Array Bytes) (nodes : List Codec.Node) (fuel d o : Nat) (cur : Codec.Node)
    (rn : List Codec.Node) (root : Codec.Node) (rn' : List Codec.Node)
    (h : climb C fuel (Sound.plainQueue nodes) (RefProof.iat d o) cur rn = .ok (root, rn'))
    (hc : cur.index = Flat.index d o) :
    root.index = Flat.index (d + nodes.length) (o / 2 ^ nodes.length) ∧
      (root.hash = (RefTree.node C bs (d + nodes.length) (o / 2 ^ nodes.length)).2 →
        Sound.Collision C ∨
          (cur.hash = (RefTree.node C bs d o).2 ∧
            (cur.length = (RefTree.node C bs d o).1 →
              root.length = (RefTree.node C bs (d + nodes.length) (o / 2 ^ nodes.length)).1 ∧
              ∀ n ∈ nodes, ∃ dn on, n = RefTree.nodeAt C bs dn on))) :=
  Sound.climb_sound C bs nodes fuel d o cur rn root rn' h hc

/-- **first contact**: a block together with an upgrade from length 0 (no seek section, no additional nodes) on a replica
    without roots.  `verify_upgrade` walks positions that depend on the claimed length only
    (`UpgradeSound.fullRoot_canon`) and nothing merges on the way, so the root the block section climbed to is one of
    the adopted roots, whose hashes the signature covers. -/
theorem sound_first_contact (C : Crypto) (bs : Array Bytes) (wfork : Nat) (Signed : Bytes → Prop)
    (t : Tree) (f : File) (pk : Bytes) (p : Proof) (b : Codec.DataBlock) (u : Codec.DataUpgrade) (cs' : Changeset)
    (hb : p.block = some b) (hs : p.seek = none) (hu : p.upgrade = some u) (hadd : u.additionalNodes = [])
    (hfresh : t.changeset.roots = [])
    (hunf : ∀ m sig, C.verify pk m sig = true → Signed m)
    (hsig : ∀ m, Signed m → ∃ n, n ≤ bs.size ∧ m = RefTree.signableOf C (bs.extract 0 n) wfork)
    (hlen : ∀ x, (C.tree x).length = 32) (hsize : bs.size < 2 ^ 64) (hwf : wfork < 2 ^ 64)
    (hb1 : cs'.length < 2 ^ 64) (hb2 : p.fork < 2 ^ 64) (hT : u.start + u.length < 2 ^ 64)
    (hauth : Sound.StoreAuthentic C bs t f)
    (hv : t.verifyProof C f p pk = .ok cs') :
    Sound.Collision C ∨ Sound.TreeCollision C ∨ b.value = bs.getD b.index [] := by
  -- `hauth` is only used when the upgrade did not consume the block's root: it then is compared with a stored node
  obtain ⟨root, cs1, hvt, hroots, hr⟩ := SeekSound.verifyProof_root C bs t f pk p cs' hauth hv
  obtain ⟨r, rfl, hidx, hsound⟩ := SeekSound.block_section C p b _ root cs1 hb hs hvt
  rcases hr r rfl with hA | ⟨u', hu', hvu⟩
  · exact (hsound bs hA).imp_right fun h => Or.inr h.1
  · cases hu.symm.trans hu'
    rcases Sound.upgrade_sound C bs wfork Signed p.fork u (some r) pk cs1 cs' true hunf hsig hlen hsize hwf hb1 hb2 hvu with hcol | ⟨hL, _, href⟩
    · exact Or.inr (Or.inl hcol)
    · -- the block's root *is* one of the adopted roots, so it ends inside the adopted length: the block of the signed prefix is the writer's
      obtain ⟨d, o, hbound, hi, hh⟩ := UpgradeSound.roots_ref C _ cs'.roots href r
        (UpgradeSound.consumed_mem_roots C p.fork u r pk cs1 cs' (hroots.trans hfresh) hadd hT hvu)
      obtain ⟨hd, ho⟩ := RefProof.index_inj _ _ _ _ (hidx.symm.trans hi)
      rw [← hd, ← ho] at hbound
      have hsz : (bs.extract 0 cs'.length).size ≤ cs'.length := by rw [Array.size_extract, Nat.sub_zero]; exact Nat.min_le_left _ _
      exact (hsound _ (UpgradeSound.authH_at C _ r d o hi hh)).imp_right fun h => Or.inr (h.1.trans
        (File.extract_getD bs _ _ hL (Nat.lt_of_lt_of_le (HC.Pow2.lt_succ_div_mul _ _ (RefProof.pow_pos' _)) (Nat.le_trans hbound hsz))))

/-- first contact with additional nodes (a partial upgrade from 0, completed by the writer up to its own length): the
    block is the writer's block at that index within the adopted length -/
theorem sound_first_contact_extra (C : Crypto) (bs : Array Bytes) (wfork : Nat) (Signed : Bytes → Prop)
    (t : Tree) (f : File) (pk : Bytes) (p : Proof) (b : Codec.DataBlock) (u : Codec.DataUpgrade) (cs' : Changeset)
    (hb : p.block = some b) (hs : p.seek = none) (hu : p.upgrade = some u)
    (hfresh : t.changeset.roots = [])
    (hunf : ∀ m sig, C.verify pk m sig = true → Signed m)
    (hsig : ∀ m, Signed m → ∃ n, n ≤ bs.size ∧ m = RefTree.signableOf C (bs.extract 0 n) wfork)
    (hlen : ∀ x, (C.tree x).length = 32) (hsize : bs.size < 2 ^ 64) (hwf : wfork < 2 ^ 64)
    (hb1 : cs'.length < 2 ^ 64) (hb2 : p.fork < 2 ^ 64) (hT : u.start + u.length < 2 ^ 64)
    (hauth : Sound.StoreAuthentic C bs t f)
    (hv : t.verifyProof C f p pk = .ok cs') :
    Sound.Collision C ∨ Sound.TreeCollision C ∨ b.value = bs.getD b.index [] ∨ b.value = (bs.extract 0 cs'.length).getD b.index [] :=
  UpgradeSound.block_upgrade_sound C bs wfork Signed t f pk p b u cs' hb hs hu (fun l hl => by rw [hfresh] at hl; cases hl)
    hunf hsig hlen hsize hwf hb1 hb2 hT hauth hv

/-- **block + upgrade on any honest replica** (`hcanon`: its last root sits at a tree position), including the `grow`
    branch of `verify_upgrade`: the replica's last roots are merged upwards into a larger signed root and the block's root
    may be consumed on the way; authenticity flows backwards from the signed roots through every merge
    (`UpgradeSound.mergeLoop_back`) -/
theorem sound_block_upgrade (C : Crypto) (bs : Array Bytes) (wfork : Nat) (Signed : Bytes → Prop)
    (t : Tree) (f : File) (pk : Bytes) (p : Proof) (b : Codec.DataBlock) (u : Codec.DataUpgrade) (cs' : Changeset)
    (hb : p.block = some b) (hs : p.seek = none) (hu : p.upgrade = some u)
    (hcanon : ∀ l, t.changeset.roots.getLast? = some l → ∃ d o, l.index = Flat.index d o ∧ d ≤ 64)
    (hunf : ∀ m sig, C.verify pk m sig = true → Signed m)
    (hsig : ∀ m, Signed m → ∃ n, n ≤ bs.size ∧ m = RefTree.signableOf C (bs.extract 0 n) wfork)
    (hlen : ∀ x, (C.tree x).length = 32) (hsize : bs.size < 2 ^ 64) (hwf : wfork < 2 ^ 64)
    (hb1 : cs'.length < 2 ^ 64) (hb2 : p.fork < 2 ^ 64) (hT : u.start + u.length < 2 ^ 64)
    (hauth : Sound.StoreAuthentic C bs t f)
    (hv : t.verifyProof C f p pk = .ok cs') :
    Sound.Collision C ∨ Sound.TreeCollision C ∨ b.value = bs.getD b.index [] ∨ b.value = (bs.extract 0 cs'.length).getD b.index [] :=
  UpgradeSound.block_upgrade_sound C bs wfork Signed t f pk p b u cs' hb hs hu hcanon hunf hsig hlen hsize hwf hb1 hb2 hT hauth hv

/-- **the adopted byte length is a signed one**: on a replica whose byte length is the sum of its roots' sizes (`SumOK`, an
    invariant of everything `verify_proof` does), an accepted upgrade adopts a length `L` the writer signed and, as byte
    length, the total size of the first `L` blocks of the writer's log -/
theorem sound_upgrade_bytes (C : Crypto) (bs : Array Bytes) (wfork : Nat) (Signed : Bytes → Prop)
    (fork : Nat) (u : Codec.DataUpgrade) (blockRoot : Option Codec.Node) (pk : Bytes) (cs cs' : Changeset) (consumed : Bool)
    (hunf : ∀ m sig, C.verify pk m sig = true → Signed m)
    (hsig : ∀ m, Signed m → ∃ n, n ≤ bs.size ∧ m = RefTree.signableOf C (bs.extract 0 n) wfork)
    (hlen : ∀ x, (C.tree x).length = 32) (hsize : bs.size < 2 ^ 64) (hwf : wfork < 2 ^ 64)
    (hb1 : cs'.length < 2 ^ 64) (hb2 : fork < 2 ^ 64) (hsum : UpgradeBytes.SumOK cs)
    (h : verifyUpgrade C fork u blockRoot pk cs = .ok (consumed, cs')) :
    Sound.TreeCollision C ∨ (cs'.length ≤ bs.size ∧ cs'.byteLength = LogSpec.totalBytes (bs.extract 0 cs'.length)) := by
  rcases Sound.upgrade_sound C bs wfork Signed fork u blockRoot pk cs cs' consumed hunf hsig hlen hsize hwf hb1 hb2 h with hcol | ⟨hL, _, hroots⟩
  · exact Or.inl hcol
  · refine Or.inr ⟨hL, ?_⟩
    -- the adopted roots are the reference roots, and the byte length is the sum of the roots' sizes
    have hlens : cs'.roots.map (·.length) = (RefTree.roots C (bs.extract 0 cs'.length)).map (·.length) := by
      have := congrArg (List.map (fun (x : Bytes × Nat × Nat) => x.2.2)) hroots
      simpa only [List.map_map, Function.comp_def] using this
    rw [show cs'.byteLength = _ from UpgradeBytes.verifyUpgrade_sum C h hsum, hlens, Growth.roots_eq_rootsAt, Offsets.rootsAt_sum]
    exact LiveRefine.psum_total _

/-- `SumOK` is not vacuous: the reference-roots invariant implies it -/
example (C : Crypto) (bsn : Array Bytes) (cs : Changeset) (h : RefProof.RootsOK C bsn cs) : UpgradeBytes.SumOK cs := by
  unfold UpgradeBytes.SumOK
  rw [h.bytes, h.roots_eq, Offsets.rootsAt_sum]
  exact (LiveRefine.psum_total bsn).symm

/-- nor is `hcanon` -/
example (C : Crypto) (bsn : Array Bytes) (cs : Changeset) (h : RefProof.RootsOK C bsn cs) (hn : bsn.size < 2 ^ 64) :
    ∀ l, cs.roots.getLast? = some l → ∃ d o, l.index = Flat.index d o ∧ d ≤ 64 := by
  intro l hl
  have hmem : l ∈ cs.roots.reverse := List.mem_reverse.mpr (List.mem_of_getLast? hl)
  rw [h.roots] at hmem
  obtain ⟨pos, hpos, rfl⟩ := List.mem_map.mp hmem
  exact ⟨pos.1, pos.2, rfl, Nat.le_of_lt (Pow2.depth_lt_of_span (RefProof.rootsStack_bound _ pos hpos) hn)⟩

/-- nor are `hfresh` and `StoreAuthentic`: the empty tree on the empty store -/
example (C : Crypto) (bs : Array Bytes) : ({} : Tree).changeset.roots = [] ∧ Sound.StoreAuthentic C bs {} File.empty := by
  refine ⟨rfl, ?_⟩
  intro d o n h
  have hr : File.empty.read (Flat.index d o * Spec.nodeSize) Spec.nodeSize = none :=
    (File.read_eq_none_iff ..).mpr (Nat.lt_add_left _ (by decide))
  rw [Tree.node?, hr] at h
  simp at h

/-- **hash-only proofs** (no block, no seek, no upgrade): what an accepted proof stores is the writer's — the requested
    node carries the writer's hash, and if its size is the writer's, every other node of the section is the writer's node
    (index, size, hash).  The sizes of the two bottom nodes are only authenticated as a sum: the one alteration C04's
    quantifier excludes. -/
theorem sound_hash (C : Crypto) (bs : Array Bytes) (t : Tree) (f : File) (pk : Bytes) (p : Proof) (hsec : Codec.DataHash)
    (cs : Changeset) (hb : p.block = none) (hh : p.hash = some hsec) (hs : p.seek = none) (hu : p.upgrade = none)
    (hcan : hsec.index < 2 ^ 64) (hauth : Sound.StoreAuthentic C bs t f) (hv : t.verifyProof C f p pk = .ok cs) :
    Sound.Collision C ∨ ∃ n0 rest d o, hsec.nodes = n0 :: rest ∧ hsec.index = Flat.index d o ∧ n0.index = hsec.index
      ∧ n0.hash = (RefTree.node C bs d o).2
      ∧ (n0.length = (RefTree.node C bs d o).1 → ∀ n ∈ rest, ∃ dn on, n = RefTree.nodeAt C bs dn on) :=
  SeekSound.hash_proof_sound C bs t f pk p hsec cs hb hh hs hu (RefProof.canon_of_u64 hcan) hauth hv

/-- **block + seek proofs** (no upgrade): the block is the writer's, every node of the block section is the writer's,
    and the seek section is authenticated through its root, which the block climb must consume as a sibling before it
    ends: its bottom node carries the writer's hash, and if that node's size is the writer's, every node of the seek
    section is the writer's node. -/
theorem sound_block_seek (C : Crypto) (bs : Array Bytes) (t : Tree) (f : File) (pk : Bytes) (p : Proof) (b : Codec.DataBlock) (s : Codec.DataSeek)
    (n0 : Codec.Node) (srest : List Codec.Node) (cs : Changeset) (hb : p.block = some b) (hs : p.seek = some s) (hsn : s.nodes = n0 :: srest)
    (hu : p.upgrade = none) (hcan : n0.index < 2 ^ 64) (hauth : Sound.StoreAuthentic C bs t f) (hv : t.verifyProof C f p pk = .ok cs) :
    Sound.Collision C ∨ (b.value = bs.getD b.index [] ∧ (∀ n ∈ b.nodes, ∃ dn on, n = RefTree.nodeAt C bs dn on)
      ∧ ∃ d o, n0.index = Flat.index d o ∧ n0.hash = (RefTree.node C bs d o).2
        ∧ (n0.length = (RefTree.node C bs d o).1 → ∀ n ∈ srest, ∃ dn on, n = RefTree.nodeAt C bs dn on)) :=
  SeekSound.block_seek_sound C bs t f pk p b s n0 srest cs hb hs hsn hu (RefProof.canon_of_u64 hcan) hauth hv

/-- **hash + seek proofs** (no upgrade; the hash section starts with the requested node or the seek root is the requested
    node): the requested node carries the writer's hash; if its size is the writer's, the rest of the hash section and
    the seek root are the writer's, hence the bottom node of the seek section carries the writer's hash, and if its size
    is the writer's too, so is every node of the seek section. -/
theorem sound_hash_seek (C : Crypto) (bs : Array Bytes) (t : Tree) (f : File) (pk : Bytes) (p : Proof) (hsec : Codec.DataHash) (s : Codec.DataSeek)
    (m0 : Codec.Node) (hrest : List Codec.Node) (n0 : Codec.Node) (srest : List Codec.Node) (cs : Changeset) (hb : p.block = none) (hh : p.hash = some hsec)
    (hhn : hsec.nodes = m0 :: hrest) (hs : p.seek = some s) (hsn : s.nodes = n0 :: srest) (hu : p.upgrade = none)
    (hcan : n0.index < 2 ^ 64) (hcanh : hsec.index < 2 ^ 64) (hauth : Sound.StoreAuthentic C bs t f) (hv : t.verifyProof C f p pk = .ok cs) :
    Sound.Collision C ∨ ∃ dh oh d o, hsec.index = Flat.index dh oh ∧ n0.index = Flat.index d o ∧
      ((∃ sroot : Codec.Node, sroot.index = hsec.index ∧ sroot.hash = (RefTree.node C bs dh oh).2 ∧ n0.hash = (RefTree.node C bs d o).2
          ∧ (n0.length = (RefTree.node C bs d o).1 → ∀ n ∈ srest, ∃ dn on, n = RefTree.nodeAt C bs dn on))
        ∨ (m0.index = hsec.index ∧ m0.hash = (RefTree.node C bs dh oh).2
          ∧ (m0.length = (RefTree.node C bs dh oh).1 → (∀ n ∈ hrest, ∃ dn on, n = RefTree.nodeAt C bs dn on)
              ∧ (Sound.Collision C ∨ (n0.hash = (RefTree.node C bs d o).2
                ∧ (n0.length = (RefTree.node C bs d o).1 → ∀ n ∈ srest, ∃ dn on, n = RefTree.nodeAt C bs dn on)))))) :=
  SeekSound.hash_seek_sound C bs t f pk p hsec s m0 hrest n0 srest cs hb hh hhn hs hsn hu (RefProof.canon_of_u64 hcan)
    (RefProof.canon_of_u64 hcanh) hauth hv

/-- **hash section + upgrade in one proof** on any honest replica: the section's root waits in `verify_upgrade`'s queue
    as its extra node; either the upgrade consumes it — then it is one of the nodes that hash up to roots the writer
    signed (`HashUpgradeSound.upgrade_extra_auth`) — or it is compared with a stored node.  Either way the requested node
    carries the writer's hash (of the writer's log, or of its signed prefix of the adopted length), and if its size is
    the writer's, every other node of the section is the writer's node. -/
theorem sound_hash_upgrade (C : Crypto) (bs : Array Bytes) (wfork : Nat) (Signed : Bytes → Prop)
    (t : Tree) (f : File) (pk : Bytes) (p : Proof) (hsec : Codec.DataHash) (u : Codec.DataUpgrade) (cs' : Changeset)
    (hb : p.block = none) (hh : p.hash = some hsec) (hs : p.seek = none) (hu : p.upgrade = some u) (hcan : hsec.index < 2 ^ 64)
    (hcanon : ∀ l, t.changeset.roots.getLast? = some l → ∃ d o, l.index = Flat.index d o ∧ d ≤ 64)
    (hunf : ∀ m sig, C.verify pk m sig = true → Signed m)
    (hsig : ∀ m, Signed m → ∃ n, n ≤ bs.size ∧ m = RefTree.signableOf C (bs.extract 0 n) wfork)
    (hlen : ∀ x, (C.tree x).length = 32) (hsize : bs.size < 2 ^ 64) (hwf : wfork < 2 ^ 64)
    (hb1 : cs'.length < 2 ^ 64) (hb2 : p.fork < 2 ^ 64) (hT : u.start + u.length < 2 ^ 64)
    (hauth : Sound.StoreAuthentic C bs t f)
    (hv : t.verifyProof C f p pk = .ok cs') :
    Sound.Collision C ∨ Sound.TreeCollision C ∨ ∃ n0 rest d o, hsec.nodes = n0 :: rest ∧ hsec.index = Flat.index d o ∧ n0.index = hsec.index
      ∧ ((n0.hash = (RefTree.node C bs d o).2
          ∧ (n0.length = (RefTree.node C bs d o).1 → ∀ n ∈ rest, ∃ dn on, n = RefTree.nodeAt C bs dn on))
        ∨ (n0.hash = (RefTree.node C (bs.extract 0 cs'.length) d o).2
          ∧ (n0.length = (RefTree.node C (bs.extract 0 cs'.length) d o).1 → ∀ n ∈ rest, ∃ dn on, n = RefTree.nodeAt C (bs.extract 0 cs'.length) dn on))) :=
  HashUpgradeSound.hash_upgrade_sound C bs wfork Signed t f pk p hsec u cs' hb hh hs hu (RefProof.canon_of_u64 hcan) hcanon hunf hsig hlen
    hsize hwf hb1 hb2 hT hauth hv

/-- **seek section + upgrade** (no block, no hash section): the seek root is `verify_upgrade`'s extra node; the bottom
    node of the seek section carries the writer's hash, and if its size is the writer's every node of the section is the
    writer's node -/
theorem sound_seek_upgrade (C : Crypto) (bs : Array Bytes) (wfork : Nat) (Signed : Bytes → Prop)
    (t : Tree) (f : File) (pk : Bytes) (p : Proof) (s : Codec.DataSeek) (n0 : Codec.Node) (srest : List Codec.Node) (u : Codec.DataUpgrade) (cs' : Changeset)
    (hb : p.block = none) (hh : p.hash = none) (hs : p.seek = some s) (hsn : s.nodes = n0 :: srest) (hu : p.upgrade = some u) (hcan : n0.index < 2 ^ 64)
    (hcanon : ∀ l, t.changeset.roots.getLast? = some l → ∃ d o, l.index = Flat.index d o ∧ d ≤ 64)
    (hunf : ∀ m sig, C.verify pk m sig = true → Signed m)
    (hsig : ∀ m, Signed m → ∃ n, n ≤ bs.size ∧ m = RefTree.signableOf C (bs.extract 0 n) wfork)
    (hlen : ∀ x, (C.tree x).length = 32) (hsize : bs.size < 2 ^ 64) (hwf : wfork < 2 ^ 64)
    (hb1 : cs'.length < 2 ^ 64) (hb2 : p.fork < 2 ^ 64) (hT : u.start + u.length < 2 ^ 64)
    (hauth : Sound.StoreAuthentic C bs t f)
    (hv : t.verifyProof C f p pk = .ok cs') :
    Sound.Collision C ∨ Sound.TreeCollision C ∨ ∃ d o, n0.index = Flat.index d o
      ∧ ((n0.hash = (RefTree.node C bs d o).2
          ∧ (n0.length = (RefTree.node C bs d o).1 → ∀ n ∈ srest, ∃ dn on, n = RefTree.nodeAt C bs dn on))
        ∨ (n0.hash = (RefTree.node C (bs.extract 0 cs'.length) d o).2
          ∧ (n0.length = (RefTree.node C (bs.extract 0 cs'.length) d o).1 → ∀ n ∈ srest, ∃ dn on, n = RefTree.nodeAt C (bs.extract 0 cs'.length) dn on))) :=
  HashUpgradeSound.seek_upgrade_sound C bs wfork Signed t f pk p s n0 srest u cs' hb hh hs hsn hu (RefProof.canon_of_u64 hcan) hcanon hunf hsig
    hlen hsize hwf hb1 hb2 hT hauth hv

/-- **block + seek + upgrade in one proof**: the conclusion of `sound_block_seek` with respect to the writer's log, or to
    its signed prefix of the adopted length when the upgrade consumed the block's root -/
theorem sound_block_seek_upgrade (C : Crypto) (bs : Array Bytes) (wfork : Nat) (Signed : Bytes → Prop)
    (t : Tree) (f : File) (pk : Bytes) (p : Proof) (b : Codec.DataBlock) (s : Codec.DataSeek) (n0 : Codec.Node) (srest : List Codec.Node)
    (u : Codec.DataUpgrade) (cs' : Changeset)
    (hb : p.block = some b) (hs : p.seek = some s) (hsn : s.nodes = n0 :: srest) (hu : p.upgrade = some u) (hcan : n0.index < 2 ^ 64)
    (hcanon : ∀ l, t.changeset.roots.getLast? = some l → ∃ d o, l.index = Flat.index d o ∧ d ≤ 64)
    (hunf : ∀ m sig, C.verify pk m sig = true → Signed m)
    (hsig : ∀ m, Signed m → ∃ n, n ≤ bs.size ∧ m = RefTree.signableOf C (bs.extract 0 n) wfork)
    (hlen : ∀ x, (C.tree x).length = 32) (hsize : bs.size < 2 ^ 64) (hwf : wfork < 2 ^ 64)
    (hb1 : cs'.length < 2 ^ 64) (hb2 : p.fork < 2 ^ 64) (hT : u.start + u.length < 2 ^ 64)
    (hauth : Sound.StoreAuthentic C bs t f)
    (hv : t.verifyProof C f p pk = .ok cs') :
    Sound.Collision C ∨ Sound.TreeCollision C
      ∨ (b.value = bs.getD b.index [] ∧ (∀ n ∈ b.nodes, ∃ dn on, n = RefTree.nodeAt C bs dn on)
          ∧ ∃ d o, n0.index = Flat.index d o ∧ n0.hash = (RefTree.node C bs d o).2
            ∧ (n0.length = (RefTree.node C bs d o).1 → ∀ n ∈ srest, ∃ dn on, n = RefTree.nodeAt C bs dn on))
      ∨ (b.value = (bs.extract 0 cs'.length).getD b.index [] ∧ (∀ n ∈ b.nodes, ∃ dn on, n = RefTree.nodeAt C (bs.extract 0 cs'.length) dn on)
          ∧ ∃ d o, n0.index = Flat.index d o ∧ n0.hash = (RefTree.node C (bs.extract 0 cs'.length) d o).2
            ∧ (n0.length = (RefTree.node C (bs.extract 0 cs'.length) d o).1 → ∀ n ∈ srest, ∃ dn on, n = RefTree.nodeAt C (bs.extract 0 cs'.length) dn on)) :=
  HashUpgradeSound.block_seek_upgrade_sound C bs wfork Signed t f pk p b s n0 srest u cs' hb hs hsn hu (RefProof.canon_of_u64 hcan) hcanon hunf
    hsig hlen hsize hwf hb1 hb2 hT hauth hv

/-- **seek-only proofs** (no block, no hash section, no upgrade): the seek root is compared with a stored node -/
theorem sound_seek (C : Crypto) (bs : Array Bytes) (t : Tree) (f : File) (pk : Bytes) (p : Proof) (s : Codec.DataSeek) (n0 : Codec.Node)
    (srest : List Codec.Node) (cs' : Changeset) (hb : p.block = none) (hh : p.hash = none) (hs : p.seek = some s) (hsn : s.nodes = n0 :: srest)
    (hu : p.upgrade = none) (hcan : n0.index < 2 ^ 64) (hauth : Sound.StoreAuthentic C bs t f) (hv : t.verifyProof C f p pk = .ok cs') :
    Sound.Collision C ∨ ∃ d o, n0.index = Flat.index d o ∧ n0.hash = (RefTree.node C bs d o).2
      ∧ (n0.length = (RefTree.node C bs d o).1 → ∀ n ∈ srest, ∃ dn on, n = RefTree.nodeAt C bs dn on) := by
  obtain ⟨root, cs1, hvt, hr⟩ := SeekSound.verifyProof_root_stored C bs t f pk p cs' hu hauth hv
  obtain ⟨r, d, o, rfl, hidx, hsound⟩ := SeekSound.seek_section C p s n0 srest _ root cs1 hb hh hs hsn (RefProof.canon_of_u64 hcan) hvt
  exact (hsound bs (hr r rfl)).imp_right fun hp => ⟨d, o, hidx, hp⟩

/-- so the theorems stated for `p.seek = none` cover a seek section without nodes -/
theorem empty_seek_is_no_seek (C : Crypto) (t : Tree) (f : File) (p : Proof) (pk : Bytes) (s : Codec.DataSeek) (hp : p.seek = some s) (hs : s.nodes = []) :
    t.verifyProof C f p pk = t.verifyProof C f { p with seek := none } pk := by
  rw [verifyProof_eq, verifyProof_eq, hp, verifyTree_empty_seek C p.block p.hash s hs]

/-- **hash + seek + upgrade in one proof**: the conclusion of `sound_hash_seek` (`HashUpgradeSound.HSOK`) with respect to the
    writer's log, or to its signed prefix of the adopted length when the upgrade consumed the section's root.  This is
    the last combination of sections `verify_proof` accepts (a block section takes precedence over a hash section). -/
theorem sound_hash_seek_upgrade (C : Crypto) (bs : Array Bytes) (wfork : Nat) (Signed : Bytes → Prop)
    (t : Tree) (f : File) (pk : Bytes) (p : Proof) (hsec : Codec.DataHash) (s : Codec.DataSeek) (m0 : Codec.Node) (hrest : List Codec.Node)
    (n0 : Codec.Node) (srest : List Codec.Node) (u : Codec.DataUpgrade) (cs' : Changeset)
    (hb : p.block = none) (hh : p.hash = some hsec) (hhn : hsec.nodes = m0 :: hrest) (hs : p.seek = some s) (hsn : s.nodes = n0 :: srest)
    (hu : p.upgrade = some u) (hcan : n0.index < 2 ^ 64) (hcanh : hsec.index < 2 ^ 64)
    (hcanon : ∀ l, t.changeset.roots.getLast? = some l → ∃ d o, l.index = Flat.index d o ∧ d ≤ 64)
    (hunf : ∀ m sig, C.verify pk m sig = true → Signed m)
    (hsig : ∀ m, Signed m → ∃ n, n ≤ bs.size ∧ m = RefTree.signableOf C (bs.extract 0 n) wfork)
    (hlen : ∀ x, (C.tree x).length = 32) (hsize : bs.size < 2 ^ 64) (hwf : wfork < 2 ^ 64)
    (hb1 : cs'.length < 2 ^ 64) (hb2 : p.fork < 2 ^ 64) (hT : u.start + u.length < 2 ^ 64)
    (hauth : Sound.StoreAuthentic C bs t f)
    (hv : t.verifyProof C f p pk = .ok cs') :
    Sound.Collision C ∨ Sound.TreeCollision C ∨ HashUpgradeSound.HSOK C bs hsec m0 hrest n0 srest
      ∨ HashUpgradeSound.HSOK C (bs.extract 0 cs'.length) hsec m0 hrest n0 srest :=
  HashUpgradeSound.hash_seek_upgrade_sound C bs wfork Signed t f pk p hsec s m0 hrest n0 srest u cs' hb hh hhn hs hsn hu
    (RefProof.canon_of_u64 hcan) (RefProof.canon_of_u64 hcanh) hcanon hunf hsig hlen hsize hwf hb1 hb2 hT hauth hv

/-- `HSOK` is the conclusion of `sound_hash_seek` -/
example (C : Crypto) (B : Array Bytes) (hsec : Codec.DataHash) (m0 : Codec.Node) (hrest : List Codec.Node) (n0 : Codec.Node) (srest : List Codec.Node) :
    HashUpgradeSound.HSOK C B hsec m0 hrest n0 srest ↔ ∃ dh oh d o, hsec.index = Flat.index dh oh ∧ n0.index = Flat.index d o ∧
      ((∃ sroot : Codec.Node, sroot.index = hsec.index ∧ sroot.hash = (RefTree.node C B dh oh).2 ∧ n0.hash = (RefTree.node C B d o).2
          ∧ (n0.length = (RefTree.node C B d o).1 → ∀ n ∈ srest, ∃ dn on, n = RefTree.nodeAt C B dn on))
        ∨ (m0.index = hsec.index ∧ m0.hash = (RefTree.node C B dh oh).2
          ∧ (m0.length = (RefTree.node C B dh oh).1 → (∀ n ∈ hrest, ∃ dn on, n = RefTree.nodeAt C B dn on)
              ∧ (Sound.Collision C ∨ (n0.hash = (RefTree.node C B d o).2
                ∧ (n0.length = (RefTree.node C B d o).1 → ∀ n ∈ srest, ∃ dn on, n = RefTree.nodeAt C B dn on)))))) := Iff.rfl

end HC.C04
