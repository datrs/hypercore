import HC.Model.Proof
/-! Basic facts about the verification side: the equations and inversions of the verifier's functions
    (node queue, the merge loop of `append_root`, climb, the loops of `verify_upgrade`, `verify_tree`, `verify_proof`),
    the lifting of an invariant of `append_root` through `verify_upgrade`, totality of the node queue and of the climb,
    and `verify_and_apply_proof` by its outcome: "a refused proof changes nothing", and what an accepted one returns. -/
namespace HC.Tree
open HC.Codec HC.Flat

/-! ### sequencing in `R` -/

@[simp] theorem ok_andThen {α β : Type} (a : α) (k : α → R β) : andThen (.ok a) k = k a := rfl
@[simp] theorem error_andThen {α β : Type} (e : Fail) (k : α → R β) : andThen (.error e) k = .error e := rfl

theorem andThen_assoc {α β γ : Type} (r : R α) (f : α → R β) (g : β → R γ) :
    andThen (andThen r f) g = andThen r fun a => andThen (f a) g := by
  cases r <;> rfl

theorem andThen_ok_iff {α β : Type} (r : R α) (k : α → R β) (b : β) :
    andThen r k = .ok b ↔ ∃ a, r = .ok a ∧ k a = .ok b := by
  cases r with
  | error e => simp
  | ok a => simp

/-- the shape of a loop round: done, or one fallible step that yields a pair, and go on -/
theorem ite_andThen_ok_iff {α γ β : Type} (c : Prop) [Decidable c] (a : β) (r : R (α × γ)) (k : α × γ → R β) (b : β) :
    (if c then .ok a else andThen r k) = .ok b ↔ (c ∧ b = a) ∨ (¬ c ∧ ∃ x y, r = .ok (x, y) ∧ k (x, y) = .ok b) := by
  by_cases h : c
  · rw [if_pos h]
    exact ⟨fun e => Or.inl ⟨h, (Except.ok.inj e).symm⟩, fun e => e.elim (fun e => by rw [e.2]) (fun e => absurd h e.1)⟩
  · rw [if_neg h, andThen_ok_iff]
    exact ⟨fun ⟨x, e⟩ => Or.inr ⟨h, x.1, x.2, e⟩, fun e => e.elim (fun e => absurd e.1 h) (fun ⟨_, x, y, e⟩ => ⟨(x, y), e⟩)⟩

def NotPanic {α : Type} (r : R α) : Prop := r ≠ .error .panic

@[simp] theorem notPanic_ok {α : Type} (a : α) : NotPanic (.ok a : R α) := by simp [NotPanic]
@[simp] theorem notPanic_err {α : Type} : NotPanic (.error .err : R α) := by simp [NotPanic]

theorem andThen_notPanic {α β : Type} (r : R α) (f : α → R β) (hr : NotPanic r) (hf : ∀ a, r = .ok a → NotPanic (f a)) :
    NotPanic (andThen r f) := by
  cases r with
  | error e =>
    cases e with
    | err => exact notPanic_err
    | panic => exact absurd rfl hr
  | ok a => exact hf a rfl

/-- the error branch of a step the model writes as `match r with | .error e => .error e | .ok a => …`, after `split` -/
theorem NotPanic.of_error {α β : Type} {r : R α} (hr : NotPanic r) {e : Fail} (he : r = .error e) :
    NotPanic (.error e : R β) := by
  intro h
  cases h
  exact hr he

theorem requiredNode_eq_ok_iff (t : Tree) (f : File) (i : Nat) (n : Node) :
    t.requiredNode f i = .ok n ↔ t.node? f i = some n := by
  unfold Tree.requiredNode
  cases t.node? f i <;> simp

@[simp] theorem requiredNode_notPanic (t : Tree) (f : File) (i : Nat) : NotPanic (t.requiredNode f i) := by
  unfold Tree.requiredNode
  cases t.node? f i <;> simp

@[simp] theorem index_new (i : Nat) : (Iter.new i).index = i := by
  unfold Iter.new
  split <;> rfl

/-! ### the node queue -/

theorem shift_of_extra (q : NodeQueue) (e : Node) (i : Nat) (h : q.extra = some e) (hi : e.index = i) :
    q.shift i = .ok (e, { q with extra := none, length := q.length - 1 }) := by
  simp [NodeQueue.shift, h, hi]

theorem shift_plain_eq (q : NodeQueue) (i : Nat) (he : ∀ e, q.extra = some e → e.index ≠ i) :
    q.shift i = match q.nodes with
      | [] => .error .err
      | n :: ns => if n.index ≠ i then .error .err else .ok (n, { q with nodes := ns, length := q.length - 1 }) := by
  unfold NodeQueue.shift
  cases hx : q.extra with
  | none => rfl
  | some e =>
    simp only [he e hx, ite_false]
    rfl

theorem shift_of_head (q : NodeQueue) (n : Node) (ns : List Node) (i : Nat) (he : ∀ e, q.extra = some e → e.index ≠ i)
    (hn : q.nodes = n :: ns) (hi : n.index = i) :
    q.shift i = .ok (n, { q with nodes := ns, length := q.length - 1 }) := by
  simp [shift_plain_eq q i he, hn, hi]

theorem shift_ok_iff (q : NodeQueue) (i : Nat) (n : Node) (q' : NodeQueue) :
    q.shift i = .ok (n, q') ↔
      (q.extra = some n ∧ n.index = i ∧ q' = { q with extra := none, length := q.length - 1 })
      ∨ ((∀ e, q.extra = some e → e.index ≠ i) ∧ ∃ ns, q.nodes = n :: ns ∧ n.index = i
          ∧ q' = { q with nodes := ns, length := q.length - 1 }) := by
  constructor
  · intro h
    by_cases hx : ∃ e, q.extra = some e ∧ e.index = i
    · obtain ⟨e, h1, h2⟩ := hx
      rw [shift_of_extra q e i h1 h2] at h
      cases h
      exact Or.inl ⟨h1, h2, rfl⟩
    · have he : ∀ e, q.extra = some e → e.index ≠ i := fun e h1 h2 => hx ⟨e, h1, h2⟩
      rw [shift_plain_eq q i he] at h
      cases hn : q.nodes with
      | nil => rw [hn] at h; cases h
      | cons a ns =>
        rw [hn] at h
        by_cases ha : a.index = i
        · simp only [ha, ne_eq, not_true_eq_false, ite_false] at h
          cases h
          exact Or.inr ⟨he, ns, rfl, ha, rfl⟩
        · simp [ha] at h
  · rintro (⟨h1, h2, rfl⟩ | ⟨h1, ns, h2, h3, rfl⟩)
    · exact shift_of_extra q n i h1 h2
    · exact shift_of_head q n ns i h1 h2 h3

/-- a queue without an extra node gives up its head, if that has the index asked for -/
theorem shift_plain_ok {q : NodeQueue} (hq : q.extra = none) {i : Nat} {n : Node} {q' : NodeQueue} (hs : q.shift i = .ok (n, q')) :
    ∃ ns, q.nodes = n :: ns ∧ n.index = i ∧ q' = { q with nodes := ns, length := q.length - 1 } := by
  rcases (shift_ok_iff q i n q').mp hs with ⟨he, _⟩ | ⟨_, h⟩
  · rw [hq] at he; cases he
  · exact h

theorem shift_of_nodes {q : NodeQueue} {n : Node} {ns : List Node} (hex : q.extra = none) (hn : q.nodes = n :: ns) :
    q.shift n.index = .ok (n, { q with nodes := ns, length := q.length - 1 }) :=
  shift_of_head q n ns _ (fun e he => by rw [hex] at he; cases he) hn rfl

theorem shift_index (q : NodeQueue) (i : Nat) (n : Node) (q' : NodeQueue) (h : q.shift i = .ok (n, q')) : n.index = i := by
  rcases (shift_ok_iff q i n q').mp h with ⟨_, h, _⟩ | ⟨_, _, _, h, _⟩ <;> exact h

theorem shift_length (q : NodeQueue) (i : Nat) (n : Node) (q' : NodeQueue) (h : q.shift i = .ok (n, q')) :
    q'.length = q.length - 1 := by
  rcases (shift_ok_iff q i n q').mp h with ⟨_, _, rfl⟩ | ⟨_, _, _, _, rfl⟩ <;> rfl

def NodeQueue.count (q : NodeQueue) : Nat := q.nodes.length + (if q.extra.isSome then 1 else 0)

theorem NodeQueue.count_lt (q : NodeQueue) : q.count < q.nodes.length + 3 := by
  unfold NodeQueue.count
  split <;> omega

theorem shift_count (q : NodeQueue) (i : Nat) (n : Node) (q' : NodeQueue) (h : q.shift i = .ok (n, q')) :
    q'.count + 1 = q.count := by
  unfold NodeQueue.count
  rcases (shift_ok_iff q i n q').mp h with ⟨he, _, rfl⟩ | ⟨_, ns, hn, _, rfl⟩
  · simp [he]
  · simp only [hn, List.length_cons]
    omega

theorem shift_ne_panic (q : NodeQueue) (i : Nat) : q.shift i ≠ .error .panic := by
  by_cases hx : ∃ e, q.extra = some e ∧ e.index = i
  · obtain ⟨e, h1, h2⟩ := hx
    rw [shift_of_extra q e i h1 h2]
    exact notPanic_ok _
  · rw [shift_plain_eq q i fun e h1 h2 => hx ⟨e, h1, h2⟩]
    cases q.nodes with
    | nil => exact notPanic_err
    | cons a ns => dsimp only; split <;> simp

theorem of_ite {α : Type} {Q : α → Prop} {c : Prop} [Decidable c] {a b : α} (ha : c → Q a) (hb : ¬ c → Q b) :
    Q (if c then a else b) := by
  by_cases h : c
  · rw [if_pos h]; exact ha h
  · rw [if_neg h]; exact hb h

/-! ### the merge loop of `append_root` -/

theorem mergeLoop_single (C : Crypto) (fuel : Nat) (a : Node) (nodes : List Node) (it : Iter) :
    mergeLoop C fuel [a] nodes it = ([a], nodes, it) := by
  cases fuel <;> rfl

theorem mergeLoop_nomerge (C : Crypto) (fuel : Nat) (a b : Node) (rest nodes : List Node) (it : Iter)
    (h : it.sibling.index ≠ b.index) :
    mergeLoop C (fuel + 1) (a :: b :: rest) nodes it = (a :: b :: rest, nodes, it.sibling.sibling) := by
  rw [mergeLoop, if_pos h]

theorem mergeLoop_merge (C : Crypto) (fuel : Nat) (a b : Node) (rest nodes : List Node) (it : Iter)
    (h : it.sibling.index = b.index) :
    mergeLoop C (fuel + 1) (a :: b :: rest) nodes it =
      mergeLoop C fuel ((⟨it.sibling.parent.index, a.length + b.length, parentHash C a b⟩ : Node) :: rest)
        ((⟨it.sibling.parent.index, a.length + b.length, parentHash C a b⟩ : Node) :: nodes) it.sibling.parent := by
  rw [mergeLoop, if_neg fun hne => hne h]

/-- a property of (roots, nodes, iterator) that both moves of the loop keep — leaving without a merge, and merging
    the two topmost roots — holds of the loop's result -/
theorem mergeLoop_inv (C : Crypto) (P : List Node → List Node → Iter → Prop)
    (hstop : ∀ r n it, P r n it → P r n it.sibling.sibling)
    (hmerge : ∀ a b rest n it, P (a :: b :: rest) n it →
      P ((⟨it.sibling.parent.index, a.length + b.length, parentHash C a b⟩ : Node) :: rest)
        ((⟨it.sibling.parent.index, a.length + b.length, parentHash C a b⟩ : Node) :: n) it.sibling.parent) :
    ∀ (fuel : Nat) (r n : List Node) (it : Iter), P r n it →
      P (mergeLoop C fuel r n it).1 (mergeLoop C fuel r n it).2.1 (mergeLoop C fuel r n it).2.2 := by
  intro fuel
  induction fuel with
  | zero => exact fun r n it h => h
  | succ fuel ih =>
    intro r n it h
    match r with
    | [] => exact h
    | [a] => exact h
    | a :: b :: rest =>
      by_cases hs : it.sibling.index = b.index
      · rw [mergeLoop_merge C fuel a b rest n it hs]
        exact ih _ _ _ (hmerge a b rest n it h)
      · rw [mergeLoop_nomerge C fuel a b rest n it hs]
        exact hstop _ _ _ h

/-! ### one round of each loop -/

theorem climb_succ (C : Crypto) (fuel : Nat) (q : NodeQueue) (it : Iter) (cur : Node) (rn : List Node) :
    climb C (fuel + 1) q it cur rn =
      if q.length = 0 then .ok (cur, rn)
      else andThen (q.shift it.sibling.index) fun x =>
        climb C fuel x.2 it.sibling.parent (parentNode C it.sibling.parent.index cur x.1)
          (parentNode C it.sibling.parent.index cur x.1 :: x.1 :: rn) := by
  rw [climb]
  split
  · rfl
  · dsimp only
    cases q.shift it.sibling.index <;> rfl

theorem growLoop_succ (C : Crypto) (ri fuel : Nat) (cs : Changeset) (it : Iter) (q : NodeQueue) :
    growLoop C ri (fuel + 1) cs it q =
      if it.index = ri then .ok (cs, it, q)
      else andThen (q.shift it.sibling.index) fun x =>
        growLoop C ri fuel (appendRoot C cs x.1 it.sibling).1 (appendRoot C cs x.1 it.sibling).2 x.2 := by
  rw [growLoop]
  split
  · rfl
  · dsimp only
    cases q.shift it.sibling.index <;> rfl

theorem growLoop_done (C : Crypto) (ri fuel : Nat) (cs : Changeset) (it : Iter) (q : NodeQueue) (h : it.index = ri) :
    growLoop C ri (fuel + 1) cs it q = .ok (cs, it, q) := by
  rw [growLoop_succ, if_pos h]

theorem growLoop_step (C : Crypto) (ri fuel : Nat) (cs : Changeset) (it : Iter) (q : NodeQueue) (n : Node) (q' : NodeQueue)
    (h : it.index ≠ ri) (hs : q.shift it.sibling.index = .ok (n, q')) :
    growLoop C ri (fuel + 1) cs it q
      = growLoop C ri fuel (appendRoot C cs n it.sibling).1 (appendRoot C cs n it.sibling).2 q' := by
  rw [growLoop_succ, if_neg h, hs]
  rfl

theorem growLoop_succ_ok (C : Crypto) (ri fuel : Nat) (cs : Changeset) (it : Iter) (q : NodeQueue) (r : Changeset × Iter × NodeQueue) :
    growLoop C ri (fuel + 1) cs it q = .ok r ↔
      (it.index = ri ∧ r = (cs, it, q))
      ∨ (it.index ≠ ri ∧ ∃ n q', q.shift it.sibling.index = .ok (n, q')
          ∧ growLoop C ri fuel (appendRoot C cs n it.sibling).1 (appendRoot C cs n it.sibling).2 q' = .ok r) := by
  rw [growLoop_succ, ite_andThen_ok_iff]

/-- one round of the root loop: stop, skip a root the replica has, grow its last root, or take a new root from the queue.
    The grow loop's fuel `st.q.nodes.length + 3` is the model's: every round but the last shifts a queued node. -/
theorem upgradeRoots_succ (C : Crypto) (to fuel : Nat) (st : UpState) :
    upgradeRoots C to (fuel + 1) st =
      if (st.it.fullRoot to).1 = false then .ok { st with it := (st.it.fullRoot to).2 }
      else if st.i < st.cs.roots.length ∧ (st.cs.roots.getD st.i default).index = (st.it.fullRoot to).2.index then
        upgradeRoots C to fuel { st with i := st.i + 1, it := (st.it.fullRoot to).2.nextTree }
      else if st.grow ∧ st.i < st.cs.roots.length then
        andThen (growLoop C (st.it.fullRoot to).2.index (st.q.nodes.length + 3) st.cs
            (Iter.new (st.cs.roots.getLast?.getD default).index) st.q) fun r =>
          upgradeRoots C to fuel { st with cs := r.1, it := r.2.1.nextTree, q := r.2.2, grow := false }
      else
        andThen (st.q.shift (st.it.fullRoot to).2.index) fun x =>
          upgradeRoots C to fuel { st with cs := (appendRoot C st.cs x.1 (st.it.fullRoot to).2).1,
                                           it := (appendRoot C st.cs x.1 (st.it.fullRoot to).2).2.nextTree,
                                           q := x.2, grow := false } := by
  rw [upgradeRoots]
  generalize st.it.fullRoot to = fr
  obtain ⟨full, it⟩ := fr
  cases full with
  | false => rfl
  | true =>
    dsimp only
    rw [Bool.not_true, if_neg Bool.false_ne_true, if_neg (fun h : true = false => Bool.noConfusion h)]
    split
    · rfl
    · split
      · cases growLoop C it.index (st.q.nodes.length + 3) st.cs (Iter.new (st.cs.roots.getLast?.getD default).index) st.q <;> rfl
      · cases st.q.shift it.index <;> rfl

theorem upgradeRoots_succ_done (C : Crypto) (to fuel : Nat) (st : UpState) (it : Iter) (hfr : st.it.fullRoot to = (false, it)) :
    upgradeRoots C to (fuel + 1) st = .ok { st with it := it } := by
  simp [upgradeRoots_succ, hfr]

theorem upgradeRoots_succ_skip (C : Crypto) (to fuel : Nat) (st : UpState) (it : Iter) (hfr : st.it.fullRoot to = (true, it))
    (hm : st.i < st.cs.roots.length ∧ (st.cs.roots.getD st.i default).index = it.index) :
    upgradeRoots C to (fuel + 1) st = upgradeRoots C to fuel { st with i := st.i + 1, it := it.nextTree } := by
  simp only [upgradeRoots_succ, hfr, Bool.true_eq_false, ite_false]
  rw [if_pos hm]

theorem upgradeRoots_succ_grow (C : Crypto) (to fuel : Nat) (st : UpState) (it : Iter) (hfr : st.it.fullRoot to = (true, it))
    (hm : ¬ (st.i < st.cs.roots.length ∧ (st.cs.roots.getD st.i default).index = it.index))
    (hg : st.grow = true ∧ st.i < st.cs.roots.length) (cs' : Changeset) (it' : Iter) (q' : NodeQueue)
    (hgl : growLoop C it.index (st.q.nodes.length + 3) st.cs (Iter.new (st.cs.roots.getLast?.getD default).index) st.q
      = .ok (cs', it', q')) :
    upgradeRoots C to (fuel + 1) st
      = upgradeRoots C to fuel { st with cs := cs', it := it'.nextTree, q := q', grow := false } := by
  simp only [upgradeRoots_succ, hfr, Bool.true_eq_false, ite_false]
  rw [if_neg hm, if_pos hg, hgl]
  rfl

theorem upgradeRoots_succ_shift (C : Crypto) (to fuel : Nat) (st : UpState) (it : Iter) (hfr : st.it.fullRoot to = (true, it))
    (hm : ¬ (st.i < st.cs.roots.length ∧ (st.cs.roots.getD st.i default).index = it.index))
    (hg : ¬ (st.grow = true ∧ st.i < st.cs.roots.length)) (n : Node) (q' : NodeQueue)
    (hs : st.q.shift it.index = .ok (n, q')) :
    upgradeRoots C to (fuel + 1) st
      = upgradeRoots C to fuel { st with cs := (appendRoot C st.cs n it).1, it := (appendRoot C st.cs n it).2.nextTree,
                                          q := q', grow := false } := by
  simp only [upgradeRoots_succ, hfr, Bool.true_eq_false, ite_false]
  rw [if_neg hm, if_neg hg, hs]
  rfl

theorem upgradeRoots_succ_ok (C : Crypto) (to fuel : Nat) (st st' : UpState) (full : Bool) (it : Iter)
    (hfr : st.it.fullRoot to = (full, it)) (h : upgradeRoots C to (fuel + 1) st = .ok st') :
    (full = false ∧ st' = { st with it := it })
    ∨ (full = true ∧ (st.i < st.cs.roots.length ∧ (st.cs.roots.getD st.i default).index = it.index)
        ∧ upgradeRoots C to fuel { st with i := st.i + 1, it := it.nextTree } = .ok st')
    ∨ (full = true ∧ ¬ (st.i < st.cs.roots.length ∧ (st.cs.roots.getD st.i default).index = it.index)
        ∧ (st.grow = true ∧ st.i < st.cs.roots.length)
        ∧ ∃ cs' it' q', growLoop C it.index (st.q.nodes.length + 3) st.cs
              (Iter.new (st.cs.roots.getLast?.getD default).index) st.q = .ok (cs', it', q')
            ∧ upgradeRoots C to fuel { st with cs := cs', it := it'.nextTree, q := q', grow := false } = .ok st')
    ∨ (full = true ∧ ¬ (st.i < st.cs.roots.length ∧ (st.cs.roots.getD st.i default).index = it.index)
        ∧ ¬ (st.grow = true ∧ st.i < st.cs.roots.length)
        ∧ ∃ n q', st.q.shift it.index = .ok (n, q')
            ∧ upgradeRoots C to fuel { st with cs := (appendRoot C st.cs n it).1, it := (appendRoot C st.cs n it).2.nextTree,
                                                q := q', grow := false } = .ok st') := by
  rw [upgradeRoots_succ, hfr] at h
  cases full with
  | false =>
    simp only [ite_true, Except.ok.injEq] at h
    exact Or.inl ⟨rfl, h.symm⟩
  | true =>
    simp only [Bool.true_eq_false, ite_false] at h
    refine Or.inr ?_
    by_cases hm : st.i < st.cs.roots.length ∧ (st.cs.roots.getD st.i default).index = it.index
    · rw [if_pos hm] at h
      exact Or.inl ⟨rfl, hm, h⟩
    · rw [if_neg hm] at h
      refine Or.inr ?_
      by_cases hg : st.grow = true ∧ st.i < st.cs.roots.length
      · rw [if_pos hg] at h
        obtain ⟨⟨cs', it', q'⟩, hgl, h⟩ := (andThen_ok_iff _ _ _).mp h
        exact Or.inl ⟨rfl, hm, hg, cs', it', q', hgl, h⟩
      · rw [if_neg hg] at h
        obtain ⟨⟨n, q'⟩, hs, h⟩ := (andThen_ok_iff _ _ _).mp h
        exact Or.inr ⟨rfl, hm, hg, n, q', hs, h⟩

theorem extraSiblings_zero (C : Crypto) (cs : Changeset) (it : Iter) (ex : List Node) :
    extraSiblings C 0 cs it ex = (cs, it, ex) := by
  rw [extraSiblings]

theorem extraSiblings_nil (C : Crypto) (fuel : Nat) (cs : Changeset) (it : Iter) :
    extraSiblings C fuel cs it [] = (cs, it, []) := by
  cases fuel <;> rfl

theorem extraSiblings_cons (C : Crypto) (fuel : Nat) (cs : Changeset) (it : Iter) (n : Node) (ex : List Node) :
    extraSiblings C (fuel + 1) cs it (n :: ex) =
      if n.index = it.sibling.index then
        extraSiblings C fuel (appendRoot C cs n it.sibling).1 (appendRoot C cs n it.sibling).2 ex
      else (cs, it.sibling, n :: ex) := by
  rw [extraSiblings]

theorem extraRest_nil (C : Crypto) (cs : Changeset) (it : Iter) : extraRest C cs it [] = .ok (cs, it) := by
  rw [extraRest]

theorem extraRest_cons (C : Crypto) (cs : Changeset) (it : Iter) (n : Node) (ex : List Node) :
    extraRest C cs it (n :: ex) =
      andThen (descendTo n.index (it.factor + 1) it) fun it1 =>
        extraRest C (appendRoot C cs n it1).1 (appendRoot C cs n it1).2.sibling ex := by
  rw [extraRest]
  cases descendTo n.index (it.factor + 1) it <;> rfl

theorem extraRest_cons_ok (C : Crypto) (cs : Changeset) (it : Iter) (n : Node) (ex : List Node) (r : Changeset × Iter) :
    extraRest C cs it (n :: ex) = .ok r ↔
      ∃ it1, descendTo n.index (it.factor + 1) it = .ok it1
        ∧ extraRest C (appendRoot C cs n it1).1 (appendRoot C cs n it1).2.sibling ex = .ok r := by
  rw [extraRest_cons, andThen_ok_iff]

/-! ### `verify_upgrade` -/

theorem checkSignature_ok_iff (C : Crypto) (fork : Nat) (u : DataUpgrade) (pk : Bytes) (consumed : Bool) (cs2 : Changeset)
    (c : Bool) (cs' : Changeset) :
    checkSignature C fork u pk consumed cs2 = .ok (c, cs') ↔
      u.signature.length = 64 ∧ C.verify pk (signable (rootsHash C cs2.roots) cs2.length fork) u.signature = true
        ∧ c = consumed
        ∧ cs' = { cs2 with fork := fork, hash := some (rootsHash C cs2.roots), signature := some u.signature } := by
  unfold checkSignature
  by_cases hl : u.signature.length = 64
  · by_cases hv : C.verify pk (signable (rootsHash C cs2.roots) cs2.length fork) u.signature = true
    · simp [hl, hv, eq_comm]
    · simp [hl, hv]
  · simp [hl]

theorem verifyUpgrade_ok_iff (C : Crypto) (fork : Nat) (u : DataUpgrade) (blockRoot : Option Node) (pk : Bytes)
    (cs : Changeset) (c : Bool) (cs' : Changeset) :
    verifyUpgrade C fork u blockRoot pk cs = .ok (c, cs') ↔
      ∃ st last x,
        upgradeRoots C (2 * (u.start + u.length)) (2 * (u.start + u.length) + 2)
            ⟨cs, Iter.new 0, NodeQueue.new u.nodes blockRoot, 0, !cs.roots.isEmpty⟩ = .ok st
        ∧ st.cs.roots.getLast? = some last
        ∧ extraRest C (extraSiblings C (u.additionalNodes.length + 1) st.cs (Iter.new last.index) u.additionalNodes).1
            (extraSiblings C (u.additionalNodes.length + 1) st.cs (Iter.new last.index) u.additionalNodes).2.1
            (extraSiblings C (u.additionalNodes.length + 1) st.cs (Iter.new last.index) u.additionalNodes).2.2 = .ok x
        ∧ u.signature.length = 64
        ∧ C.verify pk (signable (rootsHash C x.1.roots) x.1.length fork) u.signature = true
        ∧ c = st.q.extra.isNone
        ∧ cs' = { x.1 with fork := fork, hash := some (rootsHash C x.1.roots), signature := some u.signature } := by
  unfold verifyUpgrade
  simp only [andThen_ok_iff]
  constructor
  · rintro ⟨st, hst, h⟩
    cases hl : st.cs.roots.getLast? with
    | none => rw [hl] at h; cases h
    | some last =>
      rw [hl] at h
      obtain ⟨x, hx, h⟩ := (andThen_ok_iff _ _ _).mp h
      exact ⟨st, last, x, hst, hl, hx, (checkSignature_ok_iff ..).mp h⟩
  · rintro ⟨st, last, x, hst, hl, hx, h⟩
    refine ⟨st, hst, ?_⟩
    rw [hl]
    exact (andThen_ok_iff _ _ _).mpr ⟨x, hx, (checkSignature_ok_iff ..).mpr h⟩

/-! ### `verify_tree`, by the sections the proof carries -/

theorem seekHalf_none (C : Crypto) (rn : List Node) : seekHalf C none rn = .ok (none, rn) := rfl

theorem seekHalf_nil (C : Crypto) (s : DataSeek) (rn : List Node) (hs : s.nodes = []) :
    seekHalf C (some s) rn = .ok (none, rn) := by
  simp [seekHalf, hs]

theorem seekHalf_cons (C : Crypto) (s : DataSeek) (n0 : Node) (rest : List Node) (rn : List Node) (hs : s.nodes = n0 :: rest) :
    seekHalf C (some s) rn =
      andThen (climb C (rest.length + 1) (NodeQueue.new rest none) (Iter.new n0.index) n0 (n0 :: rn)) fun y =>
        .ok (some y.1, y.2) := by
  have hq : (NodeQueue.new (n0 :: rest) none).shift (Iter.new n0.index).index = .ok (n0, NodeQueue.new rest none) := by
    rw [index_new]
    exact shift_of_nodes rfl rfl
  simp only [seekHalf, hs, hq, ok_andThen]
  rfl

theorem mainHalf_block (C : Crypto) (v : Bytes) (index : Nat) (nodes : List Node) (root : Option Node) (rn : List Node) :
    mainHalf C (some v) index nodes root rn =
      climb C ((NodeQueue.new nodes root).length + 1) (NodeQueue.new nodes root) (Iter.new index) (blockNode C index v)
        (blockNode C index v :: rn) := by
  simp only [mainHalf, ok_andThen, index_new]

theorem mainHalf_hash (C : Crypto) (index : Nat) (nodes : List Node) (root : Option Node) (rn : List Node) :
    mainHalf C none index nodes root rn =
      andThen ((NodeQueue.new nodes root).shift index) fun x =>
        climb C (x.2.length + 1) x.2 (Iter.new index) x.1 (x.1 :: rn) := by
  simp only [mainHalf, index_new]

theorem verifyTree_nothing (C : Crypto) (seek : Option DataSeek) (cs : Changeset) (hs : noSeekOf seek = true) :
    verifyTree C none none seek cs = .ok (none, cs) := by
  simp [verifyTree, untrustedOf, hs]

/-- a seek section without nodes is no seek section -/
theorem verifyTree_empty_seek (C : Crypto) (block : Option DataBlock) (hash : Option DataHash) (s : DataSeek) (hs : s.nodes = [])
    (cs : Changeset) : verifyTree C block hash (some s) cs = verifyTree C block hash none cs := by
  obtain ⟨bytes, nodes⟩ := s
  cases hs
  rfl

theorem verifyTree_block (C : Crypto) (b : DataBlock) (hash : Option DataHash) (seek : Option DataSeek) (cs : Changeset) :
    verifyTree C (some b) hash seek cs =
      andThen (seekHalf C seek cs.rnodes) fun x =>
        andThen (mainHalf C (some b.value) (b.index * 2) b.nodes x.1 x.2) fun y =>
          .ok (some y.1, { cs with rnodes := y.2 }) := by
  simp [verifyTree, untrustedOf]

theorem verifyTree_hash (C : Crypto) (h : DataHash) (seek : Option DataSeek) (cs : Changeset) :
    verifyTree C none (some h) seek cs =
      andThen (seekHalf C seek cs.rnodes) fun x =>
        andThen (mainHalf C none h.index h.nodes x.1 x.2) fun y => .ok (some y.1, { cs with rnodes := y.2 }) := by
  simp [verifyTree, untrustedOf]

theorem verifyTree_seek (C : Crypto) (seek : Option DataSeek) (cs : Changeset) (hs : noSeekOf seek = false) :
    verifyTree C none none seek cs =
      andThen (seekHalf C seek cs.rnodes) fun x => .ok (x.1, { cs with rnodes := x.2 }) := by
  simp [verifyTree, untrustedOf, hs]

theorem seekHalf_noSeek (C : Crypto) (seek : Option DataSeek) (rn : List Node) (hs : noSeekOf seek = true) :
    seekHalf C seek rn = .ok (none, rn) := by
  cases seek with
  | none => rfl
  | some s => exact seekHalf_nil C s rn (by simpa [noSeekOf] using hs)

theorem verifyTree_block_noSeek (C : Crypto) (b : DataBlock) (hash : Option DataHash) (seek : Option DataSeek)
    (cs : Changeset) (hs : noSeekOf seek = true) :
    verifyTree C (some b) hash seek cs =
      andThen (climb C (b.nodes.length + 1) (NodeQueue.new b.nodes none) (Iter.new (b.index * 2))
          (blockNode C (b.index * 2) b.value) (blockNode C (b.index * 2) b.value :: cs.rnodes)) fun y =>
        .ok (some y.1, { cs with rnodes := y.2 }) := by
  rw [verifyTree_block, seekHalf_noSeek C seek _ hs, ok_andThen, mainHalf_block]
  rfl

theorem verifyTree_hash_noSeek (C : Crypto) (h : DataHash) (seek : Option DataSeek) (cs : Changeset)
    (hs : noSeekOf seek = true) :
    verifyTree C none (some h) seek cs =
      andThen ((NodeQueue.new h.nodes none).shift h.index) fun x =>
        andThen (climb C (x.2.length + 1) x.2 (Iter.new h.index) x.1 (x.1 :: cs.rnodes)) fun y =>
          .ok (some y.1, { cs with rnodes := y.2 }) := by
  rw [verifyTree_hash, seekHalf_noSeek C seek _ hs, ok_andThen, mainHalf_hash, andThen_assoc]

theorem verifyTree_seek_cons (C : Crypto) (s : DataSeek) (n0 : Node) (rest : List Node) (cs : Changeset)
    (hs : s.nodes = n0 :: rest) :
    verifyTree C none none (some s) cs =
      andThen (climb C (rest.length + 1) (NodeQueue.new rest none) (Iter.new n0.index) n0 (n0 :: cs.rnodes)) fun y =>
        .ok (some y.1, { cs with rnodes := y.2 }) := by
  rw [verifyTree_seek C _ cs (by simp [noSeekOf, hs]), seekHalf_cons C s n0 rest _ hs, andThen_assoc]
  rfl

/-- block and seek nodes: the seek climb first; its root waits in the extra slot of the block climb's queue -/
theorem verifyTree_block_seek (C : Crypto) (b : DataBlock) (hash : Option DataHash) (s : DataSeek) (n0 : Node)
    (rest : List Node) (cs : Changeset) (hs : s.nodes = n0 :: rest) :
    verifyTree C (some b) hash (some s) cs =
      andThen (climb C (rest.length + 1) (NodeQueue.new rest none) (Iter.new n0.index) n0 (n0 :: cs.rnodes)) fun y =>
        andThen (climb C (b.nodes.length + 1 + 1) (NodeQueue.new b.nodes (some y.1)) (Iter.new (b.index * 2))
            (blockNode C (b.index * 2) b.value) (blockNode C (b.index * 2) b.value :: y.2)) fun z =>
          .ok (some z.1, { cs with rnodes := z.2 }) := by
  rw [verifyTree_block, seekHalf_cons C s n0 rest _ hs, andThen_assoc]
  simp only [ok_andThen, mainHalf_block]
  rfl

theorem verifyTree_hash_seek (C : Crypto) (h : DataHash) (s : DataSeek) (n0 : Node) (rest : List Node) (cs : Changeset)
    (hs : s.nodes = n0 :: rest) :
    verifyTree C none (some h) (some s) cs =
      andThen (climb C (rest.length + 1) (NodeQueue.new rest none) (Iter.new n0.index) n0 (n0 :: cs.rnodes)) fun y =>
        andThen ((NodeQueue.new h.nodes (some y.1)).shift h.index) fun x =>
          andThen (climb C (x.2.length + 1) x.2 (Iter.new h.index) x.1 (x.1 :: y.2)) fun z =>
            .ok (some z.1, { cs with rnodes := z.2 }) := by
  rw [verifyTree_hash, seekHalf_cons C s n0 rest _ hs, andThen_assoc]
  simp only [ok_andThen, mainHalf_hash, andThen_assoc]

/-- `verify_tree` touches nothing but the node list -/
theorem verifyTree_rnodes (C : Crypto) (block : Option DataBlock) (hash : Option DataHash) (seek : Option DataSeek)
    (cs : Changeset) (root : Option Node) (cs' : Changeset) (h : verifyTree C block hash seek cs = .ok (root, cs')) :
    ∃ rn, cs' = { cs with rnodes := rn } := by
  unfold verifyTree at h
  dsimp only at h
  split at h
  · cases h
    exact ⟨cs.rnodes, rfl⟩
  · obtain ⟨x, _, h⟩ := (andThen_ok_iff _ _ _).mp h
    split at h
    · cases h
      exact ⟨_, rfl⟩
    · obtain ⟨y, _, h⟩ := (andThen_ok_iff _ _ _).mp h
      cases h
      exact ⟨_, rfl⟩

/-! ### `verify_proof` -/

/-- last step of `verify_proof`: a root that the upgrade has not consumed must be the stored node -/
def checkStored (t : Tree) (f : File) (root : Option Node) (cs : Changeset) : R Changeset :=
  match root with
  | none => .ok cs
  | some r => andThen (t.requiredNode f r.index) fun v => if v.hash ≠ r.hash then .error .err else .ok cs

theorem checkStored_ok_iff (t : Tree) (f : File) (root : Option Node) (cs cs' : Changeset) :
    checkStored t f root cs = .ok cs' ↔
      cs' = cs ∧ ∀ r, root = some r → ∃ v, t.requiredNode f r.index = .ok v ∧ v.hash = r.hash := by
  cases root with
  | none => simp [checkStored, eq_comm]
  | some r =>
    simp only [checkStored, andThen_ok_iff, Option.some.injEq, forall_eq']
    constructor
    · rintro ⟨v, hv, h⟩
      by_cases hh : v.hash = r.hash
      · simp only [hh, ne_eq, not_true_eq_false, ite_false, Except.ok.injEq] at h
        exact ⟨h.symm, v, hv, hh⟩
      · simp [hh] at h
    · rintro ⟨rfl, v, hv, hh⟩
      exact ⟨v, hv, by simp [hh]⟩

theorem checkStored_notPanic (t : Tree) (f : File) (root : Option Node) (cs : Changeset) :
    NotPanic (checkStored t f root cs) := by
  cases root with
  | none => exact notPanic_ok _
  | some r =>
    apply andThen_notPanic _ _ (requiredNode_notPanic t f r.index)
    intro v _
    split
    · exact notPanic_err
    · exact notPanic_ok _

theorem verifyProof_eq (C : Crypto) (t : Tree) (f : File) (p : Proof) (pk : Bytes) :
    verifyProof C t f p pk =
      andThen (verifyTree C p.block p.hash p.seek t.changeset) fun x =>
        match p.upgrade with
        | none => checkStored t f x.1 x.2
        | some u => andThen (verifyUpgrade C p.fork u x.1 pk x.2) fun y => checkStored t f (if y.1 then none else x.1) y.2 := by
  unfold verifyProof
  cases verifyTree C p.block p.hash p.seek t.changeset with
  | error e => rfl
  | ok x =>
    obtain ⟨root, cs⟩ := x
    cases p.upgrade with
    | none =>
      cases root with
      | none => rfl
      | some r => dsimp only [ok_andThen, checkStored]; cases t.requiredNode f r.index <;> rfl
    | some u =>
      dsimp only [ok_andThen]
      cases verifyUpgrade C p.fork u root pk cs with
      | error e => rfl
      | ok y =>
        obtain ⟨consumed, cs'⟩ := y
        dsimp only [ok_andThen]
        cases (if consumed = true then none else root) with
        | none => rfl
        | some r => dsimp only [checkStored]; cases t.requiredNode f r.index <;> rfl

/-- an accepted proof went through the tree sections, the upgrade if there is one, and the comparison of the
    resulting root with the stored node unless the upgrade consumed it -/
theorem verifyProof_ok_iff (C : Crypto) (t : Tree) (f : File) (p : Proof) (pk : Bytes) (cs' : Changeset) :
    verifyProof C t f p pk = .ok cs' ↔
      ∃ root cs1, verifyTree C p.block p.hash p.seek t.changeset = .ok (root, cs1)
        ∧ ((p.upgrade = none ∧ cs' = cs1
              ∧ ∀ r, root = some r → ∃ v, t.requiredNode f r.index = .ok v ∧ v.hash = r.hash)
          ∨ ∃ u consumed, p.upgrade = some u ∧ verifyUpgrade C p.fork u root pk cs1 = .ok (consumed, cs')
              ∧ (consumed = true ∨ ∀ r, root = some r → ∃ v, t.requiredNode f r.index = .ok v ∧ v.hash = r.hash)) := by
  rw [verifyProof_eq, andThen_ok_iff]
  constructor
  · rintro ⟨⟨root, cs1⟩, hv, h⟩
    refine ⟨root, cs1, hv, ?_⟩
    cases hu : p.upgrade with
    | none =>
      rw [hu] at h
      obtain ⟨h1, h2⟩ := (checkStored_ok_iff ..).mp h
      exact Or.inl ⟨rfl, h1, h2⟩
    | some u =>
      rw [hu] at h
      obtain ⟨⟨consumed, cs2⟩, hvu, h⟩ := (andThen_ok_iff _ _ _).mp h
      obtain ⟨rfl, h2⟩ := (checkStored_ok_iff ..).mp h
      refine Or.inr ⟨u, consumed, rfl, hvu, ?_⟩
      cases consumed with
      | true => exact Or.inl rfl
      | false => exact Or.inr h2
  · rintro ⟨root, cs1, hv, ⟨hu, rfl, h⟩ | ⟨u, consumed, hu, hvu, h⟩⟩
    · refine ⟨(root, cs'), hv, ?_⟩
      rw [hu]
      exact (checkStored_ok_iff ..).mpr ⟨rfl, h⟩
    · refine ⟨(root, cs1), hv, ?_⟩
      rw [hu]
      refine (andThen_ok_iff _ _ _).mpr ⟨(consumed, cs'), hvu, (checkStored_ok_iff ..).mpr ⟨rfl, ?_⟩⟩
      rcases h with rfl | h
      · intro r hr
        cases hr
      · cases consumed with
        | true => intro r hr; cases hr
        | false => exact h

/-! ### lifting a property of `append_root` through the loops of `verify_upgrade`

Every changeset these loops produce comes from the one they were given by `shift` on the queue followed by
`append_root` of the node obtained.  So a property of (changeset, queue) that one such step keeps is kept by each
loop, and two runs that take the same steps succeed together. -/

theorem growLoop_inv (C : Crypto) (P : Changeset → NodeQueue → Prop)
    (step : ∀ cs q i n q' it, P cs q → q.shift i = .ok (n, q') → P (appendRoot C cs n it).1 q') (ri : Nat) :
    ∀ (fuel : Nat) (cs : Changeset) (it : Iter) (q : NodeQueue) (r : Changeset × Iter × NodeQueue),
      growLoop C ri fuel cs it q = .ok r → P cs q → P r.1 r.2.2 := by
  intro fuel
  induction fuel with
  | zero => intro cs it q r h; cases h
  | succ fuel ih =>
    intro cs it q r h hp
    rcases (growLoop_succ_ok ..).mp h with ⟨_, rfl⟩ | ⟨_, n, q', hs, h⟩
    · exact hp
    · exact ih _ _ _ _ h (step _ _ _ _ _ _ hp hs)

theorem upgradeRoots_inv (C : Crypto) (P : Changeset → NodeQueue → Prop)
    (step : ∀ cs q i n q' it, P cs q → q.shift i = .ok (n, q') → P (appendRoot C cs n it).1 q') (to : Nat) :
    ∀ (fuel : Nat) (st st' : UpState), upgradeRoots C to fuel st = .ok st' → P st.cs st.q → P st'.cs st'.q := by
  intro fuel
  induction fuel with
  | zero => intro st st' h; cases h
  | succ fuel ih =>
    intro st st' h hp
    rcases upgradeRoots_succ_ok C to fuel st st' _ _ rfl h with
      ⟨_, rfl⟩ | ⟨_, _, h⟩ | ⟨_, _, _, cs1, it1, q1, hgl, h⟩ | ⟨_, _, _, n, q1, hs, h⟩
    · exact hp
    · exact ih _ _ h hp
    · exact ih _ _ h (growLoop_inv C P step _ _ _ _ _ _ hgl hp)
    · exact ih _ _ h (step _ _ _ _ _ _ hp hs)

theorem extraSiblings_inv (C : Crypto) (P : Changeset → Prop) (step : ∀ cs n it, P cs → P (appendRoot C cs n it).1) :
    ∀ (fuel : Nat) (cs : Changeset) (it : Iter) (ex : List Node), P cs → P (extraSiblings C fuel cs it ex).1 := by
  intro fuel
  induction fuel with
  | zero => intro cs it ex hp; exact hp
  | succ fuel ih =>
    intro cs it ex hp
    cases ex with
    | nil => exact hp
    | cons n ex =>
      rw [extraSiblings_cons]
      split
      · exact ih _ _ _ (step _ _ _ hp)
      · exact hp

theorem extraRest_inv (C : Crypto) (P : Changeset → Prop) (step : ∀ cs n it, P cs → P (appendRoot C cs n it).1) :
    ∀ (ex : List Node) (cs : Changeset) (it : Iter) (r : Changeset × Iter), extraRest C cs it ex = .ok r → P cs → P r.1 := by
  intro ex
  induction ex with
  | nil => intro cs it r h hp; cases h; exact hp
  | cons n ex ih =>
    intro cs it r h hp
    obtain ⟨it1, _, h⟩ := (extraRest_cons_ok ..).mp h
    exact ih _ _ _ h (step _ _ _ hp)

theorem verifyUpgrade_inv (C : Crypto) (P : Changeset → Prop) (step : ∀ cs n it, P cs → P (appendRoot C cs n it).1)
    {fork : Nat} (sign : ∀ cs h s, P cs → P { cs with fork := fork, hash := some h, signature := some s })
    {u : DataUpgrade} {blockRoot : Option Node} {pk : Bytes} {cs : Changeset} {c : Bool} {cs' : Changeset}
    (h : verifyUpgrade C fork u blockRoot pk cs = .ok (c, cs')) (hp : P cs) : P cs' := by
  obtain ⟨st, last, x, hst, _, hx, _, _, _, rfl⟩ := (verifyUpgrade_ok_iff ..).mp h
  have h1 : P st.cs := upgradeRoots_inv C (fun cs _ => P cs) (fun _ _ _ _ _ _ hp _ => step _ _ _ hp) _ _ _ _ hst hp
  have h2 := extraSiblings_inv C P step (u.additionalNodes.length + 1) st.cs (Iter.new last.index) u.additionalNodes h1
  exact sign _ _ _ (extraRest_inv C P step _ _ _ _ hx h2)

/-- the fuel of the grow loop only has to exceed the number of queued nodes -/
theorem growLoop_fuel (C : Crypto) (ri : Nat) : ∀ (fuel fuel' : Nat) (cs : Changeset) (it : Iter) (q : NodeQueue)
    (r : Changeset × Iter × NodeQueue), growLoop C ri fuel cs it q = .ok r → q.count < fuel' →
    growLoop C ri fuel' cs it q = .ok r := by
  intro fuel
  induction fuel with
  | zero => intro fuel' cs it q r h; cases h
  | succ fuel ih =>
    intro fuel' cs it q r h hf
    obtain ⟨fuel', rfl⟩ := Nat.exists_eq_add_one_of_ne_zero (Nat.ne_of_gt (Nat.zero_lt_of_lt hf))
    rcases (growLoop_succ_ok ..).mp h with ⟨hi, rfl⟩ | ⟨hi, n, q', hs, h⟩
    · exact growLoop_done C ri fuel' cs it q hi
    · rw [growLoop_step C ri fuel' cs it q n q' hi hs]
      rw [← shift_count q _ n q' hs] at hf
      exact ih _ _ _ _ _ h (Nat.lt_of_succ_lt_succ hf)

/-- two runs of the grow loop, on states related by `S`, take the same steps when a step that succeeds on the left
    succeeds on the right with the same node and leaves the iterator in the same place -/
theorem growLoop_both (C : Crypto) (S : Changeset → NodeQueue → Changeset → NodeQueue → Prop)
    (step : ∀ cs q cs₂ q₂ i n q' it, S cs q cs₂ q₂ → q.shift i = .ok (n, q') →
      ∃ q₂', q₂.shift i = .ok (n, q₂') ∧ (appendRoot C cs₂ n it).2 = (appendRoot C cs n it).2
        ∧ S (appendRoot C cs n it).1 q' (appendRoot C cs₂ n it).1 q₂') (ri : Nat) :
    ∀ (fuel : Nat) (cs : Changeset) (it : Iter) (q : NodeQueue) (cs₂ : Changeset) (q₂ : NodeQueue) (cs' : Changeset)
      (it' : Iter) (q' : NodeQueue), growLoop C ri fuel cs it q = .ok (cs', it', q') → S cs q cs₂ q₂ →
      ∃ cs₂' q₂', growLoop C ri fuel cs₂ it q₂ = .ok (cs₂', it', q₂') ∧ S cs' q' cs₂' q₂' := by
  intro fuel
  induction fuel with
  | zero => intro cs it q cs₂ q₂ cs' it' q' h; cases h
  | succ fuel ih =>
    intro cs it q cs₂ q₂ cs' it' q' h hS
    rcases (growLoop_succ_ok ..).mp h with ⟨hi, h⟩ | ⟨hi, n, q1, hs, h⟩
    · cases h
      exact ⟨cs₂, q₂, growLoop_done C ri fuel cs₂ it q₂ hi, hS⟩
    · obtain ⟨q₂1, hs₂, hit, hS1⟩ := step _ _ _ _ _ _ _ it.sibling hS hs
      rw [growLoop_step C ri fuel cs₂ it q₂ n q₂1 hi hs₂, hit]
      exact ih _ _ _ _ _ _ _ _ h hS1

theorem upgradeRoots_both (C : Crypto) (S : Changeset → NodeQueue → Changeset → NodeQueue → Prop)
    (roots : ∀ cs q cs₂ q₂, S cs q cs₂ q₂ → cs₂.roots = cs.roots)
    (step : ∀ cs q cs₂ q₂ i n q' it, S cs q cs₂ q₂ → q.shift i = .ok (n, q') →
      ∃ q₂', q₂.shift i = .ok (n, q₂') ∧ (appendRoot C cs₂ n it).2 = (appendRoot C cs n it).2
        ∧ S (appendRoot C cs n it).1 q' (appendRoot C cs₂ n it).1 q₂') (to : Nat) :
    ∀ (fuel : Nat) (st st' : UpState) (cs₂ : Changeset) (q₂ : NodeQueue), upgradeRoots C to fuel st = .ok st' →
      S st.cs st.q cs₂ q₂ →
      ∃ cs₂' q₂', upgradeRoots C to fuel { st with cs := cs₂, q := q₂ } = .ok { st' with cs := cs₂', q := q₂' }
        ∧ S st'.cs st'.q cs₂' q₂' := by
  intro fuel
  induction fuel with
  | zero => intro st st' cs₂ q₂ h; cases h
  | succ fuel ih =>
    intro st st' cs₂ q₂ h hS
    have hr := roots _ _ _ _ hS
    cases hfr : st.it.fullRoot to with
    | mk full it =>
      rcases upgradeRoots_succ_ok C to fuel st st' full it hfr h with
        ⟨rfl, rfl⟩ | ⟨rfl, hm, h⟩ | ⟨rfl, hm, hg, cs1, it1, q1, hgl, h⟩ | ⟨rfl, hm, hg, n, q1, hs, h⟩
      · exact ⟨cs₂, q₂, upgradeRoots_succ_done C to fuel { st with cs := cs₂, q := q₂ } it hfr, hS⟩
      · obtain ⟨cs₂', q₂', h₂, hS'⟩ := ih _ _ cs₂ q₂ h hS
        refine ⟨cs₂', q₂', ?_, hS'⟩
        rw [upgradeRoots_succ_skip C to fuel { st with cs := cs₂, q := q₂ } it hfr (by simpa only [hr] using hm)]
        exact h₂
      · obtain ⟨cs₂1, q₂1, hgl₂, hS1⟩ := growLoop_both C S step _ _ _ _ _ cs₂ q₂ _ _ _ hgl hS
        have hgl₂' := growLoop_fuel C _ _ (q₂.nodes.length + 3) _ _ _ _ hgl₂ q₂.count_lt
        obtain ⟨cs₂', q₂', h₂, hS'⟩ := ih _ _ cs₂1 q₂1 h hS1
        refine ⟨cs₂', q₂', ?_, hS'⟩
        rw [upgradeRoots_succ_grow C to fuel { st with cs := cs₂, q := q₂ } it hfr (by simpa only [hr] using hm)
          (by simpa only [hr] using hg) cs₂1 it1 q₂1 (by simpa only [hr] using hgl₂')]
        exact h₂
      · obtain ⟨q₂1, hs₂, hit, hS1⟩ := step _ _ _ _ _ _ _ it hS hs
        obtain ⟨cs₂', q₂', h₂, hS'⟩ := ih _ _ _ q₂1 h hS1
        refine ⟨cs₂', q₂', ?_, hS'⟩
        rw [upgradeRoots_succ_shift C to fuel { st with cs := cs₂, q := q₂ } it hfr (by simpa only [hr] using hm)
          (by simpa only [hr] using hg) n q₂1 hs₂, hit]
        exact h₂

/-- a relation between node queues that `shift` keeps is kept by the grow loop, which gives the same changeset on both -/
theorem growLoop_queues (C : Crypto) (Q : NodeQueue → NodeQueue → Prop)
    (step : ∀ q q₂ i n q', Q q q₂ → q.shift i = .ok (n, q') → ∃ q₂', q₂.shift i = .ok (n, q₂') ∧ Q q' q₂')
    (ri fuel : Nat) (cs : Changeset) (it : Iter) (q q₂ : NodeQueue) (cs' : Changeset) (it' : Iter) (q' : NodeQueue)
    (hQ : Q q q₂) (h : growLoop C ri fuel cs it q = .ok (cs', it', q')) :
    ∃ q₂', growLoop C ri fuel cs it q₂ = .ok (cs', it', q₂') ∧ Q q' q₂' := by
  obtain ⟨_, q₂', h₂, rfl, hQ'⟩ := growLoop_both C (fun cs q cs₂ q₂ => cs₂ = cs ∧ Q q q₂)
    (fun cs q cs₂ q₂ i n q' it hS hs => by
      obtain ⟨rfl, hQ⟩ := hS
      obtain ⟨q₂', hs₂, hQ'⟩ := step q q₂ i n q' hQ hs
      exact ⟨q₂', hs₂, rfl, rfl, hQ'⟩)
    ri fuel cs it q cs q₂ cs' it' q' h ⟨rfl, hQ⟩
  exact ⟨q₂', h₂, hQ'⟩

theorem upgradeRoots_queues (C : Crypto) (Q : NodeQueue → NodeQueue → Prop)
    (step : ∀ q q₂ i n q', Q q q₂ → q.shift i = .ok (n, q') → ∃ q₂', q₂.shift i = .ok (n, q₂') ∧ Q q' q₂')
    (upto fuel : Nat) (cs : Changeset) (it0 : Iter) (q q₂ : NodeQueue) (i : Nat) (g : Bool) (st' : UpState)
    (hQ : Q q q₂) (h : upgradeRoots C upto fuel ⟨cs, it0, q, i, g⟩ = .ok st') :
    ∃ st₂', upgradeRoots C upto fuel ⟨cs, it0, q₂, i, g⟩ = .ok st₂' ∧ Q st'.q st₂'.q ∧ st₂'.cs = st'.cs := by
  obtain ⟨cs₂', q₂', h₂, hcs, hQ'⟩ := upgradeRoots_both C (fun cs q cs₂ q₂ => cs₂ = cs ∧ Q q q₂)
    (fun _ _ _ _ hS => by rw [hS.1])
    (fun cs q cs₂ q₂ i n q' it hS hs => by
      obtain ⟨rfl, hQ⟩ := hS
      obtain ⟨q₂', hs₂, hQ'⟩ := step q q₂ i n q' hQ hs
      exact ⟨q₂', hs₂, rfl, rfl, hQ'⟩)
    upto fuel ⟨cs, it0, q, i, g⟩ st' cs q₂ h ⟨rfl, hQ⟩
  exact ⟨_, h₂, hQ', hcs⟩

/-! ### the climb and `verify_tree` never panic -/

/-- the climb of `verify_tree` never panics and never runs out of fuel, whatever the peer sent -/
theorem climb_ne_panic (C : Crypto) (fuel : Nat) (q : NodeQueue) (it : Iter) (cur : Node) (rn : List Node)
    (hf : q.length < fuel) : climb C fuel q it cur rn ≠ .error .panic := by
  induction fuel generalizing q it cur rn with
  | zero => exact absurd hf (Nat.not_lt_zero _)
  | succ fuel ih =>
    rw [climb_succ]
    by_cases h0 : q.length = 0
    · rw [if_pos h0]
      exact notPanic_ok _
    · rw [if_neg h0]
      apply andThen_notPanic _ _ (shift_ne_panic q _)
      intro x hs
      refine ih _ _ _ _ ?_
      rw [shift_length q _ x.1 x.2 hs]
      exact Nat.lt_of_lt_of_le (Nat.sub_lt (Nat.pos_of_ne_zero h0) Nat.one_pos) (Nat.le_of_lt_succ hf)

theorem seekHalf_notPanic (C : Crypto) (seek : Option DataSeek) (rn : List Node) : NotPanic (seekHalf C seek rn) := by
  cases seek with
  | none => exact notPanic_ok _
  | some s =>
    cases hn : s.nodes with
    | nil =>
      rw [seekHalf_nil C s rn hn]
      exact notPanic_ok _
    | cons n0 rest =>
      rw [seekHalf_cons C s n0 rest rn hn]
      apply andThen_notPanic _ _ (climb_ne_panic C _ _ _ _ _ (Nat.lt_succ_self _))
      intro y _
      exact notPanic_ok _

theorem mainHalf_notPanic (C : Crypto) (value : Option Bytes) (index : Nat) (nodes : List Node) (root : Option Node)
    (rn : List Node) : NotPanic (mainHalf C value index nodes root rn) := by
  cases value with
  | some v =>
    rw [mainHalf_block]
    exact climb_ne_panic C _ _ _ _ _ (Nat.lt_succ_self _)
  | none =>
    rw [mainHalf_hash]
    apply andThen_notPanic _ _ (shift_ne_panic _ _)
    intro x _
    exact climb_ne_panic C _ _ _ _ _ (Nat.lt_succ_self _)

/-- `verify_tree` is total: it returns a root or an error, never a panic, for every proof -/
theorem verifyTree_notPanic (C : Crypto) (block : Option DataBlock) (hash : Option DataHash) (seek : Option DataSeek)
    (cs : Changeset) : NotPanic (verifyTree C block hash seek cs) := by
  unfold verifyTree
  simp only []
  generalize untrustedOf block hash = u
  generalize noSeekOf seek = ns
  by_cases hc : (u.isNone && ns) = true
  · simp [NotPanic, hc]
  · rw [if_neg hc]
    apply andThen_notPanic
    · exact seekHalf_notPanic C seek _
    · intro ⟨root, rn⟩ _
      cases u with
      | none => simp [NotPanic]
      | some v =>
        obtain ⟨value, index, nodes⟩ := v
        simp only []
        apply andThen_notPanic
        · exact mainHalf_notPanic C _ _ _ _ _
        · intro ⟨r, rn'⟩ _; simp [NotPanic]

end HC.Tree

namespace HC.Core
open HC.Codec HC.Tree

theorem apply_fork_mismatch (C : Crypto) (c : Core) (d : Disk) (p : Proof) (h : p.fork ≠ c.tree.fork) :
    (c.verifyAndApply C d p).result = .ok false ∧ (c.verifyAndApply C d p).journal = []
      ∧ (c.verifyAndApply C d p).core = c ∧ (c.verifyAndApply C d p).events = [] := by
  simp [verifyAndApply, h]

/-- a proof that fails verification is answered with that error, and nothing is written, nothing is
    changed in memory, no event is emitted.  The fork check comes before verification and answers `false`: hence the
    `if`, in place of a hypothesis that the forks agree. -/
theorem apply_verify_error (C : Crypto) (c : Core) (d : Disk) (p : Proof) (e : Fail)
    (h : c.tree.verifyProof C d.tree p c.publicKey = .error e) :
    (c.verifyAndApply C d p).result = (if p.fork ≠ c.tree.fork then .ok false else .error e)
      ∧ (c.verifyAndApply C d p).journal = [] ∧ (c.verifyAndApply C d p).core = c
      ∧ (c.verifyAndApply C d p).events = [] := by
  unfold verifyAndApply
  by_cases hf : p.fork ≠ c.tree.fork
  · simp [hf]
  · simp [hf, h]

theorem finishApply_events (c : Core) (ol : Oplog.State) (header : Oplog.Header) (bf : Bitfield) (j01 : List SOp)
    (p : Proof) (bu : Option Oplog.BitfieldUpdate) (r : R Tree) (h : (finishApply c ol header bf j01 p bu r).result = .ok true) :
    (finishApply c ol header bf j01 p bu r).events = appliedEvents p bu := by
  cases r with
  | error e => simp [finishApply] at h
  | ok t => simp [finishApply]

theorem applyVerified_not_false (c : Core) (p : Proof) (cs : Changeset) (j0 : List SOp) (bu : Option Oplog.BitfieldUpdate) :
    (applyVerified c p cs j0 bu).result ≠ .ok false := by
  unfold applyVerified
  cases c.tree.commit cs <;> simp [finishApply]

/-- `verify_and_apply_proof` refuses (`false`, nothing touched), fails before the commit stage (the core untouched), or
    has passed every check and goes on to log and commit -/
theorem verifyAndApply_cases (C : Crypto) (c : Core) (d : Disk) (p : Proof) :
    c.verifyAndApply C d p = { core := c, result := .ok false }
    ∨ (∃ e j, c.verifyAndApply C d p = { core := c, result := .error e, journal := j })
    ∨ ∃ cs j0 bu, p.fork = c.tree.fork ∧ c.tree.verifyProof C d.tree p c.publicKey = .ok cs ∧ c.tree.commitable cs = true
        ∧ dataStep c d p cs = .ok (j0, bu) ∧ encodable cs = true ∧ c.verifyAndApply C d p = applyVerified c p cs j0 bu := by
  unfold verifyAndApply
  by_cases hf : p.fork = c.tree.fork
  · rw [if_neg fun hne => hne hf]
    cases hv : c.tree.verifyProof C d.tree p c.publicKey with
    | error e => exact Or.inr (Or.inl ⟨e, [], rfl⟩)
    | ok cs =>
      dsimp only
      cases hc : c.tree.commitable cs with
      | false => exact Or.inl rfl
      | true =>
        rw [Bool.not_true, if_neg Bool.false_ne_true]
        cases hd : dataStep c d p cs with
        | error e => exact Or.inr (Or.inl ⟨e, [], rfl⟩)
        | ok x =>
          obtain ⟨j0, bu⟩ := x
          dsimp only
          by_cases he : encodable cs = true
          · rw [if_pos he]
            exact Or.inr (Or.inr ⟨cs, j0, bu, hf, rfl, hc, hd, he, rfl⟩)
          · rw [if_neg he]
            exact Or.inr (Or.inl ⟨.err, j0, rfl⟩)
  · rw [if_pos hf]
    exact Or.inl rfl

theorem apply_false_noop (C : Crypto) (c : Core) (d : Disk) (p : Proof)
    (h : (c.verifyAndApply C d p).result = .ok false) :
    (c.verifyAndApply C d p).journal = [] ∧ (c.verifyAndApply C d p).core = c ∧ (c.verifyAndApply C d p).events = [] := by
  obtain hr | ⟨e, j, hr⟩ | ⟨cs, j0, bu, _, _, _, _, _, hr⟩ := verifyAndApply_cases C c d p <;> rw [hr] at h ⊢
  · exact ⟨rfl, rfl, rfl⟩
  · cases h
  · exact absurd h (applyVerified_not_false c p cs j0 bu)

/-- an error answer before the commit stage leaves the core and the storage untouched -/
theorem apply_dataStep_error (C : Crypto) (c : Core) (d : Disk) (p : Proof) (cs : Changeset) (e : Fail)
    (hf : p.fork = c.tree.fork) (hv : c.tree.verifyProof C d.tree p c.publicKey = .ok cs)
    (hc : c.tree.commitable cs = true) (hd : dataStep c d p cs = .error e) :
    (c.verifyAndApply C d p).result = .error e ∧ (c.verifyAndApply C d p).journal = []
      ∧ (c.verifyAndApply C d p).core = c := by
  simp [verifyAndApply, hf, hv, hc, hd]

open HC.Oplog

theorem dataStep_none (c : Core) (d : Disk) (p : Proof) (cs : Changeset) (h : p.block = none) :
    dataStep c d p cs = .ok ([], none) := by
  simp [dataStep, h]

theorem dataStep_block (c : Core) (d : Disk) (p : Proof) (cs : Changeset) (b : DataBlock) (h : p.block = some b) :
    dataStep c d p cs =
      andThen (c.tree.byteOffsetInChangeset d.tree b.index cs) fun off =>
        .ok ([.write .data off b.value], some ⟨false, b.index, 1⟩) := by
  simp only [dataStep, h]
  cases c.tree.byteOffsetInChangeset d.tree b.index cs <;> rfl

/-- the core once the entry of an accepted proof is logged, the bitfield set and the tree committed, before the
    periodic flush -/
def afterApply (c : Core) (cs : Changeset) (bu : Option BitfieldUpdate) (tr : Tree) : Core :=
  { c with
    oplog := (Oplog.appendEntry c.oplog (entryOf cs bu c.header).1).1
    header := match bu with
      | some u => updateContiguous (entryOf cs bu c.header).2 (c.bitfield.setRange u.start u.length true) u
      | none => (entryOf cs bu c.header).2
    bitfield := match bu with
      | some u => c.bitfield.setRange u.start u.length true
      | none => c.bitfield
    tree := tr }

theorem applyVerified_commit_ok (c : Core) (p : Proof) (cs : Changeset) (j0 : List SOp) (bu : Option BitfieldUpdate)
    (tr : Tree) (hcommit : c.tree.commit cs = .ok tr) :
    applyVerified c p cs j0 bu =
      { core := (afterApply c cs bu tr).maybeFlush.1, result := .ok true,
        journal := j0 ++ (Oplog.appendEntry c.oplog (entryOf cs bu c.header).1).2 ++ (afterApply c cs bu tr).maybeFlush.2,
        events := appliedEvents p bu } := by
  unfold applyVerified
  rw [hcommit]
  cases bu <;> rfl

theorem verifyAndApply_accept (C : Crypto) (c : Core) (d : Disk) (p : Proof) (cs : Changeset) (j0 : List SOp)
    (bu : Option BitfieldUpdate) (tr : Tree) (hf : p.fork = c.tree.fork)
    (hv : c.tree.verifyProof C d.tree p c.publicKey = .ok cs) (hc : c.tree.commitable cs = true)
    (hd : dataStep c d p cs = .ok (j0, bu)) (he : encodable cs = true) (hcommit : c.tree.commit cs = .ok tr) :
    c.verifyAndApply C d p =
      { core := (afterApply c cs bu tr).maybeFlush.1, result := .ok true,
        journal := j0 ++ (Oplog.appendEntry c.oplog (entryOf cs bu c.header).1).2 ++ (afterApply c cs bu tr).maybeFlush.2,
        events := appliedEvents p bu } := by
  rw [← applyVerified_commit_ok c p cs j0 bu tr hcommit]
  simp [verifyAndApply, hf, hv, hc, hd, he]

theorem finishApply_true_inv (c : Core) (ol : Oplog.State) (header : Oplog.Header) (bf : Bitfield) (j01 : List SOp)
    (p : Proof) (bu : Option Oplog.BitfieldUpdate) (r : R Tree) (h : (finishApply c ol header bf j01 p bu r).result = .ok true) :
    ∃ tr, r = .ok tr := by
  cases r with
  | error e => simp [finishApply] at h
  | ok tr => exact ⟨tr, rfl⟩

theorem verifyAndApply_true_inv (C : Crypto) (c : Core) (d : Disk) (p : Proof)
    (h : (c.verifyAndApply C d p).result = .ok true) :
    ∃ cs j0 bu tr, p.fork = c.tree.fork ∧ c.tree.verifyProof C d.tree p c.publicKey = .ok cs
      ∧ c.tree.commitable cs = true ∧ dataStep c d p cs = .ok (j0, bu) ∧ encodable cs = true
      ∧ c.tree.commit cs = .ok tr := by
  obtain hr | ⟨e, j, hr⟩ | ⟨cs, j0, bu, hf, hv, hc, hd, he, hr⟩ := verifyAndApply_cases C c d p <;> rw [hr] at h
  · cases h
  · cases h
  · obtain ⟨tr, htr⟩ := finishApply_true_inv _ _ _ _ _ _ _ _ h
    exact ⟨cs, j0, bu, tr, hf, hv, hc, hd, he, htr⟩

end HC.Core
