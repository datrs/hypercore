import HC.Proofs.UpgradeSound
import HC.Proofs.FullRoots
import HC.Proofs.Complete
import HC.Proofs.CreateTotal
/-!
Honest upgrades are accepted (C03), first contact: a replica that knows nothing yet asks for the upgrade from 0 to the
writer's length; the writer answers with the reference roots of its log and its signature (`create_upgrade_from0`);
`verify_upgrade` finds at each full-root position exactly the next supplied node — the greedy walk and the recursive
root decomposition are the same list (`FullRoots.fullRoot_cover`) —, nothing merges, and the signature check is over
what the writer signed (`fresh_upgrade_accepted`).  In between, the only place where the writer's log meets `treat` / `treatAll`
(`CreateTotal.lean`): `treat_ref`, `treatAll_plain`, `treatAll_split` say what they give on the writer's tree; and `create_of_loop`.
-/
namespace HC.UpgradeComplete
open HC HC.Codec HC.Flat HC.Tree HC.RefTree HC.RefProof HC.Sound HC.TreeStore HC.UpgradeSound HC.FullRoots HC.Offsets HC.Pow2 HC.CreateTotal

theorem pos_index_lt (d o s : Nat) (h : (o + 1) * 2 ^ d ≤ s) : Flat.index d o < 2 * s :=
  Nat.lt_of_lt_of_le (index_lt_end d o) (Nat.mul_le_mul_left 2 h)

theorem cover_length_le (l : List (Nat × Nat)) (a b : Nat) (h : Cover l a b) : l.length ≤ b - a := by
  induction h with
  | nil a => exact Nat.zero_le _
  | cons d o a b rest ha hr ih =>
    -- the head spans at least one leaf
    have h1 : a + 1 ≤ (o + 1) * 2 ^ d := by rw [ha, succ_mul_pow]; exact Nat.add_le_add_left (pow_pos' d) _
    exact Nat.le_sub_of_add_le' (Nat.add_left_comm a _ 1 ▸ Nat.le_trans (Nat.add_le_add_left h1 _) (Nat.add_le_of_le_sub hr.le ih))

theorem cover_index_lt (C : Crypto) (bs : Array Bytes) {done : List (Nat × Nat)} {s : Nat} (h : Cover done 0 s) :
    ∀ r ∈ done.map (fun p => nodeAt C bs p.1 p.2), r.index < 2 * s := by
  intro r hr
  obtain ⟨p, hp, rfl⟩ := List.mem_map.mp hr
  exact pos_index_lt p.1 p.2 s (Cover.bound h p hp)

/-- the head of a depth-decreasing cover takes more than half of what is covered -/
theorem cover_head_lt {d o s T : Nat} {rest : List (Nat × Nat)} (hc : Cover ((d, o) :: rest) s T) (hdec : DecDepth ((d, o) :: rest)) :
    T < (o + 1) * 2 ^ d + 2 ^ d := by
  obtain ⟨_, c2, c3⟩ := cover_lt _ s T d o rest rfl hc hdec
  rw [pow_succ2, Nat.two_mul] at c2
  rw [succ_mul_pow, ← c3, Nat.add_assoc]
  exact (Nat.sub_lt_iff_lt_add' hc.le).mp c2

theorem span_rest {d o s T : Nat} (hs : s = o * 2 ^ d) (h : (o + 1) * 2 ^ d ≤ T) : 2 ^ d + (T - (o + 1) * 2 ^ d) = T - s := by
  subst hs; rw [succ_mul_pow] at h ⊢
  rw [Nat.sub_add_eq]; exact Nat.add_sub_cancel' (Nat.le_sub_of_add_le' h)

/-- One round of the root loop when the queue's head is the node for the next position of the cover: no root of
    the replica sits there (`hold`), the node is taken from the queue, and `append_root` adds it without merging because
    the last root is the left neighbour of a larger tree (`hlast`). -/
theorem upgradeRoots_take (C : Crypto) (T : Nat) (hT : T < 2 ^ 64) {d o s : Nat} {rest : List (Nat × Nat)} (fuel : Nat) (st : UpState)
    (n : Node) (ns : List Node) (hc : Cover ((d, o) :: rest) s T) (hdec : DecDepth ((d, o) :: rest)) (hit : st.it = iat 0 s)
    (hal : Align s T) (hgrow : st.grow = false) (hold : ∀ r ∈ st.cs.roots, r.index < 2 * s)
    (hq : st.q.nodes = n :: ns) (hn : n.index = Flat.index d o) (hex : st.q.extra = none)
    (hlast : ∀ r, st.cs.roots.getLast? = some r → ∃ m o', r.index = Flat.index m o' ∧ T < s + 2 ^ m) :
    ∃ cs1, upgradeRoots C (2 * T) (fuel + 1) st
        = upgradeRoots C (2 * T) fuel { st with cs := cs1, it := iat 0 ((o + 1) * 2 ^ d), q := { st.q with nodes := ns, length := st.q.length - 1 }, grow := false }
      ∧ cs1 = (appendRoot C st.cs n (iat d o)).1 ∧ cs1.roots = st.cs.roots ++ [n] ∧ cs1.rnodes = n :: st.cs.rnodes
      ∧ cs1.length = st.cs.length + 2 ^ d := by
  obtain ⟨hfr, hnext, hs, hfit, _, _, _⟩ := fullRoot_cover hc hdec hal hT
  rw [← hit] at hfr
  have hm : ¬ (st.i < st.cs.roots.length ∧ (st.cs.roots.getD st.i default).index = (iat d o).index) := fun ⟨h1, h2⟩ => by
    rw [List.getD_eq_getElem?_getD, List.getElem?_eq_getElem h1, Option.getD_some, iat_index] at h2
    exact Nat.lt_irrefl _ (Nat.lt_of_lt_of_le (h2 ▸ hold _ (List.getElem_mem h1)) (hs ▸ RefProof.index_ge_start d o))
  have hnm : ∀ b, st.cs.roots.getLast? = some b → (iat d o).sibling.index ≠ b.index := fun b hb hcon => by
    obtain ⟨m, o', h1, h2⟩ := hlast b hb
    rw [iat_sibling, h1, iat_index, index_eq_index_iff] at hcon
    exact absurd (hcon.1 ▸ h2) (Nat.not_lt.mpr (by rw [hs, ← succ_mul_pow]; exact hfit))
  obtain ⟨hr1, hit1, hrn1⟩ := appendRoot_nomerge C st.cs n (iat d o) hnm
  have hit1' : (appendRoot C st.cs n (iat d o)).2 = iat d o := by
    rcases hit1 with e | e
    · exact e
    · rw [e, iat_sibling_sibling]
  refine ⟨_, ?_, rfl, hr1, hrn1, congrArg (st.cs.length + ·) (iat_factor_half d o)⟩
  rw [upgradeRoots_succ_shift C _ fuel st (iat d o) hfr hm (fun h => by rw [hgrow] at h; exact Bool.false_ne_true h.1) n _
    (shift_of_head st.q n ns _ (fun e he => by rw [hex] at he; cases he) hq (by rw [hn, iat_index])), hit1', hnext]

/-- the root loop on honest input: the supplied nodes are the reference nodes at the remaining root positions `rest`,
    `done` are those already adopted -/
theorem upgradeRoots_honest (C : Crypto) (bs : Array Bytes) (hN : bs.size < 2 ^ 64) : ∀ (rest done : List (Nat × Nat)) (fuel s : Nat)
    (st : UpState), Cover done 0 s → Cover rest s bs.size → DecDepth rest → st.it = iat 0 s → Align s bs.size →
    st.grow = false →
    st.cs.roots = done.map (fun p => nodeAt C bs p.1 p.2) → st.q.nodes = rest.map (fun p => nodeAt C bs p.1 p.2) → st.q.extra = none →
    (∀ r, st.cs.roots.getLast? = some r → ∃ m o, r.index = Flat.index m o ∧ bs.size < s + 2 ^ m) →
    rest.length < fuel →
    ∃ st', upgradeRoots C (2 * bs.size) fuel st = .ok st'
      ∧ st'.cs.roots = (done ++ rest).map (fun p => nodeAt C bs p.1 p.2) ∧ st'.cs.length = st.cs.length + (bs.size - s)
      ∧ st'.q.extra = none ∧ st'.cs.fork = st.cs.fork
      ∧ st'.cs.rnodes = (rest.map (fun p => nodeAt C bs p.1 p.2)).reverse ++ st.cs.rnodes
      ∧ st'.cs.upgraded = (st.cs.upgraded || !rest.isEmpty)
      ∧ st'.cs.origLength = st.cs.origLength ∧ st'.cs.origFork = st.cs.origFork ∧ st'.cs.ancestors = st.cs.ancestors := by
  intro rest
  induction rest with
  | nil =>
    intro done fuel s st _ hrest _ hit _ _ hroots _ hex _ hfuel
    obtain ⟨fuel, rfl⟩ := Nat.exists_eq_succ_of_ne_zero (Nat.ne_of_gt hfuel)
    cases cover_nil_iff.mp hrest
    refine ⟨_, upgradeRoots_succ_done C _ fuel st _ (hit ▸ fullRoot_done bs.size bs.size (Nat.le_refl _)), ?_, ?_, hex, rfl, rfl, ?_, rfl, rfl, rfl⟩
    · rw [List.append_nil]; exact hroots
    · exact (congrArg (st.cs.length + ·) (Nat.sub_self bs.size)).symm
    · exact (Bool.or_false _).symm
  | cons p rest ih =>
    intro done fuel s st hdone hrest hdec hit hal hgrow hroots hq hex hlast hfuel
    obtain ⟨d, o⟩ := p
    obtain ⟨fuel, rfl⟩ := Nat.exists_eq_succ_of_ne_zero (Nat.ne_of_gt (Nat.zero_lt_of_lt hfuel))
    obtain ⟨cs1, hstep, hcs1, hr1, hrn1, hlen1⟩ := upgradeRoots_take C bs.size hN fuel st _ _ hrest hdec hit hal hgrow
      (hroots ▸ cover_index_lt C bs hdone) hq rfl hex hlast
    obtain ⟨_, _, hs, hspan, hrest', hdec', hal'⟩ := fullRoot_cover hrest hdec hal hN
    obtain ⟨st', hrun, hr', hlen', hex', hfork, hrn', hup, horigL, horigF, hanc⟩ := ih (done ++ [(d, o)]) fuel ((o + 1) * 2 ^ d)
      { st with cs := cs1, it := iat 0 ((o + 1) * 2 ^ d), q := { st.q with nodes := rest.map (fun p => nodeAt C bs p.1 p.2), length := st.q.length - 1 }, grow := false }
      (hdone.append (Cover.cons d o s _ [] hs (Cover.nil _))) hrest' hdec' rfl hal' rfl
      (by rw [List.map_append, ← hroots]; exact hr1) rfl hex
      (fun r hr => by
        rw [hr1, List.getLast?_concat, Option.some.injEq] at hr
        exact ⟨d, o, hr ▸ rfl, cover_head_lt hrest hdec⟩)
      (Nat.lt_of_succ_lt_succ hfuel)
    -- `append_root` leaves the fork, the original length and fork, and `ancestors` alone
    refine ⟨st', hstep ▸ hrun, ?_, ?_, hex', hfork.trans (hcs1 ▸ rfl), ?_, ?_, horigL.trans (hcs1 ▸ rfl), horigF.trans (hcs1 ▸ rfl),
      hanc.trans (hcs1 ▸ rfl)⟩
    · rw [hr', List.append_assoc]; rfl
    · rw [hlen']; show cs1.length + _ = _; rw [hlen1, Nat.add_assoc, span_rest hs hspan]
    · rw [hrn']; show _ ++ cs1.rnodes = _; rw [hrn1, List.map_cons, List.reverse_cons, List.append_assoc]; rfl
    · rw [hup]; show (cs1.upgraded || _) = _; rw [hcs1]; exact (Bool.true_or _).trans (Bool.or_true _).symm

/-- **A fresh replica accepts the writer's answer to "upgrade me from 0 to your length".** -/
theorem fresh_upgrade_accepted (C : Crypto) (bs : Array Bytes) (hN : bs.size < 2 ^ 64) (h0 : 0 < bs.size) (fork : Nat) (pk sig : Bytes)
    (cs : Changeset) (hroots : cs.roots = []) (hlen : cs.length = 0)
    (hsl : sig.length = 64) (hver : C.verify pk (RefTree.signableOf C bs fork) sig = true) :
    ∃ cs', verifyUpgrade C fork ⟨0, bs.size, RefTree.roots C bs, [], sig⟩ none pk cs = .ok (true, cs')
      ∧ cs'.roots = RefTree.roots C bs ∧ cs'.length = bs.size ∧ cs'.fork = fork ∧ cs'.signature = some sig
      ∧ cs'.rnodes = (RefTree.roots C bs).reverse ++ cs.rnodes ∧ cs'.upgraded = true
      ∧ cs'.origLength = cs.origLength ∧ cs'.origFork = cs.origFork ∧ cs'.ancestors = cs.ancestors
      ∧ cs'.hash = some (rootsHash C cs'.roots) := by
  have hne : (rootsStack bs.size).reverse ≠ [] := fun h => rootsStack_ne_nil bs.size h0 (List.reverse_eq_nil_iff.mp h)
  -- `2 * bs.size + 2` is the fuel `verify_upgrade` gives its root loop; a cover of `[0, size)` has at most `size` members
  obtain ⟨st', hrun, hr', hlen', hex', _, hrn', hup, horigL, horigF, hanc⟩ := upgradeRoots_honest C bs hN (rootsStack bs.size).reverse [] (2 * bs.size + 2) 0
    ⟨cs, Iter.new 0, NodeQueue.new (RefTree.roots C bs) none, 0, !cs.roots.isEmpty⟩
    (Cover.nil 0) (cover_roots bs.size) (rootsStack_rev_dec bs.size) (new_even 0) (align_zero _)
    (by show (!cs.roots.isEmpty) = false; rw [hroots]; rfl) hroots rfl rfl
    (fun r hr => by rw [show cs.roots = [] from hroots] at hr; cases hr)
    (Nat.lt_of_le_of_lt (cover_length_le _ _ _ (cover_roots bs.size))
      (Nat.lt_of_le_of_lt (Nat.le_mul_of_pos_left _ (by decide)) (Nat.lt_add_of_pos_right (by decide))))
  have h2 : st'.cs.roots = RefTree.roots C bs := hr'
  have h3 : st'.cs.length = bs.size := by rw [hlen']; show cs.length + _ = _; rw [hlen, Nat.zero_add]; rfl
  obtain ⟨last, hlast⟩ : ∃ last, st'.cs.roots.getLast? = some last :=
    ⟨_, List.getLast?_eq_some_getLast (h2 ▸ fun h => hne (List.map_eq_nil_iff.mp h))⟩
  refine ⟨{ st'.cs with fork := fork, hash := some (rootsHash C st'.cs.roots), signature := some sig }, ?_, h2, h3, rfl, rfl, hrn', ?_, horigL, horigF, hanc, rfl⟩
  · rw [verifyUpgrade_ok_iff]
    refine ⟨st', last, (st'.cs, Iter.new last.index), by rw [Nat.zero_add]; exact hrun, hlast, ?_, hsl, ?_, by rw [hex']; rfl, rfl⟩
    · rw [extraSiblings_nil, extraRest_nil]
    · show C.verify pk (signable (rootsHash C st'.cs.roots) st'.cs.length fork) sig = true
      rw [h2, h3]; exact hver
  · rw [hup, List.isEmpty_eq_false_iff.mpr hne]; exact Bool.or_true _

theorem requiredNode_ok (C : Crypto) (bs : Array Bytes) (t : Tree) (f : File) (hN : NodesOK C bs t f) (d o : Nat)
    (hb : (o + 1) * 2 ^ d ≤ bs.size) : t.requiredNode f (Flat.index d o) = .ok (nodeAt C bs d o) := by
  unfold Tree.requiredNode; rw [hN d o hb]

section
variable {C : Crypto} {bs : Array Bytes} {t : Tree} {f : File} {ix : Option Indexed} {sk : Bool} {sub : Nat} {acc : List Node} {p : LocalProof}

/-- `treat` on a node of the writer's tree: handed over, or sent as the reference node -/
theorem treat_ref (hN : NodesOK C bs t f) {d o : Nat} (hb : (o + 1) * 2 ^ d ≤ bs.size) :
    t.treat f true ix sk sub (iat d o) acc p
      = if (p.nodes.isNone && p.seek.isNone && (iat d o).contains sub) = true then
          andThen (t.blockAndSeekProof f ix sk sub (Flat.index d o) p) fun p' => .ok (acc, p')
        else .ok (acc ++ [nodeAt C bs d o], p) := by
  rw [Tree.treat, Bool.true_and, iat_index, UpgradeComplete.requiredNode_ok C bs t f hN d o hb]
  rfl

/-- nodes of the writer's tree none of which is handed over are all sent -/
theorem treatAll_plain (hN : NodesOK C bs t f) {l : List (Nat × Nat)} (hb : ∀ x ∈ l, (x.2 + 1) * 2 ^ x.1 ≤ bs.size)
    (h : ∀ x ∈ l, (p.nodes.isNone && p.seek.isNone && (iat x.1 x.2).contains sub) = false) :
    t.treatAll f true ix sk sub l acc p = .ok (acc ++ l.map (fun q => nodeAt C bs q.1 q.2), p) := by
  induction l generalizing acc with
  | nil => rw [treatAll, List.map_nil, List.append_nil]
  | cons x l ih =>
    rw [treatAll, treat_ref hN (hb x (List.mem_cons_self ..)), if_neg (by rw [h x (List.mem_cons_self ..)]; decide), ok_andThen,
      ih (fun y hy => hb y (List.mem_cons_of_mem _ hy)) (fun y hy => h y (List.mem_cons_of_mem _ hy)), List.map_cons, List.append_assoc]
    rfl

/-- the first node that contains the sub tree becomes the block section, and from then on every node is sent -/
theorem treatAll_split (hN : NodesOK C bs t f) {a : List (Nat × Nat)} {x : Nat × Nat} {b : List (Nat × Nat)} {p' : LocalProof}
    (hin : ∀ y ∈ a ++ x :: b, (y.2 + 1) * 2 ^ y.1 ≤ bs.size)
    (ha : ∀ y ∈ a, (p.nodes.isNone && p.seek.isNone && (iat y.1 y.2).contains sub) = false)
    (hx : (p.nodes.isNone && p.seek.isNone && (iat x.1 x.2).contains sub) = true)
    (hb : t.blockAndSeekProof f ix sk sub (Flat.index x.1 x.2) p = .ok p') (hp : p'.nodes.isNone = false) :
    t.treatAll f true ix sk sub (a ++ x :: b) acc p = .ok (acc ++ (a ++ b).map (fun q => nodeAt C bs q.1 q.2), p') := by
  rw [treatAll_append, treatAll_plain hN (fun y hy => hin y (List.mem_append_left _ hy)) ha, ok_andThen, treatAll,
    treat_ref hN (hin x (List.mem_append_right _ (List.mem_cons_self ..))), if_pos hx, hb, ok_andThen, ok_andThen,
    treatAll_plain hN (fun y hy => hin y (List.mem_append_right _ (List.mem_cons_of_mem _ hy))) (fun y _ => by rw [hp]; rfl),
    List.map_append, List.append_assoc]

end

/-- the answer to "upgrade from `m` to the writer's length `n`", possibly with a block, from its two computations: the first
    stage (the block section, when the block lies before `m`) and the root loop, whose upgrade section has begun from the
    start iff `m = 0`.  80 is the fuel `upgrade_proof` gives the root loop (one round per root, of which there are at most 64) -/
theorem create_of_loop (t : Tree) (f : File) (block : Option RequestBlock) (m n : Nat) (hlen : t.length = n) (hmn : m < n)
    {sig : Bytes} (hsig : t.signature = some sig) {sub : Nat} {p0 : LocalProof} {u : Bool}
    (h1 : stage1 t f (indexedOf block none) none (some ⟨m, n - m⟩) (2 * m) (2 * n) (2 * n) = .ok (sub, p0, u))
    {hasUp : Bool} (hh : hasUp = decide (2 * m = 0)) {ns : List Node} {p : LocalProof}
    (hloop : t.upgradeLoop f true (indexedOf block none) false (2 * m) (2 * n) sub 80 (iat 0 0) hasUp [] p0 = .ok (true, ns, p))
    (hnodes : block.isSome = true → p.nodes.isSome = true) :
    t.createValuelessProof f block none none (some ⟨m, n - m⟩)
      = .ok ⟨t.fork, block.bind fun b => p.nodes.map fun ps => ⟨b.index, ps⟩, none, none,
          some ⟨m, n - m, ns, p.additional.getD [], sig⟩⟩ := by
  have h3 : stage3 t f (indexedOf block none) none (some ⟨m, n - m⟩) (2 * m) (2 * n) (2 * n) sub p0 = .ok { p with upgrade := some ns } := by
    simp only [stage3, Option.isSome_some, Option.isSome_none, if_true, Tree.upgradeProof, new_even 0, ← hh, hloop, Nat.lt_irrefl, if_false]
  have hwin : ¬ (2 * m ≥ 2 * n ∨ 2 * n > 2 * n) := fun h =>
    h.elim (Nat.not_le_of_gt (Nat.mul_lt_mul_of_pos_left hmn (by decide))) (Nat.lt_irrefl _)
  rw [create_eq]
  show staged t f block none none (some ⟨m, n - m⟩) (m * 2) (m * 2 + (n - m) * 2) = _
  rw [← Nat.add_mul, Nat.add_sub_cancel' (Nat.le_of_lt hmn), Nat.mul_comm m 2, Nat.mul_comm n 2, staged, hlen, if_neg hwin, h1]
  simp only []
  rw [show stage2 t f none (2 * n) sub u = .ok sub by cases u <;> rfl]
  simp only []
  rw [h3]
  simp only []
  rw [assemble.eq_def, hsig]
  cases block with
  | none => rfl
  | some b =>
    obtain ⟨ps, hps⟩ := Option.isSome_iff_exists.mp (hnodes rfl)
    rw [hps]
    rfl

theorem upgradeLoop_honest0 (C : Crypto) (bs : Array Bytes) (t : Tree) (f : File) (hNodes : NodesOK C bs t f) (hN : bs.size < 2 ^ 64)
    (sub : Nat) (hsub : 2 * bs.size ≤ sub) (p : LocalProof) :
    ∀ (rest : List (Nat × Nat)) (fuel s : Nat) (acc : List Node), Cover rest s bs.size → DecDepth rest → Align s bs.size →
      rest.length < fuel →
      t.upgradeLoop f true none false 0 (2 * bs.size) sub fuel (iat 0 s) true acc p
        = .ok (true, acc ++ rest.map (fun q => nodeAt C bs q.1 q.2), p) := by
  intro rest fuel s acc hc hdec hal hfuel
  -- `frm = 0`: nothing is skipped; no root contains a sub tree beyond the writer's length: all are sent
  rw [upgradeLoop_rootWalk hN hc hdec hal hfuel,
    rootWalk_tail (fun x _ => Nat.mul_pos (by decide) (Nat.mul_pos (Nat.succ_pos _) (pow_pos' _))),
    treatAll_plain hNodes hc.bound fun x hx => by
      rw [iat_contains_ge (Nat.le_trans (Nat.mul_le_mul_left 2 (hc.bound x hx)) hsub), Bool.and_false]]
  rfl

/-- **The writer's answer to "upgrade me from 0 to your length"** is its reference roots and its signature. -/
theorem create_upgrade_from0 (C : Crypto) (bs : Array Bytes) (t : Tree) (f : File) (hT : RootsOK C bs t.changeset)
    (hNodes : NodesOK C bs t f) (hN : bs.size < 2 ^ 64) (h0 : 0 < bs.size) (sig : Bytes) (hsig : t.signature = some sig) :
    t.createValuelessProof f none none none (some ⟨0, bs.size⟩)
      = .ok ⟨t.fork, none, none, none, some ⟨0, bs.size, RefTree.roots C bs, [], sig⟩⟩ := by
  have hrs : RefTree.roots C bs = [] ++ (rootsStack bs.size).reverse.map (fun p => nodeAt C bs p.1 p.2) := by
    rw [List.nil_append, RefTree.roots, List.map_reverse]
  have hloop := upgradeLoop_honest0 C bs t f hNodes hN (2 * bs.size) (Nat.le_refl _) {} (rootsStack bs.size).reverse 80 0 []
    (cover_roots bs.size) (rootsStack_rev_dec bs.size) (align_zero _)
    (by rw [List.length_reverse]; exact Nat.lt_of_le_of_lt (rootsStack_length_log 64 bs.size hN) (by decide))
  rw [← hrs] at hloop
  exact create_of_loop t f none 0 bs.size hT.length h0 hsig rfl rfl hloop (fun h => nomatch h)

end HC.UpgradeComplete
