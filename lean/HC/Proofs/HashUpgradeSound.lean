import HC.Proofs.SeekSound
import HC.Proofs.UpgradeSound
/-!
**Tree sections + upgrade in one proof** (C04).  `verify_tree` hashes the sections up to their root; the root then
waits in `verify_upgrade`'s queue as the extra node.  Either the upgrade consumes it — then it is one of the nodes that
hash up to the signed roots (`upgrade_extra_auth`) — or it is compared with a stored node.  In both cases its hash is
the writer's (`verifyProof_root_auth`): of the writer's log, or of its signed prefix of the adopted length.  What an
authentic root says about the sections below it is `SeekSound`'s, for any log.  The block-only case
`UpgradeSound.block_upgrade_sound` closes the file; first contact is `C04.sound_first_contact`.
Throughout, `hunf` … `hT` are: the key verifies only what was `Signed`, the writer signs only
prefixes of its log, hashes have 32 bytes, and the lengths and forks involved are below 2^64.
-/
namespace HC.HashUpgradeSound
open HC HC.Codec HC.Flat HC.Tree HC.RefTree HC.RefProof HC.Sound HC.TreeStore HC.UpgradeSound HC.SeekSound HC.CreateTotal

/-- an extra node that `verify_upgrade` reports as consumed carries the hash the signed tree has at its position -/
theorem upgrade_extra_auth (C : Crypto) (bs : Array Bytes) (wfork : Nat) (Signed : Bytes → Prop)
    (fork : Nat) (u : DataUpgrade) (root : Node) (pk : Bytes) (cs1 cs2 : Changeset)
    (hcanon : ∀ l, cs1.roots.getLast? = some l → ∃ d o, l.index = Flat.index d o ∧ d ≤ 64)
    (hunf : ∀ m sig, C.verify pk m sig = true → Signed m)
    (hsig : ∀ m, Signed m → ∃ n, n ≤ bs.size ∧ m = RefTree.signableOf C (bs.extract 0 n) wfork)
    (hlen : ∀ x, (C.tree x).length = 32) (hsize : bs.size < 2 ^ 64) (hwf : wfork < 2 ^ 64)
    (hb1 : cs2.length < 2 ^ 64) (hb2 : fork < 2 ^ 64) (hT : u.start + u.length < 2 ^ 64)
    (hvu : verifyUpgrade C fork u (some root) pk cs1 = .ok (true, cs2)) :
    Collision C ∨ TreeCollision C ∨ ∀ d o, root.index = Flat.index d o → root.hash = (RefTree.node C (bs.extract 0 cs2.length) d o).2 := by
  -- the adopted roots are the signed ones, and the node was merged into them
  rcases upgrade_sound C bs wfork Signed fork u (some root) pk cs1 cs2 true hunf hsig hlen hsize hwf hb1 hb2 hvu with hcol | ⟨_, _, hroots⟩
  · exact Or.inr (Or.inl hcol)
  · exact (consumed_auth C _ fork u root pk cs1 cs2 hcanon hT hvu fun x hx =>
      let ⟨d, o, _, hi, hh⟩ := roots_ref C _ cs2.roots hroots x hx; authH_at C _ x d o hi hh).imp_right Or.inr

theorem verifyProof_root_auth (C : Crypto) (bs : Array Bytes) (wfork : Nat) (Signed : Bytes → Prop)
    (t : Tree) (f : File) (pk : Bytes) (p : Proof) (u : DataUpgrade) (root : Node) (cs1 cs' : Changeset)
    (hvt : verifyTree C p.block p.hash p.seek t.changeset = .ok (some root, cs1)) (hroots : cs1.roots = t.changeset.roots)
    (hu : p.upgrade = some u)
    (hcanon : ∀ l, t.changeset.roots.getLast? = some l → ∃ d o, l.index = Flat.index d o ∧ d ≤ 64)
    (hunf : ∀ m sig, C.verify pk m sig = true → Signed m)
    (hsig : ∀ m, Signed m → ∃ n, n ≤ bs.size ∧ m = RefTree.signableOf C (bs.extract 0 n) wfork)
    (hlen : ∀ x, (C.tree x).length = 32) (hsize : bs.size < 2 ^ 64) (hwf : wfork < 2 ^ 64)
    (hb1 : cs'.length < 2 ^ 64) (hb2 : p.fork < 2 ^ 64) (hT : u.start + u.length < 2 ^ 64)
    (hauth : StoreAuthentic C bs t f)
    (hv : t.verifyProof C f p pk = .ok cs') :
    Collision C ∨ TreeCollision C ∨ (∀ dd oo, root.index = Flat.index dd oo → root.hash = (RefTree.node C bs dd oo).2)
      ∨ (∀ dd oo, root.index = Flat.index dd oo → root.hash = (RefTree.node C (bs.extract 0 cs'.length) dd oo).2) := by
  obtain ⟨root', cs1', hvt', _, h⟩ := verifyProof_root C bs t f pk p cs' hauth hv
  rw [hvt] at hvt'
  cases hvt'
  rcases h root rfl with hA | ⟨u', hu', hvu⟩
  · exact Or.inr (Or.inr (Or.inl hA))
  · cases hu.symm.trans hu'
    exact (upgrade_extra_auth C bs wfork Signed p.fork u root pk cs1 cs' (fun l hl => hcanon l (by rw [← hroots]; exact hl))
      hunf hsig hlen hsize hwf hb1 hb2 hT hvu).imp_right (Or.imp_right Or.inr)

/-- an accepted proof with an upgrade: the root of its tree sections, if there is one, is authentic in the writer's log
    or in its signed prefix of the adopted length -/
theorem verifyProof_root_signed (C : Crypto) (bs : Array Bytes) (wfork : Nat) (Signed : Bytes → Prop)
    (t : Tree) (f : File) (pk : Bytes) (p : Proof) (u : DataUpgrade) (cs' : Changeset) (hu : p.upgrade = some u)
    (hcanon : ∀ l, t.changeset.roots.getLast? = some l → ∃ d o, l.index = Flat.index d o ∧ d ≤ 64)
    (hunf : ∀ m sig, C.verify pk m sig = true → Signed m)
    (hsig : ∀ m, Signed m → ∃ n, n ≤ bs.size ∧ m = RefTree.signableOf C (bs.extract 0 n) wfork)
    (hlen : ∀ x, (C.tree x).length = 32) (hsize : bs.size < 2 ^ 64) (hwf : wfork < 2 ^ 64)
    (hb1 : cs'.length < 2 ^ 64) (hb2 : p.fork < 2 ^ 64) (hT : u.start + u.length < 2 ^ 64)
    (hauth : StoreAuthentic C bs t f) (hv : t.verifyProof C f p pk = .ok cs') :
    ∃ root cs1, verifyTree C p.block p.hash p.seek t.changeset = .ok (root, cs1) ∧ ∀ r, root = some r →
      Collision C ∨ TreeCollision C ∨ AuthH C bs r ∨ AuthH C (bs.extract 0 cs'.length) r := by
  obtain ⟨root, cs1, hvt, hroots, _⟩ := verifyProof_root C bs t f pk p cs' hauth hv
  refine ⟨root, cs1, hvt, fun r hr => ?_⟩
  subst hr
  exact verifyProof_root_auth C bs wfork Signed t f pk p u r cs1 cs' hvt hroots hu hcanon hunf hsig hlen hsize hwf hb1 hb2 hT hauth hv

/-- what the root authenticates in any log it is authentic for, it authenticates in the writer's log or in the signed
    prefix -/
theorem of_root_auth (C : Crypto) {bs : Array Bytes} {L : Nat} {r : Node} {S : Array Bytes → Prop}
    (hroot : Collision C ∨ TreeCollision C ∨ AuthH C bs r ∨ AuthH C (bs.extract 0 L) r)
    (hsec : ∀ B, AuthH C B r → Collision C ∨ S B) : Collision C ∨ TreeCollision C ∨ S bs ∨ S (bs.extract 0 L) := by
  rcases hroot with h | h | h | h
  · exact Or.inl h
  · exact Or.inr (Or.inl h)
  · exact (hsec _ h).imp_right fun h => Or.inr (Or.inl h)
  · exact (hsec _ h).imp_right fun h => Or.inr (Or.inr h)

/-- **hash section + upgrade**: the conclusion of `hash_proof_sound` for the writer's log, or for its signed prefix of the
    adopted length when the upgrade consumed the section's root -/
theorem hash_upgrade_sound (C : Crypto) (bs : Array Bytes) (wfork : Nat) (Signed : Bytes → Prop)
    (t : Tree) (f : File) (pk : Bytes) (p : Proof) (hsec : DataHash) (u : DataUpgrade) (cs' : Changeset)
    (hb : p.block = none) (hh : p.hash = some hsec) (hs : p.seek = none) (hu : p.upgrade = some u) (hcan : Canon hsec.index)
    (hcanon : ∀ l, t.changeset.roots.getLast? = some l → ∃ d o, l.index = Flat.index d o ∧ d ≤ 64)
    (hunf : ∀ m sig, C.verify pk m sig = true → Signed m)
    (hsig : ∀ m, Signed m → ∃ n, n ≤ bs.size ∧ m = RefTree.signableOf C (bs.extract 0 n) wfork)
    (hlen : ∀ x, (C.tree x).length = 32) (hsize : bs.size < 2 ^ 64) (hwf : wfork < 2 ^ 64)
    (hb1 : cs'.length < 2 ^ 64) (hb2 : p.fork < 2 ^ 64) (hT : u.start + u.length < 2 ^ 64)
    (hauth : StoreAuthentic C bs t f)
    (hv : t.verifyProof C f p pk = .ok cs') :
    Collision C ∨ TreeCollision C ∨ ∃ n0 rest d o, hsec.nodes = n0 :: rest ∧ hsec.index = Flat.index d o ∧ n0.index = hsec.index
      ∧ ((n0.hash = (RefTree.node C bs d o).2
          ∧ (n0.length = (RefTree.node C bs d o).1 → ∀ n ∈ rest, ∃ dn on, n = nodeAt C bs dn on))
        ∨ (n0.hash = (RefTree.node C (bs.extract 0 cs'.length) d o).2
          ∧ (n0.length = (RefTree.node C (bs.extract 0 cs'.length) d o).1 → ∀ n ∈ rest, ∃ dn on, n = nodeAt C (bs.extract 0 cs'.length) dn on))) := by
  obtain ⟨root, cs1, hvt, hr⟩ := verifyProof_root_signed C bs wfork Signed t f pk p u cs' hu hcanon hunf hsig hlen hsize hwf hb1 hb2 hT hauth hv
  obtain ⟨r, n0, rest, d, o, rfl, hn, hidx, hi, hsound⟩ := hash_section C p hsec _ root cs1 hb hh hs hcan hvt
  exact (of_root_auth C (hr r rfl) hsound).imp_right (Or.imp_right fun h => ⟨n0, rest, d, o, hn, hidx, hi, h⟩)

/-- **seek section + upgrade** (no block, no hash section): the seek root is `verify_upgrade`'s extra node -/
theorem seek_upgrade_sound (C : Crypto) (bs : Array Bytes) (wfork : Nat) (Signed : Bytes → Prop)
    (t : Tree) (f : File) (pk : Bytes) (p : Proof) (s : DataSeek) (n0 : Node) (srest : List Node) (u : DataUpgrade) (cs' : Changeset)
    (hb : p.block = none) (hh : p.hash = none) (hs : p.seek = some s) (hsn : s.nodes = n0 :: srest) (hu : p.upgrade = some u) (hcan : Canon n0.index)
    (hcanon : ∀ l, t.changeset.roots.getLast? = some l → ∃ d o, l.index = Flat.index d o ∧ d ≤ 64)
    (hunf : ∀ m sig, C.verify pk m sig = true → Signed m)
    (hsig : ∀ m, Signed m → ∃ n, n ≤ bs.size ∧ m = RefTree.signableOf C (bs.extract 0 n) wfork)
    (hlen : ∀ x, (C.tree x).length = 32) (hsize : bs.size < 2 ^ 64) (hwf : wfork < 2 ^ 64)
    (hb1 : cs'.length < 2 ^ 64) (hb2 : p.fork < 2 ^ 64) (hT : u.start + u.length < 2 ^ 64)
    (hauth : StoreAuthentic C bs t f)
    (hv : t.verifyProof C f p pk = .ok cs') :
    Collision C ∨ TreeCollision C ∨ ∃ d o, n0.index = Flat.index d o
      ∧ ((n0.hash = (RefTree.node C bs d o).2
          ∧ (n0.length = (RefTree.node C bs d o).1 → ∀ n ∈ srest, ∃ dn on, n = nodeAt C bs dn on))
        ∨ (n0.hash = (RefTree.node C (bs.extract 0 cs'.length) d o).2
          ∧ (n0.length = (RefTree.node C (bs.extract 0 cs'.length) d o).1 → ∀ n ∈ srest, ∃ dn on, n = nodeAt C (bs.extract 0 cs'.length) dn on))) := by
  obtain ⟨root, cs1, hvt, hr⟩ := verifyProof_root_signed C bs wfork Signed t f pk p u cs' hu hcanon hunf hsig hlen hsize hwf hb1 hb2 hT hauth hv
  obtain ⟨r, d, o, rfl, hidx, hsound⟩ := seek_section C p s n0 srest _ root cs1 hb hh hs hsn hcan hvt
  exact (of_root_auth C (hr r rfl) hsound).imp_right (Or.imp_right fun h => ⟨d, o, hidx, h⟩)

/-- **block + seek + upgrade in one proof**: the seek root waits in the block climb's queue, the block's root in
    `verify_upgrade`'s -/
theorem block_seek_upgrade_sound (C : Crypto) (bs : Array Bytes) (wfork : Nat) (Signed : Bytes → Prop)
    (t : Tree) (f : File) (pk : Bytes) (p : Proof) (b : DataBlock) (s : DataSeek) (n0 : Node) (srest : List Node) (u : DataUpgrade) (cs' : Changeset)
    (hb : p.block = some b) (hs : p.seek = some s) (hsn : s.nodes = n0 :: srest) (hu : p.upgrade = some u) (hcan : Canon n0.index)
    (hcanon : ∀ l, t.changeset.roots.getLast? = some l → ∃ d o, l.index = Flat.index d o ∧ d ≤ 64)
    (hunf : ∀ m sig, C.verify pk m sig = true → Signed m)
    (hsig : ∀ m, Signed m → ∃ n, n ≤ bs.size ∧ m = RefTree.signableOf C (bs.extract 0 n) wfork)
    (hlen : ∀ x, (C.tree x).length = 32) (hsize : bs.size < 2 ^ 64) (hwf : wfork < 2 ^ 64)
    (hb1 : cs'.length < 2 ^ 64) (hb2 : p.fork < 2 ^ 64) (hT : u.start + u.length < 2 ^ 64)
    (hauth : StoreAuthentic C bs t f)
    (hv : t.verifyProof C f p pk = .ok cs') :
    Collision C ∨ TreeCollision C ∨ SecOK C bs b n0 srest ∨ SecOK C (bs.extract 0 cs'.length) b n0 srest := by
  obtain ⟨root, cs1, hvt, hr⟩ := verifyProof_root_signed C bs wfork Signed t f pk p u cs' hu hcanon hunf hsig hlen hsize hwf hb1 hb2 hT hauth hv
  obtain ⟨r, rfl, hsound⟩ := block_seek_section C p b s n0 srest _ root cs1 hb hs hsn hcan hvt
  exact of_root_auth C (hr r rfl) hsound

/-- **hash + seek + upgrade in one proof** -/
theorem hash_seek_upgrade_sound (C : Crypto) (bs : Array Bytes) (wfork : Nat) (Signed : Bytes → Prop)
    (t : Tree) (f : File) (pk : Bytes) (p : Proof) (hsec : DataHash) (s : DataSeek) (m0 : Node) (hrest : List Node) (n0 : Node) (srest : List Node)
    (u : DataUpgrade) (cs' : Changeset)
    (hb : p.block = none) (hh : p.hash = some hsec) (hhn : hsec.nodes = m0 :: hrest) (hs : p.seek = some s) (hsn : s.nodes = n0 :: srest)
    (hu : p.upgrade = some u) (hcan : Canon n0.index) (hcanh : Canon hsec.index)
    (hcanon : ∀ l, t.changeset.roots.getLast? = some l → ∃ d o, l.index = Flat.index d o ∧ d ≤ 64)
    (hunf : ∀ m sig, C.verify pk m sig = true → Signed m)
    (hsig : ∀ m, Signed m → ∃ n, n ≤ bs.size ∧ m = RefTree.signableOf C (bs.extract 0 n) wfork)
    (hlen : ∀ x, (C.tree x).length = 32) (hsize : bs.size < 2 ^ 64) (hwf : wfork < 2 ^ 64)
    (hb1 : cs'.length < 2 ^ 64) (hb2 : p.fork < 2 ^ 64) (hT : u.start + u.length < 2 ^ 64)
    (hauth : StoreAuthentic C bs t f)
    (hv : t.verifyProof C f p pk = .ok cs') :
    Collision C ∨ TreeCollision C ∨ HSOK C bs hsec m0 hrest n0 srest ∨ HSOK C (bs.extract 0 cs'.length) hsec m0 hrest n0 srest := by
  obtain ⟨root, cs1, hvt, hr⟩ := verifyProof_root_signed C bs wfork Signed t f pk p u cs' hu hcanon hunf hsig hlen hsize hwf hb1 hb2 hT hauth hv
  obtain ⟨r, rfl, hsound⟩ := hash_seek_section C p hsec s m0 hrest n0 srest _ root cs1 hb hh hhn hs hsn hcan hcanh hvt
  exact of_root_auth C (hr r rfl) hsound

end HC.HashUpgradeSound

namespace HC.UpgradeSound
open HC HC.Codec HC.Flat HC.Tree HC.RefTree HC.RefProof HC.Sound HC.TreeStore HC.SeekSound HC.HashUpgradeSound HC.Pow2 HC.File

/-- **Block + upgrade on any honest replica** (C04).  `hcanon`: the replica's last root sits at a tree position of depth
    ≤ 64 — true of the reference roots of any log shorter than 2^64.  The `grow` branch (the replica's last roots merged
    upwards into a larger signed root) is covered: authenticity flows backwards from the signed roots through every
    merge (`mergeLoop_back`), because all iterators involved are canonical and depend on the claimed length only. -/
theorem block_upgrade_sound (C : Crypto) (bs : Array Bytes) (wfork : Nat) (Signed : Bytes → Prop)
    (t : Tree) (f : File) (pk : Bytes) (p : Proof) (b : DataBlock) (u : DataUpgrade) (cs' : Changeset)
    (hb : p.block = some b) (hs : p.seek = none) (hu : p.upgrade = some u)
    (hcanon : ∀ l, t.changeset.roots.getLast? = some l → ∃ d o, l.index = Flat.index d o ∧ d ≤ 64)
    (hunf : ∀ m sig, C.verify pk m sig = true → Signed m)
    (hsig : ∀ m, Signed m → ∃ n, n ≤ bs.size ∧ m = RefTree.signableOf C (bs.extract 0 n) wfork)
    (hlen : ∀ x, (C.tree x).length = 32) (hsize : bs.size < 2 ^ 64) (hwf : wfork < 2 ^ 64)
    (hb1 : cs'.length < 2 ^ 64) (hb2 : p.fork < 2 ^ 64) (hT : u.start + u.length < 2 ^ 64)
    (hauth : StoreAuthentic C bs t f)
    (hv : t.verifyProof C f p pk = .ok cs') :
    Collision C ∨ TreeCollision C ∨ b.value = bs.getD b.index [] ∨ b.value = (bs.extract 0 cs'.length).getD b.index [] := by
  obtain ⟨root, cs1, hvt, hr⟩ := verifyProof_root_signed C bs wfork Signed t f pk p u cs' hu hcanon hunf hsig hlen hsize hwf hb1 hb2 hT hauth hv
  obtain ⟨r, rfl, _, hsound⟩ := block_section C p b _ root cs1 hb hs hvt
  exact (of_root_auth C (hr r rfl) hsound).imp_right (Or.imp_right (Or.imp And.left And.left))

end HC.UpgradeSound
