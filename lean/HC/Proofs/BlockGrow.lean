import HC.Proofs.BlockGrowGen
/-!
A block below the replica's length (held or not) **together with an upgrade**, at core level (C03): the honest combined
proof for a block `i < m` is an accepted block + upgrade proof in the sense of `BlockGrowGen.Accepted` — the byte offset is computed under
the *merged* roots (`BlockUpgrade.offset_in_upgraded`) — so the step keeps both invariants.
-/
namespace HC.BlockGrow
open HC HC.Codec HC.Flat HC.Tree HC.RefTree HC.RefProof HC.Sound HC.Offsets HC.TreeStore HC.Complete HC.UpgradeSound HC.CreateTotal
  HC.Replica HC.Growth HC.HashReq HC.Oplog HC.Core HC.OplogBytes HC.FormatLimits HC.BitfieldPages HC.Touch HC.ReplicaReopen HC.BlockGrowGen

/-- the honest answer to "block `i` (with the node count of my own `missing_nodes`) and an upgrade `m → n`" -/
def honestBlockGrowth (C : Crypto) (bs : Array Bytes) (c : Core) (d : Disk) (i m n : Nat) (us : List (Nat × Nat)) (sig : Bytes) : Proof :=
  ⟨c.tree.fork, some ⟨i, bs.getD i [], Complete.sibPath C bs 0 i (c.tree.missingNodes d.tree (2 * i))⟩, none, none, some ⟨m, n - m, us.map (fun p => nodeAt C bs p.1 p.2), [], sig⟩⟩

/-- the honest combined proof is accepted, with everything `Accepted` asks for -/
theorem blockgrow_accepted (C : Crypto) (hC : HashWF C) (bs : Array Bytes) (m n : Nat) (c : Core) (d : Disk) (held : Nat → Bool)
    (h : RepRAt C bs m c d held) (hm0 : 0 < m) (hmn : m < n) (hn : n ≤ bs.size) (us : List (Nat × Nat))
    (hup : Up m 0 (rootsStack n).reverse us) (sig : Bytes) (hsl : sig.length = 64)
    (hver : C.verify c.publicKey (signableAt C bs n c.tree.fork) sig = true) (i : Nat) (hi : i < m) :
    ∃ cs : Changeset, Inv C bs c.tree d.tree cs n
      ∧ Accepted C bs n c d (honestBlockGrowth C bs c d i m n us sig) i cs sig
          (64 + (2 * c.tree.missingNodes d.tree (2 * i) + 1) + 2 * us.length) := by
  obtain ⟨cs, hvv, hinv, hupg, hsig, hfork, hcmt, ha, ho1, hhash, hcnt, hsuf⟩ :=
    BlockUpgrade.honest_old_block_upgrade_accepted C hC bs m n c d held h hm0 hmn hn us hup sig hsl hver i hi
  obtain ⟨hstored, hin⟩ := missingNodes_spec C bs m c.tree d.tree h.closed.sparse (Nat.lt_of_le_of_lt h.le h.small.1) i hi
  have hleaf : nodeAt C bs 0 i ∈ cs.nodes := by
    obtain ⟨U, hU⟩ := hsuf
    rw [Changeset.nodes, List.mem_reverse, hU]
    exact List.mem_append_right _ (List.mem_append_right _ (List.mem_singleton.mpr rfl))
  exact ⟨cs, hinv,
    { fork := rfl, block := ⟨_, rfl⟩, verified := hvv, closed := hinv.closed, roots := rootsAt_of_reverse hinv.roots, length := hinv.length,
      bytes := hinv.bytes, nodesRef := inv_nodes_bound hinv, upgraded := hupg, signature := hsig, csfork := hfork,
      commitable := hcmt, ancestors := ha, origLength := ho1, hash := hhash,
      offset := BlockUpgrade.offset_in_upgraded C hC bs m n c d held h hn cs hinv i _ hi hstored hin hsuf, leaf := hleaf,
      count := by rw [Changeset.nodes, List.length_reverse]; exact hcnt }⟩

theorem blockGrowCore_repr (C : Crypto) (hC : HashWF C) (bs : Array Bytes) (m n : Nat) (c : Core) (d : Disk) (held : Nat → Bool)
    (h : RepRAt C bs m c d held) (hm0 : 0 < m) (hmn : m < n) (hn : n ≤ bs.size) (us : List (Nat × Nat))
    (hup : Up m 0 (rootsStack n).reverse us) (sig : Bytes) (hsl : sig.length = 64)
    (hver : C.verify c.publicKey (signableAt C bs n c.tree.fork) sig = true) (i : Nat) (hi : i < m) :
    ∃ cs : Changeset, Inv C bs c.tree d.tree cs n ∧ cs.fork = c.tree.fork ∧ cs.signature = some sig ∧ cs.upgraded = true
      ∧ cs.ancestors = c.tree.length ∧ cs.hash = some (rootsHash C cs.roots)
      ∧ cs.nodes.length ≤ 64 + (2 * c.tree.missingNodes d.tree (2 * i) + 1) + 2 * us.length
      ∧ c.verifyAndApply C d (honestBlockGrowth C bs c d i m n us sig)
        = { core := (blockGrowCore c cs i).maybeFlush.1, result := .ok true,
            journal := blockGrowJournal bs c cs i ++ (blockGrowCore c cs i).maybeFlush.2,
            events := Core.appliedEvents (honestBlockGrowth C bs c d i m n us sig) (some ⟨false, i, 1⟩) }
      ∧ RepRAt C bs n (blockGrowCore c cs i) (d.applyAll (blockGrowJournal bs c cs i)) (fun j => held j || j == i) := by
  obtain ⟨cs, hinv, acc⟩ := blockgrow_accepted C hC bs m n c d held h hm0 hmn hn us hup sig hsl hver i hi
  obtain ⟨hshape, hrep⟩ := core_of_accepted C hC bs m n c d held h (Nat.le_of_lt hmn) hn _ i (Nat.lt_trans hi hmn) cs sig _ acc
  exact ⟨cs, hinv, acc.csfork, acc.signature, acc.upgraded, acc.ancestors, acc.hash, acc.count, hshape, hrep⟩

/-- **a block + upgrade exchange keeps both invariants** -/
theorem blockgrow_ok (C : Crypto) (hC : HashWF C) (hT : TreeWF C) (bs : Array Bytes) (m n : Nat) (c : Core) (d : Disk) (held : Nat → Bool)
    (h : RP C bs m c d held) (hm0 : 0 < m) (hmn : m < n) (hn : n ≤ bs.size) (us : List (Nat × Nat))
    (hup : Up m 0 (rootsStack n).reverse us) (sig : Bytes) (hsl : sig.length = 64)
    (hver : C.verify c.publicKey (signableAt C bs n c.tree.fork) sig = true) (i : Nat) (hi : i < m) :
    ∃ c1 e j0, StepOK C bs m n c c1 d held (fun j => held j || j == i) (c.verifyAndApply C d (honestBlockGrowth C bs c d i m n us sig)) e j0 := by
  have hr := h.rep
  have hN : n < 2 ^ 64 := Nat.lt_of_le_of_lt hn hr.small.1
  -- the entry is small: a path of fewer than 64 levels, at most 64 roots, two nodes per position of the upgrade
  obtain ⟨_, hin⟩ := missingNodes_spec C bs m c.tree d.tree hr.closed.sparse (Nat.lt_trans hmn hN) i hi
  have hk64 := Pow2.depth_lt_of_span hin (Nat.lt_trans hmn hN)
  have hul := up_length m n hN (rootsStack n).reverse 0 us (cover_roots n) hup
  have hrl := rootsStack_length_log 64 n hN
  rw [List.length_reverse] at hul
  obtain ⟨cs, _, acc⟩ := blockgrow_accepted C hC bs m n c d held hr hm0 hmn hn us hup sig hsl hver i hi
  exact ok_of_accepted C hC hT bs m n c d held h (Nat.le_of_lt hmn) hn _ i (Nat.lt_trans hi hmn) cs sig hsl _ (by omega) acc

/-- (from `blockgrow_ok` and `rp_of_ok`) **block + upgrade at core level**: the replica that represents the first `m`
    blocks applies the honest combined proof for a block `i < m` and an upgrade to `n`; the call answers `true`, and the
    core represents the first `n` blocks with block `i` held, with the ghost invariant (so it reopens to the same
    state and is crash-atomic) -/
theorem rp_blockgrow (C : Crypto) (hC : HashWF C) (hT : TreeWF C) (bs : Array Bytes) (m n : Nat) (c : Core) (d : Disk) (held : Nat → Bool)
    (h : RP C bs m c d held) (hm0 : 0 < m) (hmn : m < n) (hn : n ≤ bs.size) (us : List (Nat × Nat))
    (hup : Up m 0 (rootsStack n).reverse us) (sig : Bytes) (hsl : sig.length = 64)
    (hver : C.verify c.publicKey (signableAt C bs n c.tree.fork) sig = true) (i : Nat) (hi : i < m) :
    (c.verifyAndApply C d (honestBlockGrowth C bs c d i m n us sig)).result = .ok true
      ∧ RP C bs n (c.verifyAndApply C d (honestBlockGrowth C bs c d i m n us sig)).core
          (d.applyAll (c.verifyAndApply C d (honestBlockGrowth C bs c d i m n us sig)).journal) (fun j => held j || j == i)
      ∧ (c.verifyAndApply C d (honestBlockGrowth C bs c d i m n us sig)).core.publicKey = c.publicKey
      ∧ (c.verifyAndApply C d (honestBlockGrowth C bs c d i m n us sig)).core.tree.fork = c.tree.fork := by
  obtain ⟨c1, e, j0, hok⟩ := blockgrow_ok C hC hT bs m n c d held h hm0 hmn hn us hup sig hsl hver i hi
  exact rp_of_ok C bs m n c c1 d held _ _ e j0 h hok

end HC.BlockGrow
