import HC.Model.Proof
import HC.Spec.LogSpec
import HC.Proofs.Journal
/-!
Equations of the core-level model functions (`Tree.commit`, `entryOf`, `updateContiguous`, the flush
family, `Oplog.insertHeader` / `flush` / `appendEntry`, `makeReadOnly`, `tornApply`): what each returns
on each form of input, and which fields of the state it leaves alone.
-/
namespace HC
open Codec Oplog

namespace Tree

theorem commit_ok_iff (t t' : Tree) (cs : Changeset) :
    t.commit cs = .ok t' ↔ t.commitable cs = true ∧ ¬ (cs.upgraded = true ∧ cs.ancestors < cs.origLength) ∧
      t' = { (if cs.upgraded then { t with roots := cs.roots, length := cs.length, byteLength := cs.byteLength,
                                           fork := cs.fork, signature := cs.signature } else t) with
             unflushed := cs.nodes.foldl (fun m n => m.insert n.index n) t.unflushed } := by
  unfold commit
  cases hc : t.commitable cs
  · simp
  · cases hu : cs.upgraded
    · simp [eq_comm]
    · by_cases hp : cs.ancestors < cs.origLength
      · simp [hp]
      · simp [hp, eq_comm]

theorem commit_commitable {t t' : Tree} {cs : Changeset} (h : t.commit cs = .ok t') : t.commitable cs = true :=
  ((commit_ok_iff t t' cs).mp h).1

theorem commit_upgraded {t t' : Tree} {cs : Changeset} (h : t.commit cs = .ok t') (hu : cs.upgraded = true) :
    t' = { roots := cs.roots, length := cs.length, byteLength := cs.byteLength, fork := cs.fork, signature := cs.signature,
           unflushed := cs.nodes.foldl (fun m n => m.insert n.index n) t.unflushed } := by
  rw [((commit_ok_iff t t' cs).mp h).2.2, hu]; rfl

theorem commit_not_upgraded {t t' : Tree} {cs : Changeset} (h : t.commit cs = .ok t') (hu : cs.upgraded = false) :
    t' = { t with unflushed := cs.nodes.foldl (fun m n => m.insert n.index n) t.unflushed } := by
  rw [((commit_ok_iff t t' cs).mp h).2.2, hu]; rfl

theorem commit_unflushed {t t' : Tree} {cs : Changeset} (h : t.commit cs = .ok t') :
    t'.unflushed = cs.nodes.foldl (fun m n => m.insert n.index n) t.unflushed := by
  rw [((commit_ok_iff t t' cs).mp h).2.2]

theorem commit_ancestors {t t' : Tree} {cs : Changeset} (h : t.commit cs = .ok t') (hu : cs.upgraded = true) :
    cs.origLength ≤ cs.ancestors :=
  Nat.le_of_not_lt fun hlt => ((commit_ok_iff t t' cs).mp h).2.1 ⟨hu, hlt⟩

@[simp] theorem flush_fst (t : Tree) : t.flush.1 = { t with unflushed := {} } := rfl

end Tree

theorem Bitfield.flush_fst (b : Bitfield) : b.flush.1 = { b with dirty := [] } := rfl
theorem Bitfield.flush_get (b : Bitfield) (i : Nat) : b.flush.1.get i = b.get i := rfl

namespace Core

theorem entryOf_upgraded (cs : Changeset) (bf : Option BitfieldUpdate) (h : Header) (hu : cs.upgraded = true) :
    entryOf cs bf h =
      ({ treeNodes := cs.nodes, treeUpgrade := some ⟨cs.fork, cs.ancestors, cs.length, cs.signature.getD []⟩, bitfield := bf },
       { h with tree := { h.tree with rootHash := cs.hash.getD [], signature := cs.signature.getD [], length := cs.length } }) := by
  simp only [entryOf, hu, ite_true]

theorem entryOf_not_upgraded (cs : Changeset) (bf : Option BitfieldUpdate) (h : Header) (hu : cs.upgraded = false) :
    entryOf cs bf h = ({ treeNodes := cs.nodes, treeUpgrade := none, bitfield := bf }, h) := by
  simp only [entryOf, hu, Bool.false_eq_true, ite_false]

theorem entryOf_snd (cs : Changeset) (bf : Option BitfieldUpdate) (h : Header) :
    (entryOf cs bf h).2 = { h with tree := (entryOf cs bf h).2.tree } := by
  unfold entryOf; split <;> rfl

theorem entryOf_contiguous (cs : Changeset) (bf : Option BitfieldUpdate) (h : Header) :
    (entryOf cs bf h).2.contiguous = h.contiguous := by rw [entryOf_snd]
theorem entryOf_secret (cs : Changeset) (bf : Option BitfieldUpdate) (h : Header) :
    (entryOf cs bf h).2.secret = h.secret := by rw [entryOf_snd]
theorem entryOf_publicKey (cs : Changeset) (bf : Option BitfieldUpdate) (h : Header) :
    (entryOf cs bf h).2.publicKey = h.publicKey := by rw [entryOf_snd]
theorem entryOf_key (cs : Changeset) (bf : Option BitfieldUpdate) (h : Header) :
    (entryOf cs bf h).2.key = h.key := by rw [entryOf_snd]

theorem entryOf_tree_fork (cs : Changeset) (bf : Option BitfieldUpdate) (h : Header) :
    (entryOf cs bf h).2.tree.fork = h.tree.fork := by
  unfold entryOf; split <;> rfl

theorem entryOf_treeNodes (cs : Changeset) (bf : Option BitfieldUpdate) (h : Header) :
    (entryOf cs bf h).1.treeNodes = cs.nodes := by
  unfold entryOf; split <;> rfl
theorem entryOf_bitfield (cs : Changeset) (bf : Option BitfieldUpdate) (h : Header) :
    (entryOf cs bf h).1.bitfield = bf := by
  unfold entryOf; split <;> rfl
theorem entryOf_userData (cs : Changeset) (bf : Option BitfieldUpdate) (h : Header) :
    (entryOf cs bf h).1.userData = [] := by
  unfold entryOf; split <;> rfl

theorem updateContiguous_eq_with (h : Header) (b : Bitfield) (u : BitfieldUpdate) :
    updateContiguous h b u = { h with contiguous :=
      (if u.drop then (if h.contiguous > u.start then u.start else h.contiguous)
       else if h.contiguous ≤ u.start + u.length ∧ h.contiguous ≥ u.start
         then updateContiguous.scan b (b.bits.size + 1) (u.start + u.length) else h.contiguous) } := by
  simp only [updateContiguous]
  split
  · split <;> rfl
  · split <;> rfl

theorem updateContiguous_contiguous (h : Header) (b : Bitfield) (u : BitfieldUpdate) :
    (updateContiguous h b u).contiguous =
      if u.drop then (if h.contiguous > u.start then u.start else h.contiguous)
      else if h.contiguous ≤ u.start + u.length ∧ h.contiguous ≥ u.start
        then updateContiguous.scan b (b.bits.size + 1) (u.start + u.length) else h.contiguous := by
  rw [updateContiguous_eq_with]

theorem updateContiguous_only (h : Header) (b : Bitfield) (u : BitfieldUpdate) :
    updateContiguous h b u = { h with contiguous := (updateContiguous h b u).contiguous } := by
  rw [updateContiguous_eq_with]

theorem updateContiguous_tree_eq (h : Header) (b : Bitfield) (u : BitfieldUpdate) : (updateContiguous h b u).tree = h.tree := by
  rw [updateContiguous_only]
theorem updateContiguous_secret (h : Header) (b : Bitfield) (u : BitfieldUpdate) : (updateContiguous h b u).secret = h.secret := by
  rw [updateContiguous_only]
theorem updateContiguous_publicKey (h : Header) (b : Bitfield) (u : BitfieldUpdate) :
    (updateContiguous h b u).publicKey = h.publicKey := by rw [updateContiguous_only]
theorem updateContiguous_key (h : Header) (b : Bitfield) (u : BitfieldUpdate) : (updateContiguous h b u).key = h.key := by
  rw [updateContiguous_only]

theorem updateContiguous_drop (h : Header) (b : Bitfield) (start len : Nat) :
    (updateContiguous h b ⟨true, start, len⟩).contiguous = if start < h.contiguous then start else h.contiguous :=
  updateContiguous_contiguous h b ⟨true, start, len⟩

theorem updateContiguous_set (h : Header) (b : Bitfield) (start len : Nat) :
    (updateContiguous h b ⟨false, start, len⟩).contiguous =
      if h.contiguous ≤ start + len ∧ h.contiguous ≥ start then updateContiguous.scan b (b.bits.size + 1) (start + len)
      else h.contiguous :=
  updateContiguous_contiguous h b ⟨false, start, len⟩

theorem flushAll_fst (c : Core) (ct : Bool) :
    (c.flushAll ct).1 = { c with bitfield := { c.bitfield with dirty := [] }, tree := { c.tree with unflushed := {} },
                                 oplog := (Oplog.flush c.oplog c.header ct).1 } := rfl

theorem flushAll_snd (c : Core) (ct : Bool) :
    (c.flushAll ct).2 = c.bitfield.flush.2 ++ c.tree.flush.2 ++ (Oplog.flush c.oplog c.header ct).2 := rfl

@[simp] theorem flushAll_publicKey (c : Core) (ct : Bool) : (c.flushAll ct).1.publicKey = c.publicKey := rfl
@[simp] theorem flushAll_secret (c : Core) (ct : Bool) : (c.flushAll ct).1.secret = c.secret := rfl
@[simp] theorem flushAll_header (c : Core) (ct : Bool) : (c.flushAll ct).1.header = c.header := rfl
@[simp] theorem flushAll_skipFlush (c : Core) (ct : Bool) : (c.flushAll ct).1.skipFlush = c.skipFlush := rfl
@[simp] theorem flushAll_tree (c : Core) (ct : Bool) : (c.flushAll ct).1.tree = { c.tree with unflushed := {} } := rfl
@[simp] theorem flushAll_bitfield (c : Core) (ct : Bool) : (c.flushAll ct).1.bitfield = { c.bitfield with dirty := [] } := rfl
@[simp] theorem flushAll_oplog (c : Core) (ct : Bool) : (c.flushAll ct).1.oplog = (Oplog.flush c.oplog c.header ct).1 := rfl
theorem flushAll_get (c : Core) (ct : Bool) (i : Nat) : (c.flushAll ct).1.bitfield.get i = c.bitfield.get i := rfl

theorem flushAll_off_data (c : Core) (ct : Bool) : ∀ op ∈ (c.flushAll ct).2, op.store ≠ .data :=
  Journal.off_append
    (Journal.off_append (Journal.off_of_on (Journal.bitfieldFlush_store _) .data) (Journal.off_of_on (Journal.treeFlush_store _) .data))
    (Journal.off_of_on (Journal.oplogFlush_store _ _ _) .data)

theorem maybeFlush_flush (c : Core) (h : c.skipFlush = 0 ∨ c.oplog.entriesByteLength ≥ Spec.maxEntriesBytes) :
    c.maybeFlush = ({ c with skipFlush := Spec.flushEvery - 1 } : Core).flushAll false := by
  simp only [maybeFlush, shouldFlush, h, ite_true]

theorem maybeFlush_skip (c : Core) (h : ¬ (c.skipFlush = 0 ∨ c.oplog.entriesByteLength ≥ Spec.maxEntriesBytes)) :
    c.maybeFlush = ({ c with skipFlush := c.skipFlush - 1 }, []) := by
  simp only [maybeFlush, shouldFlush, h, ite_false, Bool.false_eq_true]

theorem maybeFlush_fst (c : Core) :
    c.maybeFlush.1 = { c with skipFlush := c.maybeFlush.1.skipFlush, oplog := c.maybeFlush.1.oplog
                              tree := { c.tree with unflushed := c.maybeFlush.1.tree.unflushed }
                              bitfield := { c.bitfield with dirty := c.maybeFlush.1.bitfield.dirty } } := by
  by_cases h : c.skipFlush = 0 ∨ c.oplog.entriesByteLength ≥ Spec.maxEntriesBytes
  · rw [maybeFlush_flush c h]; rfl
  · rw [maybeFlush_skip c h]

theorem maybeFlush_publicKey (c : Core) : c.maybeFlush.1.publicKey = c.publicKey := by rw [maybeFlush_fst]
theorem maybeFlush_secret (c : Core) : c.maybeFlush.1.secret = c.secret := by rw [maybeFlush_fst]
theorem maybeFlush_header (c : Core) : c.maybeFlush.1.header = c.header := by rw [maybeFlush_fst]
theorem maybeFlush_tree (c : Core) :
    c.maybeFlush.1.tree = { c.tree with unflushed := c.maybeFlush.1.tree.unflushed } := by rw [maybeFlush_fst]
theorem maybeFlush_bits (c : Core) : c.maybeFlush.1.bitfield.bits = c.bitfield.bits := by rw [maybeFlush_fst]

theorem maybeFlush_fork (c : Core) : c.maybeFlush.1.tree.fork = c.tree.fork := by rw [maybeFlush_tree]
theorem maybeFlush_length (c : Core) : c.maybeFlush.1.tree.length = c.tree.length := by rw [maybeFlush_tree]
theorem maybeFlush_byteLength (c : Core) : c.maybeFlush.1.tree.byteLength = c.tree.byteLength := by rw [maybeFlush_tree]
theorem maybeFlush_roots (c : Core) : c.maybeFlush.1.tree.roots = c.tree.roots := by rw [maybeFlush_tree]
theorem maybeFlush_get (c : Core) (i : Nat) : c.maybeFlush.1.bitfield.get i = c.bitfield.get i := by
  simp only [Bitfield.get, maybeFlush_bits]

theorem maybeFlush_off_data (c : Core) : ∀ op ∈ c.maybeFlush.2, op.store ≠ .data := by
  by_cases h : c.skipFlush = 0 ∨ c.oplog.entriesByteLength ≥ Spec.maxEntriesBytes
  · rw [maybeFlush_flush c h]; exact flushAll_off_data _ _
  · rw [maybeFlush_skip c h]; exact fun _ hop => absurd hop List.not_mem_nil

theorem makeReadOnly_writer (c : Core) (h : c.secret.isSome = true) :
    c.makeReadOnly =
      { core := (({ c with secret := none, header := { c.header with secret := none } } : Core).flushAll true).1,
        result := .ok true,
        journal := (({ c with secret := none, header := { c.header with secret := none } } : Core).flushAll true).2 } := by
  simp only [makeReadOnly, h, ite_true]

theorem makeReadOnly_reader (c : Core) (h : c.secret.isSome = false) : c.makeReadOnly = { core := c, result := .ok false } := by
  simp only [makeReadOnly, h, Bool.false_eq_true, ite_false]

end Core

namespace Oplog

/-- the header write of `insertHeader`: the padded header frame, into the slot that is not the current one.
    `insert_header` sizes its buffer as `LEADER_SIZE + encoded_size`, then adds `encoded_size` once more, so as many
    zero bytes as the header is long follow the frame (a trace-clearing write fills the whole slot). -/
def headerWrite (h : Header) (bits : Bool × Bool) (clearTraces : Bool) : SOp :=
  .write .oplog (if (Spec.nextSlot bits.1 bits.2).1 then Spec.headerSize else 0)
    (frame (encHeader h) (Spec.nextSlot bits.1 bits.2).2 false ++
      List.replicate ((if clearTraces then Spec.headerSize else Spec.leaderSize + 2 * (encHeader h).length)
        - (frame (encHeader h) (Spec.nextSlot bits.1 bits.2).2 false).length) 0)

theorem headerWrite_store (h : Header) (bits : Bool × Bool) (ct : Bool) : (headerWrite h bits ct).store = .oplog := rfl

theorem headerWrite_offset (h : Header) (bits : Bool × Bool) (ct : Bool) :
    ∃ bs, (headerWrite h bits ct = .write .oplog 0 bs ∨ headerWrite h bits ct = .write .oplog Spec.headerSize bs) := by
  unfold headerWrite
  split
  · exact ⟨_, Or.inr rfl⟩
  · exact ⟨_, Or.inl rfl⟩

theorem insertHeader_bits (h : Header) (n : Nat) (bits : Bool × Bool) (ct : Bool) :
    (insertHeader h n bits ct).1 =
      if (Spec.nextSlot bits.1 bits.2).1 then (bits.1, (Spec.nextSlot bits.1 bits.2).2)
      else ((Spec.nextSlot bits.1 bits.2).2, bits.2) := rfl

theorem insertHeader_ops (h : Header) (n : Nat) (bits : Bool × Bool) (ct : Bool) :
    (insertHeader h n bits ct).2 = [headerWrite h bits ct, .trunc .oplog (Spec.entriesOffset + n)] := rfl

theorem appendEntry_state (s : State) (e : Entry) :
    (appendEntry s e).1 = { s with entriesLength := s.entriesLength + 1,
                                   entriesByteLength := s.entriesByteLength + (frame (encEntry e) s.currentBit false).length } := rfl

theorem appendEntry_ops (s : State) (e : Entry) :
    (appendEntry s e).2 = [.write .oplog (Spec.entriesOffset + s.entriesByteLength) (frame (encEntry e) s.currentBit false)] := rfl

theorem flush_plain (s : State) (h : Header) :
    flush s h false = ({ bits := (insertHeader h 0 s.bits false).1, entriesLength := 0, entriesByteLength := 0 },
                       (insertHeader h 0 s.bits false).2) := rfl

theorem flush_clear (s : State) (h : Header) :
    flush s h true = ({ bits := (insertHeader h 0 (insertHeader h 0 s.bits true).1 true).1, entriesLength := 0, entriesByteLength := 0 },
                      (insertHeader h 0 s.bits true).2 ++ (insertHeader h 0 (insertHeader h 0 s.bits true).1 true).2.take 1) := by
  -- a bare `rfl` would unfold both header insertions to compare them
  unfold flush
  rw [if_pos rfl]

theorem flush_ops (s : State) (h : Header) :
    (flush s h false).2 = [headerWrite h s.bits false, .trunc .oplog Spec.entriesOffset] := by
  rw [flush_plain, insertHeader_ops]; rfl

theorem flush_ops_clear (s : State) (h : Header) :
    (flush s h true).2 =
      [headerWrite h s.bits true, .trunc .oplog Spec.entriesOffset, headerWrite h (insertHeader h 0 s.bits true).1 true] := by
  rw [flush_clear, insertHeader_ops, insertHeader_ops]; rfl

theorem flush_entriesLength (s : State) (h : Header) (ct : Bool) : (flush s h ct).1.entriesLength = 0 := by
  cases ct <;> rfl
theorem flush_entriesByteLength (s : State) (h : Header) (ct : Bool) : (flush s h ct).1.entriesByteLength = 0 := by
  cases ct <;> rfl

end Oplog

namespace LogSpec

theorem tornApply_cons_succ (d : Disk) (op : SOp) (j : List SOp) (k t : Nat) :
    tornApply d (op :: j) (k + 1) t = tornApply (d.apply op) j k t := rfl

theorem tornApply_cons_zero_write (d : Disk) (st : Store) (off : Nat) (bs : Bytes) (j : List SOp) (t : Nat) :
    tornApply d (.write st off bs :: j) 0 t = d.apply (.write st off (bs.take t)) := rfl

theorem tornApply_write (d : Disk) (j : List SOp) (k t : Nat) (st : Store) (off : Nat) (bs : Bytes)
    (h : j[k]? = some (.write st off bs)) :
    tornApply d j k t = (d.applyAll (j.take k)).apply (.write st off (bs.take t)) := by
  simp only [tornApply, h]

theorem tornApply_right (d : Disk) (pre rest : List SOp) (k t : Nat) (h : pre.length ≤ k) :
    tornApply d (pre ++ rest) k t = tornApply (d.applyAll pre) rest (k - pre.length) t := by
  unfold tornApply
  rw [List.getElem?_append_right h, List.take_append, List.take_of_length_le h, Journal.applyAll_append]

theorem tornApply_left (d : Disk) (pre rest : List SOp) (k t : Nat) (h : k < pre.length) :
    tornApply d (pre ++ rest) k t = tornApply d pre k t := by
  unfold tornApply
  rw [List.getElem?_append_left h, List.take_append_of_le_length (Nat.le_of_lt h)]

theorem tornApply_notWrite (d : Disk) (j : List SOp) (k t : Nat) (h : ∀ st off bs, j[k]? ≠ some (.write st off bs)) :
    tornApply d j k t = d.applyAll (j.take k) := by
  unfold tornApply
  split
  · rename_i st off bs heq; exact absurd heq (h st off bs)
  · rfl

theorem tornApply_map {α : Type} (d : Disk) (st : Store) (off : α → Nat) (bytes : α → Bytes) (l : List α) (k t : Nat) (x : α)
    (hx : l[k]? = some x) :
    tornApply d (l.map fun a => SOp.write st (off a) (bytes a)) k t
      = (d.applyAll ((l.take k).map fun a => SOp.write st (off a) (bytes a))).apply (.write st (off x) ((bytes x).take t)) := by
  rw [tornApply_write _ _ _ _ _ _ _ (by rw [List.getElem?_map, hx]; rfl), List.map_take]

theorem tornApply_nil (d : Disk) (k t : Nat) : tornApply d [] k t = d := by
  rw [tornApply_notWrite d [] k t (fun st off bs h => by rw [List.getElem?_nil] at h; cases h), List.take_nil]
  rfl

end LogSpec
end HC
