import HC.Proofs.RefTree
import HC.Proofs.Verify
/-!
Soundness of the hash path that `verify_tree` recomputes: if the root it arrives at carries the
authentic hash, then — unless the run exhibits an explicit collision of `leaf` or `parent` — the
block value, every sibling node (hash **and** size) and every computed parent are the reference
values of the writer's log.  Then the upgrade (`upgrade_sound`): the signed message is injective in (roots hash,
length, fork) (`signable_injective`), so an accepted signature fixes the adopted roots up to a collision of the
root-list hash.  Holds for every crypto record.
-/
namespace HC.Sound
open HC HC.Codec HC.Flat HC.Tree HC.RefTree HC.RefProof HC.Complete HC.Pow2

/-- an explicit collision of one of the two tree hash functions -/
def Collision (C : Crypto) : Prop :=
  (∃ a b : Bytes, a ≠ b ∧ C.leaf a = C.leaf b) ∨
  (∃ s l r s' l' r', (s, l, r) ≠ ((s' : Nat), (l' : Bytes), (r' : Bytes)) ∧ C.parent s l r = C.parent s' l' r')

/-- queue without an extra node, as `verify_tree` builds it for a block or hash section -/
def plainQueue (nodes : List Node) : NodeQueue := ⟨nodes, none, nodes.length⟩

theorem plainQueue_cons_length (n : Node) (l : List Node) : (plainQueue (n :: l)).length ≠ 0 := Nat.succ_ne_zero _

theorem shift_plain (n : Node) (rest : List Node) (idx : Nat) (h : n.index = idx) :
    (plainQueue (n :: rest)).shift idx = .ok (n, plainQueue rest) :=
  h ▸ shift_of_nodes rfl rfl

theorem shift_plain_inv {l : List Node} {i : Nat} {n : Node} {q' : NodeQueue} (h : (plainQueue l).shift i = .ok (n, q')) :
    ∃ rest, l = n :: rest ∧ n.index = i ∧ q' = plainQueue rest := by
  obtain ⟨ns, hn, hi, rfl⟩ := shift_plain_ok rfl h
  cases (hn : l = n :: ns)
  exact ⟨ns, rfl, hi, rfl⟩

theorem node_ext {a b : Node} (h1 : a.index = b.index) (h2 : a.length = b.length) (h3 : a.hash = b.hash) : a = b := by
  cases a
  cases b
  cases h1
  cases h2
  cases h3
  rfl

/-- `Hash::parent` puts the node with the smaller index first -/
theorem parentHash_of_lt (C : Crypto) (a b : Node) (h : a.index < b.index) :
    parentHash C a b = C.parent (a.length + b.length) a.hash b.hash
      ∧ parentHash C b a = C.parent (b.length + a.length) a.hash b.hash :=
  ⟨if_pos (Nat.le_of_lt h), if_neg (Nat.not_le_of_lt h)⟩

theorem parent_eq_or_collision (C : Crypto) {s s' : Nat} {l r l' r' : Bytes} (h : C.parent s l r = C.parent s' l' r') :
    Collision C ∨ (s = s' ∧ l = l' ∧ r = r') := by
  by_cases heq : (s, l, r) = (s', l', r')
  · rw [Prod.mk.injEq, Prod.mk.injEq] at heq
    exact Or.inr heq
  · exact Or.inl (Or.inr ⟨_, _, _, _, _, _, heq, h⟩)

theorem node_parent_size (C : Crypto) (bs : Array Bytes) (d o : Nat) :
    (RefTree.node C bs (d + 1) (o / 2)).1 = (RefTree.node C bs d o).1 + (RefTree.node C bs d (sib o)).1 := by
  obtain ⟨q, hq, ⟨rfl, hs⟩ | ⟨rfl, hs⟩⟩ := sib_cases o
  · rw [hq, hs]; rfl
  · rw [hq, hs, Nat.add_comm (RefTree.node C bs d (2 * q + 1)).1]; rfl

theorem parent_step (C : Crypto) (bs : Array Bytes) (d o : Nat) (cur n : Node)
    (hc : cur.index = Flat.index d o) (hn : n.index = Flat.index d (sib o))
    (hh : parentHash C cur n = (RefTree.node C bs (d + 1) (o / 2)).2) :
    Collision C ∨ (cur.hash = (RefTree.node C bs d o).2 ∧ n.hash = (RefTree.node C bs d (sib o)).2
      ∧ cur.length + n.length = (RefTree.node C bs (d + 1) (o / 2)).1) := by
  obtain ⟨q, hq, ⟨rfl, hs⟩ | ⟨rfl, hs⟩⟩ := sib_cases o
  · rw [hs] at hn ⊢
    rw [hq] at hh ⊢
    rw [(parentHash_of_lt C cur n (by rw [hc, hn]; exact index_lt_of_offset_lt d _ _ (Nat.lt_succ_self _))).1] at hh
    exact (parent_eq_or_collision C hh).imp id fun ⟨e1, e2, e3⟩ => ⟨e2, e3, e1⟩
  · rw [hs] at hn ⊢
    rw [hq] at hh ⊢
    rw [(parentHash_of_lt C n cur (by rw [hc, hn]; exact index_lt_of_offset_lt d _ _ (Nat.lt_succ_self _))).2] at hh
    exact (parent_eq_or_collision C hh).imp id fun ⟨e1, e2, e3⟩ => ⟨e3, e2, e1⟩

/-- Path soundness of `climb`, by induction over the supplied nodes.  The root reached sits
    `nodes.length` levels up; if its hash is authentic then, absent a collision, the start node's hash
    is authentic, and if moreover the start node's size is authentic, the root's size and **every**
    supplied node (index, size, hash) are the reference values. -/
theorem climb_sound (C : Crypto) (bs : Array Bytes) (nodes : List Node) :
    ∀ (fuel d o : Nat) (cur : Node) (rn : List Node) (root : Node) (rn' : List Node),
      climb C fuel (plainQueue nodes) (iat d o) cur rn = .ok (root, rn') →
      cur.index = Flat.index d o →
      root.index = Flat.index (d + nodes.length) (o / 2 ^ nodes.length) ∧
      (root.hash = (RefTree.node C bs (d + nodes.length) (o / 2 ^ nodes.length)).2 →
        Collision C ∨
          (cur.hash = (RefTree.node C bs d o).2 ∧
            (cur.length = (RefTree.node C bs d o).1 →
              root.length = (RefTree.node C bs (d + nodes.length) (o / 2 ^ nodes.length)).1 ∧
              ∀ n ∈ nodes, ∃ dn on, n = nodeAt C bs dn on))) := by
  induction nodes with
  | nil =>
    intro fuel d o cur rn root rn' h hc
    cases fuel with
    | zero => cases h
    | succ fuel =>
      rw [climb_succ, if_pos (show (plainQueue []).length = 0 from rfl)] at h
      cases h
      rw [List.length_nil, Nat.add_zero, Nat.pow_zero, Nat.div_one]
      exact ⟨hc, fun hh => Or.inr ⟨hh, fun hl => ⟨hl, fun n hn => absurd hn List.not_mem_nil⟩⟩⟩
  | cons n rest ih =>
    intro fuel d o cur rn root rn' h hc
    cases fuel with
    | zero => cases h
    | succ fuel =>
      rw [climb_succ, if_neg (plainQueue_cons_length n rest), iat_sibling, iat_index] at h
      obtain ⟨⟨x, q'⟩, hsh, h⟩ := (andThen_ok_iff _ _ _).mp h
      obtain ⟨_, hl, hn, rfl⟩ := shift_plain_inv hsh
      cases hl
      · rw [iat_parent, sib_half] at h
        obtain ⟨hidx, hsound⟩ := ih fuel (d + 1) (o / 2) _ _ root rn' h rfl
        rw [List.length_cons, ← Nat.add_assoc d, Nat.add_right_comm d, ← div_pow_succ]
        refine ⟨hidx, fun hh => ?_⟩
        obtain hcol | ⟨hph, hrest⟩ := hsound hh
        · exact Or.inl hcol
        obtain hcol | ⟨h1, h2, h3⟩ := parent_step C bs d o cur n hc hn hph
        · exact Or.inl hcol
        refine Or.inr ⟨h1, fun hl => ?_⟩
        obtain ⟨hrl, hall⟩ := hrest h3
        refine ⟨hrl, fun x hx => ?_⟩
        rcases List.mem_cons.mp hx with rfl | hx
        · -- the supplied sibling: index by the queue, hash by `parent_step`, size by subtraction
          rw [node_parent_size, hl] at h3
          exact ⟨d, sib o, node_ext hn (Nat.add_left_cancel h3) h2⟩
        · exact hall x hx

theorem block_sound (C : Crypto) (bs : Array Bytes) (i : Nat) (v : Bytes) (nodes : List Node) (fuel : Nat)
    (rn : List Node) (root : Node) (rn' : List Node)
    (h : climb C fuel (plainQueue nodes) (iat 0 i) (blockNode C (Flat.index 0 i) v) rn = .ok (root, rn'))
    (hr : root.hash = (RefTree.node C bs nodes.length (i / 2 ^ nodes.length)).2) :
    Collision C ∨ (v = bs.getD i [] ∧ root.length = (RefTree.node C bs nodes.length (i / 2 ^ nodes.length)).1
      ∧ ∀ n ∈ nodes, ∃ dn on, n = nodeAt C bs dn on) := by
  obtain ⟨_, hs⟩ := climb_sound C bs nodes fuel 0 i _ rn root rn' h rfl
  simp only [Nat.zero_add] at hs
  rcases hs hr with hc | ⟨hleaf, hrest⟩
  · exact Or.inl hc
  · simp only [blockNode, RefTree.node] at hleaf hrest
    by_cases hv : v = bs.getD i []
    · subst hv
      obtain ⟨h1, h2⟩ := hrest rfl
      exact Or.inr ⟨rfl, h1, h2⟩
    · exact Or.inl (Or.inl ⟨_, _, hv, hleaf⟩)

/-- every node the replica can look up carries the authentic hash for its position -/
def StoreAuthentic (C : Crypto) (bs : Array Bytes) (t : Tree) (f : File) : Prop :=
  ∀ d o n, t.node? f (Flat.index d o) = some n → n.hash = (RefTree.node C bs d o).2

theorem plainQueue_eq (nodes : List Node) : NodeQueue.new nodes none = plainQueue nodes := rfl

theorem verifyUpgrade_signed (C : Crypto) (fork : Nat) (u : DataUpgrade) (blockRoot : Option Node) (pk : Bytes)
    (cs cs' : Changeset) (consumed : Bool) (h : verifyUpgrade C fork u blockRoot pk cs = .ok (consumed, cs')) :
    C.verify pk (signable (rootsHash C cs'.roots) cs'.length fork) u.signature = true ∧ cs'.fork = fork
      ∧ cs'.signature = some u.signature := by
  obtain ⟨_, _, x, _, _, _, _, hver, _, rfl⟩ := (verifyUpgrade_ok_iff ..).mp h
  exact ⟨hver, rfl, rfl⟩

theorem leBytes_injective (k : Nat) (a b : Nat) (ha : a < 256 ^ k) (hb : b < 256 ^ k) (h : leBytes a k = leBytes b k) : a = b := by
  have := congrArg leVal h
  rwa [leVal_leBytes k a ha, leVal_leBytes k b hb] at this

/-- the encodings of length and fork have fixed width: the signed message is injective in (roots hash, length, fork) -/
theorem signable_injective (h1 h2 : Bytes) (n1 n2 f1 f2 : Nat) (hl : h1.length = h2.length)
    (hn1 : n1 < 2 ^ 64) (hn2 : n2 < 2 ^ 64) (hf1 : f1 < 2 ^ 64) (hf2 : f2 < 2 ^ 64)
    (h : signable h1 n1 f1 = signable h2 n2 f2) : h1 = h2 ∧ n1 = n2 ∧ f1 = f2 := by
  unfold signable at h
  have h' := List.append_cancel_left (by simpa [List.append_assoc] using h : treeNamespace ++ (h1 ++ (le8 n1 ++ le8 f1)) = treeNamespace ++ (h2 ++ (le8 n2 ++ le8 f2)))
  have ⟨e1, e2⟩ := List.append_inj h' hl
  have l8 : ∀ x, (le8 x).length = 8 := fun x => leBytes_length x 8
  have ⟨e3, e4⟩ := List.append_inj e2 (by rw [l8, l8])
  have p : (256 : Nat) ^ 8 = 2 ^ 64 := by decide
  exact ⟨e1, leBytes_injective 8 _ _ (p ▸ hn1) (p ▸ hn2) e3, leBytes_injective 8 _ _ (p ▸ hf1) (p ▸ hf2) e4⟩

def TreeCollision (C : Crypto) : Prop :=
  ∃ a b : List (Bytes × Nat × Nat), a ≠ b ∧ C.tree a = C.tree b

/-- **Upgrades.**  If `verify_upgrade` accepts, the key only verifies messages the writer signed
    (`hunf`), and the writer only signs `(hash of the reference roots of a prefix of its log, that
    length, its fork)` (`hsig`), then — unless a collision of the root-list hash is exhibited — the
    length the replica adopts is a length the writer signed and the roots it adopts are exactly the
    reference roots for that length (hash, index and size of each). -/
theorem upgrade_sound (C : Crypto) (bs : Array Bytes) (wfork : Nat) (Signed : Bytes → Prop)
    (fork : Nat) (u : DataUpgrade) (blockRoot : Option Node) (pk : Bytes) (cs cs' : Changeset) (consumed : Bool)
    (hunf : ∀ m sig, C.verify pk m sig = true → Signed m)
    (hsig : ∀ m, Signed m → ∃ n, n ≤ bs.size ∧ m = RefTree.signableOf C (bs.extract 0 n) wfork)
    (hlen : ∀ x, (C.tree x).length = 32) (hsize : bs.size < 2 ^ 64) (hwf : wfork < 2 ^ 64)
    (hb1 : cs'.length < 2 ^ 64) (hb2 : fork < 2 ^ 64)
    (h : verifyUpgrade C fork u blockRoot pk cs = .ok (consumed, cs')) :
    TreeCollision C ∨ (cs'.length ≤ bs.size ∧ fork = wfork
      ∧ cs'.roots.map (fun n => (n.hash, n.index, n.length)) =
          (RefTree.roots C (bs.extract 0 cs'.length)).map (fun n => (n.hash, n.index, n.length))) := by
  obtain ⟨hv, _, _⟩ := verifyUpgrade_signed C fork u blockRoot pk cs cs' consumed h
  obtain ⟨n, hn, hm⟩ := hsig _ (hunf _ _ hv)
  have hsz : (bs.extract 0 n).size = n := by rw [Array.size_extract, Nat.sub_zero, Nat.min_eq_left hn]
  unfold RefTree.signableOf at hm
  rw [hsz] at hm
  obtain ⟨e1, e2, e3⟩ := signable_injective _ _ _ _ _ _ (by rw [rootsHash, hlen, hlen]) hb1 (Nat.lt_of_le_of_lt hn hsize) hb2 hwf hm
  subst e2
  by_cases heq : cs'.roots.map (fun n => (n.hash, n.index, n.length)) =
      (RefTree.roots C (bs.extract 0 cs'.length)).map (fun n => (n.hash, n.index, n.length))
  · exact Or.inr ⟨hn, e3, heq⟩
  · exact Or.inl ⟨_, _, heq, e1⟩

end HC.Sound
