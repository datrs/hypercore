import HC.Proofs.ReplicaReopen
import HC.Proofs.BlockGrow
import HC.Proofs.BlockGrowGen
import HC.Proofs.Crash
/-!
A replica that dies in the middle of a proof application (C02 "proof applications on a replica").  The journal of one
application is the block's data write (block proofs only), the oplog entry, and, when the periodic flush is due, the
dirty pages, the unflushed nodes, the header and the truncation of the entry region.  `crash_ok`: for every prefix of
that journal the stores are `DurR` for the replica's state before the application or after it; `durR_open`:
`Hypercore::new` on `DurR` stores yields a core that satisfies `RP` for that state.  `Reach`, `reach_rp`: the states
reachable by exchanges, reopens and crashes.  `torn_headerR`, `torn_ok`: the torn header, data and entry writes of C07.

What makes the middle states recoverable:
* a cut inside the page writes leaves a bitfield store that is *ahead* of the header (some pages hold bits the
  replay is going to set again); the replica's entries only set bits, so the replayed bitfield is the same, and
  the contiguous-length hint comes out exact because it is never stuck on a held bit (`bitRun_exact`);
* a cut inside the node writes leaves a tree store with more reference nodes than before (`FileExt`): every
  lookup the replay makes answers as before (`replay_ext`);
* a cut between the header write and the truncation is `OpImage`'s second case.
-/
namespace HC.ReplicaCrash
open HC HC.Codec HC.Flat HC.Tree HC.RefTree HC.RefProof HC.Sound HC.Offsets HC.TreeStore HC.Complete HC.UpgradeSound HC.CreateTotal
  HC.Replica HC.Growth HC.HashReq HC.Oplog HC.Core HC.OplogBytes HC.FormatLimits HC.BitfieldPages HC.ReplicaReopen HC.Touch

/-- the two headers agree except for the contiguous-length hint -/
def AgreeExc (h1 h2 : Header) : Prop := ({ h1 with contiguous := 0 } : Header) = { h2 with contiguous := 0 }

theorem agreeExc_refl (h : Header) : AgreeExc h h := rfl

theorem agreeExc_eq (h1 h2 : Header) (h : AgreeExc h1 h2) (hc : h1.contiguous = h2.contiguous) : h1 = h2 := by
  cases h1; cases h2
  simp only [AgreeExc, Header.mk.injEq] at h
  simp only at hc
  simp only [Header.mk.injEq]
  obtain ⟨a1, a2, a3, a4, a5, a6, a7, a8, _⟩ := h
  exact ⟨a1, a2, a3, a4, a5, a6, a7, a8, hc⟩

/-- a header update of `treePart`: it touches the tree section only, so it respects `AgreeExc` and leaves the hint alone -/
def HdrFun (f : Header → Header) : Prop := ∀ h1 h2, AgreeExc h1 h2 → AgreeExc (f h1) (f h2) ∧ (f h1).contiguous = h1.contiguous

theorem hdrFun_id : HdrFun id := fun _ _ h => ⟨h, rfl⟩

theorem hdrFun_entryOf (cs : Changeset) : HdrFun (fun h => (entryOf cs none h).2) := by
  intro h1 h2 h
  cases h1; cases h2
  simp only [AgreeExc, Header.mk.injEq] at h
  obtain ⟨a1, a2, a3, a4, a5, a6, a7, a8, _⟩ := h
  subst a1 a2 a3 a4 a5 a6 a7 a8
  simp only [entryOf]
  split <;> exact ⟨rfl, rfl⟩

theorem treePart_hdrFun (C : Crypto) (d : Disk) (t t' : Tree) (e : Entry) (f : Header → Header)
    (h : treePart C d t e = .ok (t', f)) : HdrFun f := by
  cases hu : e.treeUpgrade with
  | none =>
    rw [treePart_none C d t e hu] at h
    cases h; exact hdrFun_id
  | some u =>
    rw [treePart_some C d t e u hu] at h
    obtain ⟨cs, _, h⟩ := (andThen_ok_iff _ _ _).mp h
    split at h
    · cases h
    · obtain ⟨t2, _, h⟩ := (andThen_ok_iff _ _ _).mp h
      cases h; exact hdrFun_entryOf _

theorem hintOf_agree (e : Entry) (h1 h2 : Header) (b1 b2 : Bitfield) (h : AgreeExc h1 h2) : AgreeExc (hintOf e h1 b1) (hintOf e h2 b2) := by
  unfold hintOf
  cases e.bitfield with
  | none => exact h
  | some u =>
    simp only
    rw [Core.updateContiguous_only h1, Core.updateContiguous_only h2]
    exact h

/-- what `updateContiguous` (`update_contiguous_length`) does to the hint alone; `b.bits.size + 1` is the model's fuel for the
    scan, which stops at the first missing bit -/
def contigOf (c : Nat) (b : Bitfield) (u : BitfieldUpdate) : Nat :=
  if u.drop then (if c > u.start then u.start else c)
  else if c ≤ u.start + u.length ∧ c ≥ u.start then updateContiguous.scan b (b.bits.size + 1) (u.start + u.length) else c

def hintC (e : Entry) (c : Nat) (b : Bitfield) : Nat :=
  match e.bitfield with
  | some u => contigOf c (b.setRange u.start u.length (!u.drop)) u
  | none => c

theorem hintOf_contig (e : Entry) (h : Header) (b : Bitfield) : (hintOf e h b).contiguous = hintC e h.contiguous b := by
  unfold hintOf hintC
  cases e.bitfield with
  | none => rfl
  | some u => exact Core.updateContiguous_contiguous h _ u

/-- the bit part of a whole replay -/
def bitRun : List Entry → Nat × Bitfield → Nat × Bitfield
  | [], s => s
  | e :: r, (c, b) => bitRun r (hintC e c b, bitOf e b)

theorem hdrFun_hint {f : Header → Header} (hf : HdrFun f) (e : Entry) (h : Header) (b : Bitfield) :
    (f (hintOf e h b)).contiguous = hintC e h.contiguous b := by
  rw [(hf _ _ (agreeExc_refl _)).2, hintOf_contig]

/-- **two replays from the same tree**, over different bitfields and hints: the tree part is the same, the headers
    agree except for the hint, and bits and hint are those of the pure bit run -/
theorem replay_ahead (C : Crypto) (d : Disk) (ol : Oplog.State) : ∀ (es : List Entry) (h1 h2 : Header) (t : Tree) (b1 b2 : Bitfield)
    (h1' : Header) (t' : Tree) (b1' : Bitfield), AgreeExc h1 h2 →
    openCore.replay C d es (ol, h1, t, b1) = .ok (ol, h1', t', b1') →
    ∃ h2', openCore.replay C d es (ol, h2, t, b2) = .ok (ol, h2', t', (bitRun es (h2.contiguous, b2)).2) ∧ AgreeExc h1' h2'
      ∧ h2'.contiguous = (bitRun es (h2.contiguous, b2)).1
      ∧ h1'.contiguous = (bitRun es (h1.contiguous, b1)).1 ∧ b1' = (bitRun es (h1.contiguous, b1)).2 := by
  intro es
  induction es with
  | nil =>
    intro h1 h2 t b1 b2 h1' t' b1' hag hrun
    simp only [openCore.replay] at hrun
    cases hrun
    exact ⟨h2, rfl, hag, rfl, rfl, rfl⟩
  | cons e r ih =>
    intro h1 h2 t b1 b2 h1' t' b1' hag hrun
    rw [replay_cons] at hrun ⊢
    obtain ⟨⟨t1, f⟩, htp, hrun⟩ := (andThen_ok_iff _ _ _).mp hrun
    rw [htp, ok_andThen]
    have hf := treePart_hdrFun C d t t1 e f htp
    obtain ⟨h2', r1, r2, r3, r4, r5⟩ := ih (f (hintOf e h1 b1)) (f (hintOf e h2 b2)) t1 (bitOf e b1) (bitOf e b2) h1' t' b1'
      (hf _ _ (hintOf_agree e h1 h2 b1 b2 hag)).1 hrun
    rw [hdrFun_hint hf] at r1 r3 r4 r5
    exact ⟨h2', r1, r2, r3, r4, r5⟩

/-! ### the bit part: entries that only set bits tolerate a bitfield store that is ahead -/

/-- the entry makes `update_contiguous_length` look again when the hint is `c` -/
def Trig (e : Entry) (c : Nat) : Prop := ∃ u, e.bitfield = some u ∧ u.start ≤ c ∧ c ≤ u.start + u.length

theorem Touches.trig {e : Entry} {i : Nat} (h : Touches e i) : Trig e i := by
  obtain ⟨u, h1, h2, h3⟩ := h
  exact ⟨u, h1, h2, Nat.le_of_lt h3⟩

theorem bitOf_get (e : Entry) (b : Bitfield) (hset : ∀ u, e.bitfield = some u → u.drop = false) (i : Nat) :
    (bitOf e b).get i = true ↔ b.get i = true ∨ Touches e i := by
  unfold bitOf
  cases hb : e.bitfield with
  | none =>
    refine ⟨Or.inl, ?_⟩
    rintro (h | ⟨u, hu, _⟩)
    · exact h
    · rw [hb] at hu; cases hu
  | some u =>
    simp only
    rw [Bitfield.get_setRange, hset u hb]
    by_cases hin : u.start ≤ i ∧ i < u.start + u.length
    · rw [if_pos hin]
      exact ⟨fun _ => Or.inr ⟨u, hb, hin.1, hin.2⟩, fun _ => rfl⟩
    · rw [if_neg hin]
      refine ⟨Or.inl, ?_⟩
      rintro (h | ⟨u', hu', h1, h2⟩)
      · exact h
      · rw [hb] at hu'; cases hu'; exact absurd ⟨h1, h2⟩ hin

theorem bitRun_bits : ∀ (es : List Entry), SetOnly es → ∀ (c : Nat) (b : Bitfield) (i : Nat),
    (bitRun es (c, b)).2.get i = true ↔ b.get i = true ∨ ∃ e ∈ es, Touches e i := by
  intro es
  induction es with
  | nil =>
    intro _ c b i
    refine ⟨Or.inl, ?_⟩
    rintro (h | ⟨e, he, _⟩)
    · exact h
    · cases he
  | cons e r ih =>
    intro hset c b i
    simp only [bitRun]
    rw [ih (fun x hx => hset x (List.mem_cons_of_mem _ hx)) _ _ i, bitOf_get e b (hset e List.mem_cons_self) i]
    simp only [List.mem_cons, or_and_right, exists_or, exists_eq_left, or_assoc]

/-- one set-only entry, from a hint `c` with everything below it held: everything below the new hint is held, and the new
    hint's own bit can be held only where the entry did not look again, touched nothing there, and the bit was held
    before (when the entry looks again, the scan stops on a missing bit) -/
theorem hintC_step (e : Entry) (hset : ∀ u, e.bitfield = some u → u.drop = false) (c : Nat) (b : Bitfield)
    (h1 : ∀ i, i < c → b.get i = true) :
    (∀ i, i < hintC e c b → (bitOf e b).get i = true)
      ∧ ((bitOf e b).get (hintC e c b) = true → hintC e c b = c ∧ ¬ Trig e c ∧ b.get c = true) := by
  cases hb : e.bitfield with
  | none =>
    have e1 : hintC e c b = c := by simp only [hintC, hb]
    have e2 : bitOf e b = b := by simp only [bitOf, hb]
    rw [e1, e2]
    refine ⟨h1, fun h => ⟨rfl, ?_, h⟩⟩
    rintro ⟨u, hu, _⟩
    rw [hb] at hu; cases hu
  | some u =>
    have hd := hset u hb
    have e1 : hintC e c b = if c ≤ u.start + u.length ∧ c ≥ u.start
        then updateContiguous.scan (b.setRange u.start u.length true) ((b.setRange u.start u.length true).bits.size + 1) (u.start + u.length)
        else c := by
      simp only [hintC, hb, contigOf, hd, Bool.not_false, Bool.false_eq_true, ite_false]
    have e2 : bitOf e b = b.setRange u.start u.length true := by simp only [bitOf, hb, hd, Bool.not_false]
    rw [e1, e2]
    have hget := Bitfield.get_setRange b u.start u.length true
    generalize b.setRange u.start u.length true = b' at hget ⊢
    by_cases htr : c ≤ u.start + u.length ∧ c ≥ u.start
    · -- the entry looks again: the new hint is where the scan from the end of its range stops
      obtain ⟨s1, s2, _⟩ := Core.scan_spec b' (b'.bits.size + 1) (u.start + u.length) (Nat.lt_add_left _ (Nat.lt_succ_self _))
      rw [if_pos htr]
      refine ⟨fun i hi => ?_, fun h => by rw [s2] at h; cases h⟩
      rcases Nat.lt_or_ge i u.start with hlt | hge
      · rw [hget, if_neg fun h => Nat.not_lt.mpr h.1 hlt]
        exact h1 i (Nat.lt_of_lt_of_le hlt htr.2)
      · rcases Nat.lt_or_ge i (u.start + u.length) with hin | hout
        · rw [hget, if_pos ⟨hge, hin⟩]
        · exact s1 i hout hi
    · rw [if_neg htr]
      refine ⟨fun i hi => ?_, fun h => ?_⟩
      · rw [hget]
        split
        · rfl
        · exact h1 i hi
      · rw [hget] at h
        split at h
        · rename_i hin; exact absurd ⟨Nat.le_of_lt hin.2, hin.1⟩ htr
        · refine ⟨rfl, ?_, h⟩
          rintro ⟨u', hu', t1, t2⟩
          rw [hb] at hu'; cases hu'
          exact htr ⟨t2, t1⟩

/-- **the hint comes out exact**: if everything below the hint is held and the hint is not stuck — whenever its own
    bit is held, an entry still to come makes the scan start again — then after the run the hint is the first
    missing index -/
theorem bitRun_exact : ∀ (es : List Entry), SetOnly es → ∀ (c : Nat) (b : Bitfield),
    (∀ i, i < c → b.get i = true) → (b.get c = true → ∃ e ∈ es, Trig e c) →
    FirstMissing (bitRun es (c, b)).2 (bitRun es (c, b)).1 := by
  intro es
  induction es with
  | nil =>
    intro _ c b h1 h2
    simp only [bitRun]
    refine ⟨h1, ?_⟩
    cases hc : b.get c with
    | false => rfl
    | true => obtain ⟨e, he, _⟩ := h2 hc; cases he
  | cons e r ih =>
    intro hset c b h1 h2
    simp only [bitRun]
    obtain ⟨hA, hB⟩ := hintC_step e (hset e List.mem_cons_self) c b h1
    refine ih (fun x hx => hset x (List.mem_cons_of_mem _ hx)) _ _ hA fun hheld => ?_
    -- the new hint is not stuck: it is the old one, and the entry that restarts the scan there is still to come
    obtain ⟨hc, hnt, hbc⟩ := hB hheld
    rw [hc]
    obtain ⟨x, hx, ht⟩ := h2 hbc
    rcases List.mem_cons.mp hx with rfl | hx
    · exact absurd ht hnt
    · exact ⟨x, hx, ht⟩

/-! ### the tree part: a tree store that gained nodes answers every successful lookup as before -/

/-- every non-blank node of `f` is in `f'` at the same slot -/
def FileExt (f f' : File) : Prop := ∀ i n, ({} : Tree).node? f i = some n → ({} : Tree).node? f' i = some n

theorem fileExt_refl (f : File) : FileExt f f := fun _ _ h => h

/-- the unflushed nodes shadow the store: only slots without one matter to the tree's lookups -/
theorem node?_shadow (t : Tree) (f f' : File) (i : Nat)
    (h : t.unflushed[i]? = none → ({} : Tree).node? f' i = ({} : Tree).node? f i) : t.node? f' i = t.node? f i := by
  rw [node?_split t f' i, node?_split t f i]
  cases hu : t.unflushed[i]? with
  | some x => rfl
  | none => exact h hu

theorem node?_ext (t : Tree) (f f' : File) (h : FileExt f f') (i : Nat) (n : Node) (hn : t.node? f i = some n) : t.node? f' i = some n := by
  rw [node?_split] at hn ⊢
  cases hu : t.unflushed[i]? with
  | some x => rw [hu] at hn; exact hn
  | none => rw [hu] at hn; exact h i n hn

theorem requiredNode_ext (t : Tree) (f f' : File) (h : FileExt f f') (i : Nat) (n : Node) (hn : t.requiredNode f i = .ok n) :
    t.requiredNode f' i = .ok n := by
  unfold Tree.requiredNode at hn ⊢
  cases hl : t.node? f i with
  | none => rw [hl] at hn; cases hn
  | some x =>
    rw [hl] at hn
    rw [node?_ext t f f' h i x hl]
    exact hn

theorem truncate_go_ext (t : Tree) (f f' : File) (h : FileExt f f') : ∀ (rs : List Nat) (i : Nat) (acc out : List Node),
    Tree.truncate.go t f rs i acc = .ok out → Tree.truncate.go t f' rs i acc = .ok out := by
  intro rs
  induction rs with
  | nil => intro i acc out hgo; exact hgo
  | cons r rs ih =>
    intro i acc out hgo
    simp only [Tree.truncate.go] at hgo ⊢
    split
    · rename_i hc
      rw [if_pos hc] at hgo
      exact ih _ _ _ hgo
    · rename_i hc
      rw [if_neg hc] at hgo
      cases hr : t.requiredNode f r with
      | error x => rw [hr] at hgo; cases hgo
      | ok n =>
        rw [hr] at hgo
        rw [requiredNode_ext t f f' h r n hr]
        exact ih _ _ _ hgo

theorem truncate_ext (t : Tree) (f f' : File) (h : FileExt f f') (len fork : Nat) (cs : Changeset)
    (hcs : t.truncate f len fork = .ok cs) : t.truncate f' len fork = .ok cs := by
  unfold Tree.truncate at hcs ⊢
  cases hgo : Tree.truncate.go t f (fullRoots (len * 2)) 0 t.roots with
  | error x => simp only [hgo] at hcs; cases hcs
  | ok out =>
    simp only [hgo] at hcs
    simp only [truncate_go_ext t f f' h _ _ _ _ hgo]
    exact hcs

theorem treePart_ext (C : Crypto) (d d' : Disk) (h : FileExt d.tree d'.tree) (t : Tree) (e : Entry) (x : Tree × (Header → Header))
    (hx : treePart C d t e = .ok x) : treePart C d' t e = .ok x := by
  cases hu : e.treeUpgrade with
  | none => rw [treePart_none C d' t e hu, ← treePart_none C d t e hu]; exact hx
  | some u =>
    rw [treePart_some C d t e u hu] at hx
    obtain ⟨cs, htr, hk⟩ := (andThen_ok_iff _ _ _).mp hx
    rw [treePart_some C d' t e u hu, truncate_ext _ _ _ h _ _ _ htr]
    exact hk

theorem replay_ext (C : Crypto) (d d' : Disk) (h : FileExt d.tree d'.tree) : ∀ (es : List Entry) (st st' : Oplog.State × Header × Tree × Bitfield),
    openCore.replay C d es st = .ok st' → openCore.replay C d' es st = .ok st' := by
  intro es
  induction es with
  | nil => intro st st' hs; exact hs
  | cons e r ih =>
    intro st st' hs
    obtain ⟨ol, hh, t, b⟩ := st
    rw [replay_cons] at hs ⊢
    obtain ⟨p, htp, hs⟩ := (andThen_ok_iff _ _ _).mp hs
    rw [treePart_ext C d d' h t e p htp]
    exact ih _ _ hs

/-! ### crash images of a replica -/

/-- the stores `d` are a crash image of a replica of the first `m` blocks that holds `held`: there is a (ghost) core
    `c` that represents that state over `d` and satisfies the ghost invariant with `OpImage` in place of `OpInv` -/
structure DurG (C : Crypto) (bs : Array Bytes) (m : Nat) (held : Nat → Bool) (d : Disk) (c : Core) (hf : Header) (es : List Entry) : Prop where
  rep : RepRAt C bs m c d held
  oplog : OpImage d.oplog hf es
  replay : Replays C c d hf es
  bfSize : d.bitfield.size % Spec.pageBytes = 0
  dirty : ∀ i, c.bitfield.get i ≠ (Bitfield.ofFile d.bitfield).get i → i / Spec.pageBits ∈ c.bitfield.dirty
  shape : HdrShape c.header
  hdrLen : c.header.tree.length = c.tree.length
  hdrFork : c.header.tree.fork = c.tree.fork
  hdrSig : c.tree.signature = (if c.header.tree.signature.isEmpty then none else some c.header.tree.signature)
  hdrSigLen : c.header.tree.signature = [] ∨ c.header.tree.signature.length = 64
  keys : c.header.publicKey = c.publicKey ∧ c.header.secret = c.secret  -- `replay` … `keys`: as in `PersistR`
  extra : Extra C bs c d hf es
  size : bs.size < 2 ^ 62

/-- … for some ghost core with public key `pk` and fork `fork` -/
def DurR (C : Crypto) (bs : Array Bytes) (m : Nat) (held : Nat → Bool) (d : Disk) (pk : Bytes) (fork : Nat) : Prop :=
  ∃ c hf es, DurG C bs m held d c hf es ∧ c.publicKey = pk ∧ c.tree.fork = fork

theorem durG_live (C : Crypto) (bs : Array Bytes) (m : Nat) (held : Nat → Bool) (c : Core) (hf : Header) (es : List Entry) (d : Disk)
    (hr : RepRAt C bs m c d held) (hp : PersistR C c d hf es) (hx : Extra C bs c d hf es) (hsize : bs.size < 2 ^ 62) :
    DurG C bs m held d c hf es :=
  ⟨hr, opimage_of_inv c.oplog d.oplog hf es hp.oplog, hp.replay, hp.bfSize, hp.dirty, hp.shape, hp.hdrLen, hp.hdrFork, hp.hdrSig,
    hp.hdrSigLen, hp.keys, hx, hsize⟩

theorem rp_durR (C : Crypto) (bs : Array Bytes) (m : Nat) (c : Core) (d : Disk) (held : Nat → Bool) (h : RP C bs m c d held) :
    DurR C bs m held d c.publicKey c.tree.fork := by
  obtain ⟨hf, es, hp, hx⟩ := h.per
  exact ⟨c, hf, es, durG_live C bs m held c hf es d h.rep hp hx h.size, rfl, rfl⟩

theorem replays_congr (C : Crypto) (c c' : Core) (d d' : Disk) (hf : Header) (es : List Entry) (h : Replays C c d hf es)
    (hch : c'.header = c.header) (hct : c'.tree = c.tree) (hcb : ∀ i, c'.bitfield.get i = c.bitfield.get i)
    (ht : d'.tree = d.tree) (hb : d'.bitfield = d.bitfield) : Replays C c' d' hf es := by
  obtain ⟨T0, hT0, hrep⟩ := h
  refine ⟨T0, by rw [ht]; exact hT0, fun ol => ?_⟩
  obtain ⟨b, e1, e2, e3⟩ := hrep ol
  exact ⟨b, by rw [replay_congr C d d' ht, hb, hch, hct]; exact e1, fun i => by rw [e2, hcb], by rw [hb]; exact e3⟩

theorem extra_congr (C : Crypto) (bs : Array Bytes) (c c' : Core) (d d' : Disk) (hf : Header) (es : List Entry) (h : Extra C bs c d hf es)
    (hct : c'.tree = c.tree) (hcb : ∀ i, c'.bitfield.get i = c.bitfield.get i) (ht : d'.tree = d.tree) (hb : d'.bitfield = d.bitfield) :
    Extra C bs c' d' hf es := by
  obtain ⟨B0, g1, g2, g3⟩ := h.ghost
  exact ⟨h.setOnly, ⟨B0, g1, by rw [hb]; exact g2, fun i hi => g3 i (by rw [← hcb]; exact hi)⟩, by rw [ht]; exact h.fileRef,
    by rw [hct]; exact h.unflRef, by rw [ht]; exact h.rootsStored⟩

/-- same ghost core over the same tree and bitfield stores: the data store matters to `RepRAt` only, the oplog to
    `OpImage` only -/
theorem DurG.disk {C : Crypto} {bs : Array Bytes} {m : Nat} {held : Nat → Bool} {d : Disk} {c : Core} {hf : Header} {es : List Entry}
    (h : DurG C bs m held d c hf es) (d' : Disk) (hrep : RepRAt C bs m c d' held) (ht : d'.tree = d.tree)
    (hb : d'.bitfield = d.bitfield) (hop : OpImage d'.oplog hf es) : DurG C bs m held d' c hf es :=
  ⟨hrep, hop, replays_congr C c c d d' hf es h.replay rfl rfl (fun _ => rfl) ht hb, by rw [hb]; exact h.bfSize, by rw [hb]; exact h.dirty,
    h.shape, h.hdrLen, h.hdrFork, h.hdrSig, h.hdrSigLen, h.keys, extra_congr C bs c c d d' hf es h.extra rfl (fun _ => rfl) ht hb, h.size⟩

/-- `Hypercore::new` over stores whose oplog is an image of `hf`, `es` and over which their replay yields `c`: it returns
    `c`'s header and tree, and a bitfield with `c`'s bits; it writes to the oplog only, which then satisfies `OpInv` -/
theorem open_of_replays (C : Crypto) (c : Core) (d : Disk) (hf : Header) (es : List Entry) (ho : OpImage d.oplog hf es)
    (hrep : Replays C c d hf es) :
    ∃ ost ops b, openCore C none d
        = .ok ({ publicKey := c.header.publicKey, secret := c.header.secret, oplog := ost, header := c.header,
                 tree := c.tree, bitfield := b, skipFlush := 0 }, ops)
      ∧ (∀ op ∈ ops, op.store = .oplog) ∧ OpInv ost (ops.foldl (fun g op => op.onFile g) d.oplog).toList hf es
      ∧ (∀ i, b.get i = c.bitfield.get i)
      ∧ (∀ i, b.get i ≠ (Bitfield.ofFile d.bitfield).get i → i / Spec.pageBits ∈ b.dirty) := by
  obtain ⟨ost, ops, hopen, hops, hinv⟩ := opimage_open d.oplog hf es ho
  obtain ⟨T0, hT0, hrep⟩ := hrep
  obtain ⟨b, hb1, hb2, hb3⟩ := hrep ost
  refine ⟨ost, ops, b, ?_, hops, hinv, hb2, hb3⟩
  simp only [openCore, hopen, Journal.applyAll_tree hops, Journal.applyAll_bitfield hops, hT0]
  rw [replay_congr C d (d.applyAll ops) (Journal.applyAll_tree hops), hb1]

/-- **recovery**: `Hypercore::new` on a crash image succeeds and yields a replica in that state, with all invariants -/
theorem durR_open (C : Crypto) (bs : Array Bytes) (m : Nat) (held : Nat → Bool) (d : Disk) (pk : Bytes) (fork : Nat)
    (h : DurR C bs m held d pk fork) :
    ∃ c' j, openCore C none d = .ok (c', j) ∧ RP C bs m c' (d.applyAll j) held ∧ c'.publicKey = pk ∧ c'.tree.fork = fork := by
  obtain ⟨c, hf, es, hg, hpk, hfk⟩ := h
  obtain ⟨ost, ops, b, hopen, hops, hinv, hb2, hb3⟩ := open_of_replays C c d hf es hg.oplog hg.replay
  have ht : (d.applyAll ops).tree = d.tree := Journal.applyAll_tree hops
  have hbf : (d.applyAll ops).bitfield = d.bitfield := Journal.applyAll_bitfield hops
  refine ⟨_, ops, hopen, ⟨reprAt_core (reprAt_stores hg.rep _ ht (Journal.applyAll_data hops)) _ rfl rfl hb2,
    ⟨hf, es, ?_, extra_congr C bs c _ d _ hf es hg.extra rfl hb2 ht hbf⟩, hg.size⟩, hg.keys.1.trans hpk, hfk⟩
  exact ⟨by rw [Journal.applyAll_on_oplog hops]; exact hinv, replays_congr C c _ d _ hf es hg.replay rfl rfl hb2 ht hbf,
    by rw [hbf]; exact hg.bfSize, by rw [hbf]; exact hb3, hg.shape, hg.hdrLen, hg.hdrFork, hg.hdrSig, hg.hdrSigLen, ⟨rfl, rfl⟩⟩

/-- `Hypercore::new` is a function: whatever it returns on a crash image is that replica -/
theorem durR_opened (C : Crypto) (bs : Array Bytes) (m : Nat) (held : Nat → Bool) (d : Disk) (pk : Bytes) (fork : Nat)
    (h : DurR C bs m held d pk fork) (c' : Core) (j : List SOp) (hopen : openCore C none d = .ok (c', j)) :
    RP C bs m c' (d.applyAll j) held ∧ c'.publicKey = pk ∧ c'.tree.fork = fork := by
  obtain ⟨c2, j2, r1, r⟩ := durR_open C bs m held d pk fork h
  rw [hopen] at r1
  cases r1
  exact r

theorem bitRun_dirty (f : File) : ∀ (es : List Entry) (c : Nat) (b : Bitfield),
    (∀ i, b.get i ≠ (Bitfield.ofFile f).get i → i / Spec.pageBits ∈ b.dirty) →
    ∀ i, (bitRun es (c, b)).2.get i ≠ (Bitfield.ofFile f).get i → i / Spec.pageBits ∈ (bitRun es (c, b)).2.dirty := by
  intro es
  induction es with
  | nil => intro c b h; exact h
  | cons e r ih =>
    intro c b h
    simp only [bitRun]
    apply ih
    unfold bitOf
    cases e.bitfield with
    | none => exact h
    | some u => exact dirty_setRange b f u.start u.length (!u.drop) h

theorem replays_bits (C : Crypto) (c : Core) (d : Disk) (hf : Header) (es : List Entry) (h : Replays C c d hf es) (hset : SetOnly es) (i : Nat) :
    c.bitfield.get i = true ↔ (Bitfield.ofFile d.bitfield).get i = true ∨ ∃ e ∈ es, Touches e i := by
  obtain ⟨T0, _, hrep⟩ := h
  obtain ⟨b, hb1, hb2, _⟩ := hrep c.oplog
  obtain ⟨_, _, _, _, _, r5⟩ := replay_ahead C d c.oplog es hf hf T0 _ (Bitfield.ofFile d.bitfield) _ _ _ (agreeExc_refl hf) hb1
  rw [← hb2 i, r5]
  exact bitRun_bits es hset _ _ i

/-- **the replay tolerates stores that are ahead**: if the tree store gained reference nodes and the bitfield store
    gained bits the live core holds, replaying the same entries over the same header gives the same header (hint
    included), the same tree and the same bits -/
theorem replays_ahead (C : Crypto) (bs : Array Bytes) (c : Core) (d d' : Disk) (hf : Header) (es : List Entry)
    (h : Replays C c d hf es) (hx : Extra C bs c d hf es) (hfm : Core.FirstMissing c.bitfield c.header.contiguous)
    (hT : ∀ T0, Tree.openTree hf.tree d.tree = .ok T0 → Tree.openTree hf.tree d'.tree = .ok T0) (hext : FileExt d.tree d'.tree)
    (hA : ∀ i, (Bitfield.ofFile d.bitfield).get i = true → (Bitfield.ofFile d'.bitfield).get i = true)
    (hB : ∀ i, (Bitfield.ofFile d'.bitfield).get i = true → c.bitfield.get i = true) :
    Replays C c d' hf es := by
  have hbits := replays_bits C c d hf es h hx.setOnly
  obtain ⟨T0, hT0, hrep⟩ := h
  obtain ⟨B0, ⟨g1a, g1b⟩, g2, g3⟩ := hx.ghost
  refine ⟨T0, hT T0 hT0, fun ol => ?_⟩
  obtain ⟨b, hb1, hb2, _⟩ := hrep ol
  obtain ⟨h2', r1, r2, r3, _, _⟩ := replay_ahead C d ol es hf hf T0 _ (Bitfield.ofFile d'.bitfield) _ _ _ (agreeExc_refl hf) hb1
  -- the bits of the new run are the live bits: the new store's bits lie between the old store's and the core's
  have hnew : ∀ i, (bitRun es (hf.contiguous, Bitfield.ofFile d'.bitfield)).2.get i = c.bitfield.get i := fun i =>
    Bool.eq_iff_iff.mpr <| (bitRun_bits es hx.setOnly hf.contiguous (Bitfield.ofFile d'.bitfield) i).trans
      ⟨fun h => h.elim (hB i) fun ht => (hbits i).mpr (Or.inr ht), fun hc => ((hbits i).mp hc).imp_left (hA i)⟩
  -- the hint of the new run is exact
  have hex := bitRun_exact es hx.setOnly hf.contiguous (Bitfield.ofFile d'.bitfield)
    (fun i hi => hA i (g2 i (g1a i hi)))
    (fun hheld => by
      rcases g3 _ (hB _ hheld) with h1 | ⟨e, he, ht⟩
      · rw [g1b] at h1; cases h1
      · exact ⟨e, he, Touches.trig ht⟩)
  have hcont : h2'.contiguous = c.header.contiguous := by
    rw [r3]
    exact firstMissing_unique _ _ _ _ hnew hex hfm
  have hh : h2' = c.header := (agreeExc_eq _ _ r2 hcont.symm).symm
  refine ⟨_, ?_, hnew, ?_⟩
  · rw [← hh]
    exact replay_ext C d d' hext es _ _ r1
  · exact bitRun_dirty d'.bitfield es _ _ (fun i hne => absurd rfl hne)

/-- the nodes a cut `flush_nodes` has written: some of the unflushed ones -/
structure Written (t : Tree) (L : List Node) : Prop where
  mem : ∀ n ∈ L, t.unflushed[n.index]? = some n
  distinct : L.Pairwise (fun a b => a.index ≠ b.index)

theorem written_flushList (t : Tree) (hwf : MapWF t.unflushed) : Written t (Crash.flushList t) :=
  ⟨fun n => (Crash.flushList_mem t hwf n).mp, Crash.flushList_distinct t hwf⟩

theorem written_take (t : Tree) (L : List Node) (k : Nat) (h : Written t L) : Written t (L.take k) :=
  ⟨fun n hn => h.mem n (List.mem_of_mem_take hn), h.distinct.sublist (List.take_sublist k L)⟩

/-- the live tree's lookups do not notice the written nodes: it still has them in its unflushed map -/
theorem ghost_lookup (t : Tree) (hwf : MapWF t.unflushed) (L : List Node) (hW : Written t L) (f : File) (hal : f.size % 40 = 0) (i : Nat) :
    t.node? (writeSlots f L) i = t.node? f i :=
  node?_shadow t f _ i fun hu => writeSlots_other L (fun n hn => (hwf _ _ (hW.mem n hn)).2.1) hW.distinct f hal i fun n hn e => by
    have := hW.mem n hn
    rw [e, hu] at this; cases this

theorem written_aligned (t : Tree) (hwf : MapWF t.unflushed) (L : List Node) (hW : Written t L) (f : File) (hal : f.size % 40 = 0) :
    (writeSlots f L).size % 40 = 0 :=
  writeSlots_aligned L (fun n hn => (hwf _ _ (hW.mem n hn)).2.1) f hal

theorem refNode_unique {C : Crypto} {bs : Array Bytes} {i : Nat} {n n' : Node}
    (h : ∃ dd o, i = Flat.index dd o ∧ n = nodeAt C bs dd o) (h' : ∃ dd o, i = Flat.index dd o ∧ n' = nodeAt C bs dd o) : n = n' := by
  obtain ⟨dd, o, e1, e2⟩ := h
  obtain ⟨dd', o', e1', e2'⟩ := h'
  obtain ⟨rfl, rfl⟩ := index_inj _ _ _ _ (e1.symm.trans e1')
  rw [e2, e2']

theorem written_ext (C : Crypto) (bs : Array Bytes) (t : Tree) (hwf : MapWF t.unflushed) (L : List Node) (hW : Written t L)
    (f : File) (hal : f.size % 40 = 0)
    (hfile : ∀ i n, ({} : Tree).node? f i = some n → ∃ dd o, i = Flat.index dd o ∧ n = nodeAt C bs dd o)
    (hunfl : ∀ i n, t.unflushed[i]? = some n → ∃ dd o, i = Flat.index dd o ∧ n = nodeAt C bs dd o) :
    FileExt f (writeSlots f L)
      ∧ (∀ i n, ({} : Tree).node? (writeSlots f L) i = some n → ∃ dd o, i = Flat.index dd o ∧ n = nodeAt C bs dd o) := by
  have hw : ∀ n ∈ L, n.hash.length = 32 ∧ n.length < 2 ^ 64 := fun n hn => (hwf _ _ (hW.mem n hn)).2
  constructor
  · -- a slot that is rewritten gets the node it held: both are the reference node of that index
    exact fun i n0 h0 => writeSlots_keep L hw hW.distinct f i n0 h0 fun n hn hi =>
      refNode_unique (hi ▸ hunfl n.index n (hW.mem n hn)) (hfile i n0 h0)
  · intro i n hn'
    by_cases hex : ∃ x ∈ L, x.index = i
    · obtain ⟨x, hx, rfl⟩ := hex
      rw [writeSlots_hit L hw hW.distinct f x hx] at hn'
      obtain ⟨rfl, _⟩ := some_of_nonblank hn'
      exact hunfl x.index x (hW.mem x hx)
    · rw [writeSlots_other L (fun n hn => (hw n hn).1) hW.distinct f hal i fun x hx e => hex ⟨x, hx, e⟩] at hn'
      exact hfile i n hn'

theorem load_eq (f f' : File) : ∀ (l : List Nat), (∀ i ∈ l, ∃ n, ({} : Tree).node? f i = some n ∧ ({} : Tree).node? f' i = some n) →
    Tree.openTree.load f l = Tree.openTree.load f' l := by
  intro l
  induction l with
  | nil => intro _; rfl
  | cons i is ih =>
    intro h
    obtain ⟨n, h1, h2⟩ := h i List.mem_cons_self
    obtain ⟨b1, r1, n1⟩ := node?_empty f i n h1
    obtain ⟨b2, r2, n2⟩ := node?_empty f' i n h2
    simp only [Tree.openTree.load, r1, r2, n1, n2, ih (fun j hj => h j (List.mem_cons_of_mem _ hj))]

theorem openTree_ext (C : Crypto) (bs : Array Bytes) (ht : HeaderTree) (f f' : File) (hext : FileExt f f') (m0 : Nat) (hlen : ht.length = m0)
    (hm : m0 < 2 ^ 64) (hR : ∀ p ∈ rootsStack m0, ({} : Tree).node? f (Flat.index p.1 p.2) = some (nodeAt C bs p.1 p.2)) :
    Tree.openTree ht f' = Tree.openTree ht f := by
  have hidx : fullRoots (ht.length * 2) = (rootsStack m0).reverse.map fun p => Flat.index p.1 p.2 := by
    rw [hlen, Nat.mul_comm]; exact FullRoots.fullRoots_eq m0 hm
  have := load_eq f f' (fullRoots (ht.length * 2)) (fun i hi => by
    rw [hidx] at hi
    obtain ⟨p, hp, rfl⟩ := List.mem_map.mp hi
    exact ⟨_, hR p (List.mem_reverse.mp hp), hext _ _ (hR p (List.mem_reverse.mp hp))⟩)
  simp only [Tree.openTree, this]

theorem bit_between {x y z : Bool} (hxy : x = true → y = true) (h : z = x ∨ z = y) : (x = true → z = true) ∧ (z = true → y = true) := by
  rcases h with rfl | rfl
  · exact ⟨id, hxy⟩
  · exact ⟨hxy, id⟩

/-- the stores after some dirty pages and some unflushed nodes of the live core have been written -/
theorem durG_ahead (C : Crypto) (bs : Array Bytes) (m : Nat) (held : Nat → Bool) (c : Core) (hf : Header) (es : List Entry) (d : Disk)
    (hr : RepRAt C bs m c d held) (hp : PersistR C c d hf es) (hx : Extra C bs c d hf es) (hsize : bs.size < 2 ^ 62)
    (ps : List Nat) (L : List Node) (hW : Written c.tree L) :
    DurG C bs m held { d with bitfield := writePages c.bitfield d.bitfield ps, tree := writeSlots d.tree L } c hf es := by
  obtain ⟨w1, w2⟩ := writePages_bits c.bitfield d.bitfield hp.bfSize ps
  have hbits := replays_bits C c d hf es hp.replay hx.setOnly
  obtain ⟨hext, hfileRef⟩ := written_ext C bs c.tree hr.mapwf L hW d.tree hr.aligned hx.fileRef hx.unflRef
  -- every bit of the new bitfield store is the old store's or the core's, and the core holds what the old store held
  have hbtw : ∀ i, (Bitfield.ofFile (writePages c.bitfield d.bitfield ps)).get i = (Bitfield.ofFile d.bitfield).get i
      ∨ (Bitfield.ofFile (writePages c.bitfield d.bitfield ps)).get i = c.bitfield.get i := fun i => by
    rw [w1 i]
    split
    · exact Or.inr rfl
    · exact Or.inl rfl
  have hAB := fun i => bit_between (fun hi => (hbits i).mpr (Or.inl hi)) (hbtw i)
  obtain ⟨m0, hm0, hm64, hroots0⟩ := hx.rootsStored
  obtain ⟨B0, g1, g2, g3⟩ := hx.ghost
  refine ⟨?_, opimage_of_inv c.oplog d.oplog hf es hp.oplog, ?_, w2, ?_, hp.shape, hp.hdrLen, hp.hdrFork, hp.hdrSig, hp.hdrSigLen, hp.keys, ?_, hsize⟩
  · exact reprAt_congr C bs m c d held hr c _ (fun i => ghost_lookup c.tree hr.mapwf L hW d.tree hr.aligned i) rfl rfl rfl hr.mapwf
      (written_aligned c.tree hr.mapwf L hW d.tree hr.aligned) (fun _ => rfl) rfl rfl
  · exact replays_ahead C bs c d _ hf es hp.replay hx hr.contig
      (fun T0 hT0 => (openTree_ext C bs hf.tree d.tree _ hext m0 hm0 hm64 hroots0).trans hT0)
      hext (fun i => (hAB i).1) (fun i => (hAB i).2)
  · intro i hne
    refine hp.dirty i fun heq => hne ?_
    rcases hbtw i with e | e
    · exact heq.trans e.symm
    · exact e.symm
  · exact ⟨hx.setOnly, ⟨B0, g1, fun i hi => (hAB i).1 (g2 i hi), g3⟩, hfileRef, hx.unflRef,
      ⟨m0, hm0, hm64, fun p hp' => hext _ _ (hroots0 p hp')⟩⟩

/-- **a periodic flush cut at any point leaves a crash image of the same replica state** -/
theorem crash_flushR (C : Crypto) (bs : Array Bytes) (m : Nat) (c : Core) (d : Disk) (held : Nat → Bool) (hf : Header) (es : List Entry)
    (hr : RepRAt C bs m c d held) (hp : PersistR C c d hf es) (hx : Extra C bs c d hf es) (hsize : bs.size < 2 ^ 62) (k : Nat) :
    DurR C bs m held (d.applyAll (c.maybeFlush.2.take k)) c.publicKey c.tree.fork := by
  by_cases hfl : c.skipFlush = 0 ∨ c.oplog.entriesByteLength ≥ Spec.maxEntriesBytes
  swap
  · rw [Core.maybeFlush_skip c hfl, List.take_nil]
    exact rp_durR C bs m c d held ⟨hr, ⟨hf, es, hp, hx⟩, hsize⟩
  have hj : c.maybeFlush.2 = (c.flushAll false).2 := by rw [Crash.maybeFlush_snd, if_pos hfl]
  have hWall := written_flushList c.tree hr.mapwf
  have hrepf := maybeFlush_reprAt C bs m c d held hr
  obtain ⟨hp', hx'⟩ := persist_flushAll C bs m c d held hf es hr hp hfl
  rw [hj] at hrepf
  rw [Crash.flushAll_disk] at hrepf hp' hx'
  rw [hj]
  rcases Crash.flushAll_take_cases c d false k with ⟨ps, n, e⟩ | ⟨n, hn, e⟩
  · -- inside the page or node writes: the oplog is untouched
    rw [e]
    exact ⟨c, hf, es, durG_ahead C bs m held c hf es d hr hp hx hsize ps _ (written_take c.tree _ n hWall), rfl, rfl⟩
  · -- all pages and nodes are written and at least the header: the stores are those after the whole flush but for the
    -- oplog, which shows the new header and no entries whether or not the entry region is cut yet
    rw [e]
    exact ⟨_, c.header, [], (durG_live C bs m held _ c.header [] _ hrepf hp' hx' hsize).disk _ (reprAt_stores hrepf _ rfl rfl) rfl rfl
      (Crash.opimage_flush_cut c.oplog d.oplog hf es c.header false hp.oplog (headerOK_of_shape _ hp.shape) n hn),
      Core.maybeFlush_publicKey c, Core.maybeFlush_fork c⟩

/-- **the header write of the periodic flush torn after `t` bytes** (C07), under the assumption that the checksum rejects
    the half-written slot: all pages and nodes are written, the oplog still opens to the old header and all entries —
    a crash image of the same replica state (recovery replays the entries over stores that are ahead) -/
theorem torn_headerR (C : Crypto) (bs : Array Bytes) (m : Nat) (c : Core) (d : Disk) (held : Nat → Bool) (hf : Header) (es : List Entry)
    (hr : RepRAt C bs m c d held) (hp : PersistR C c d hf es) (hx : Extra C bs c d hf es) (hsize : bs.size < 2 ^ 62)
    (off : Nat) (bytes : Bytes) (hop : (Oplog.insertHeader c.header 0 c.oplog.bits false).2.head? = some (.write .oplog off bytes)) (t : Nat)
    (hcrc : validateLeader (((d.oplog.write off (bytes.take t)).toList.drop off).take Spec.headerSize) = none) :
    DurR C bs m held ((d.applyAll (c.bitfield.flush.2 ++ c.tree.flush.2)).apply (.write .oplog off (bytes.take t))) c.publicKey c.tree.fork := by
  have hWall := written_flushList c.tree hr.mapwf
  have hg := durG_ahead C bs m held c hf es d hr hp hx hsize c.bitfield.dirty (Crash.flushList c.tree) hWall
  have hinv := opinv_torn_header c.oplog d.oplog hf es c.header false t hp.oplog (headerOK_of_shape _ hp.shape) off bytes hop hcrc
  rw [Crash.sides_disk, Disk.apply_write]
  exact ⟨c, hf, es, hg.disk _ (reprAt_stores hg.rep _ rfl rfl) rfl rfl (opimage_of_inv c.oplog _ hf es hinv), rfl, rfl⟩

/-- **every prefix of the storage operations of an exchange step leaves a crash image of the state before the step
    or of the state after it** -/
theorem crash_ok (C : Crypto) (bs : Array Bytes) (m m' : Nat) (c c1 : Core) (d : Disk) (held held' : Nat → Bool) (st : Step Bool)
    (e : Entry) (j0 : List SOp) (h : RP C bs m c d held) (hok : StepOK C bs m m' c c1 d held held' st e j0) (k : Nat) :
    DurR C bs m held (d.applyAll (st.journal.take k)) c.publicKey c.tree.fork
      ∨ DurR C bs m' held' (d.applyAll (st.journal.take k)) c.publicKey c.tree.fork := by
  have hmid := ok_mid C bs m m' c c1 d held held' st e j0 h hok
  obtain ⟨hf, es, hp, hx⟩ := h.per
  obtain ⟨w, hw⟩ : ∃ w, (Oplog.appendEntry c.oplog e).2 = [w] := ⟨_, Oplog.appendEntry_ops _ _⟩
  rw [hok.shape.2, hw]
  rw [hw] at hmid
  rcases Crash.take_cut j0 w [] c1.maybeFlush.2 k with ⟨_, e1⟩ | ⟨n, e1⟩ | ⟨n, e1⟩
  · -- inside the data-store operations: the state before
    left
    rw [e1]
    have hg := durG_live C bs m held c hf es d h.rep hp hx h.size
    have hdat := Journal.on_take hok.j0data k
    exact ⟨c, hf, es, hg.disk _ (hok.pre k) (Journal.applyAll_tree hdat) (Journal.applyAll_bitfield hdat)
      (by rw [Journal.applyAll_oplog hdat]; exact hg.oplog), rfl, rfl⟩
  · -- the entry is written: the state after, before its flush
    right
    rw [e1, List.take_nil, List.append_nil]
    have := rp_durR C bs m' c1 _ held' hmid
    rw [hok.keep.1, hok.keep.2] at this
    exact this
  · -- inside the periodic flush: the state after
    right
    rw [e1, Journal.applyAll_append]
    obtain ⟨hf1, es1, hp1, hx1⟩ := hmid.per
    have := crash_flushR C bs m' c1 _ held' hf1 es1 hmid.rep hp1 hx1 h.size n
    rw [hok.keep.1, hok.keep.2] at this
    exact this

/-- **a torn data or entry write** (C07): if the write in progress — the block's bytes or the oplog entry — reaches the
    store only as a byte prefix, the stores are a crash image of the state *before* the step: the entry write is the
    commit point, and a strict prefix of a frame is no frame (`opimage_torn_entry`, no assumption on the checksum) -/
theorem torn_ok (C : Crypto) (bs : Array Bytes) (m m' : Nat) (c c1 : Core) (d : Disk) (held held' : Nat → Bool) (st : Step Bool)
    (e : Entry) (j0 : List SOp) (h : RP C bs m c d held) (hok : StepOK C bs m m' c c1 d held held' st e j0) :
    (∀ op ∈ j0, ∃ off bytes, op = SOp.write .data off bytes ∧ ∀ t, DurR C bs m held (d.apply (SOp.write .data off (bytes.take t))) c.publicKey c.tree.fork)
      ∧ (∀ t, t < (frame (encEntry e) c.oplog.currentBit false).length →
          DurR C bs m held ((d.applyAll j0).apply (SOp.write .oplog (Spec.entriesOffset + c.oplog.entriesByteLength) ((frame (encEntry e) c.oplog.currentBit false).take t)))
            c.publicKey c.tree.fork) := by
  obtain ⟨hf, es, hp, hx⟩ := h.per
  have hg := durG_live C bs m held c hf es d h.rep hp hx h.size
  constructor
  · intro op hop
    obtain ⟨off, bytes, rfl, hrep⟩ := hok.tornData op hop
    exact ⟨off, bytes, rfl, fun t => ⟨c, hf, es, hg.disk _ (hrep t) rfl rfl hg.oplog, rfl, rfl⟩⟩
  · intro t ht
    have hdat := hok.j0data
    have hpre := hok.pre j0.length
    rw [List.take_length] at hpre
    -- the entry fits the format (it is about to be logged)
    have heok : EntryOK e := (hok.per1 hf es hp).oplog.entryOK e (List.mem_append_right _ (List.mem_singleton.mpr rfl))
    rw [Disk.apply_write]
    refine ⟨c, hf, es, hg.disk _ (reprAt_stores hpre _ rfl rfl) (Journal.applyAll_tree hdat) (Journal.applyAll_bitfield hdat) ?_, rfl, rfl⟩
    show OpImage ((d.applyAll j0).oplog.write _ _) hf es
    rw [Journal.applyAll_oplog hdat]
    exact opimage_torn_entry c.oplog d.oplog hf es e t hp.oplog heok ht

/-- an exchange step cut anywhere, and the recovery -/
theorem crash_recover (C : Crypto) (bs : Array Bytes) (m m' : Nat) (c c1 : Core) (d : Disk) (held held' : Nat → Bool) (st : Step Bool)
    (e : Entry) (j0 : List SOp) (h : RP C bs m c d held) (hok : StepOK C bs m m' c c1 d held held' st e j0) (k : Nat) :
    ∃ c' j, openCore C none (d.applyAll (st.journal.take k)) = .ok (c', j) ∧ c'.publicKey = c.publicKey ∧ c'.tree.fork = c.tree.fork
      ∧ (RP C bs m c' ((d.applyAll (st.journal.take k)).applyAll j) held ∨ RP C bs m' c' ((d.applyAll (st.journal.take k)).applyAll j) held') := by
  rcases crash_ok C bs m m' c c1 d held held' st e j0 h hok k with hd | hd
  · obtain ⟨c', j, r1, r2, r3, r4⟩ := durR_open C bs m held _ _ _ hd
    exact ⟨c', j, r1, r3, r4, Or.inl r2⟩
  · obtain ⟨c', j, r1, r2, r3, r4⟩ := durR_open C bs m' held' _ _ _ hd
    exact ⟨c', j, r1, r3, r4, Or.inr r2⟩

/-! ### the exchanges a replica takes, completed or cut -/

/-- the replica `(c, d)` with keys `pk`, `fork` satisfies the invariants, and applying the proof `p` is an exchange step -/
def Exch (C : Crypto) (bs : Array Bytes) (pk : Bytes) (fork : Nat) (c : Core) (d : Disk) (p : Proof) : Prop :=
  ∃ m m' held held' c1 e j0, RP C bs m c d held ∧ c.publicKey = pk ∧ c.tree.fork = fork
    ∧ StepOK C bs m m' c c1 d held held' (c.verifyAndApply C d p) e j0

/-- the completed step keeps the invariants and the keys -/
theorem Exch.step {C : Crypto} {bs : Array Bytes} {pk : Bytes} {fork : Nat} {c : Core} {d : Disk} {p : Proof} (h : Exch C bs pk fork c d p) :
    ∃ m held, RP C bs m (c.verifyAndApply C d p).core (d.applyAll (c.verifyAndApply C d p).journal) held
      ∧ (c.verifyAndApply C d p).core.publicKey = pk ∧ (c.verifyAndApply C d p).core.tree.fork = fork := by
  obtain ⟨m, m', held, held', c1, e, j0, hrp, hpk, hfk, hk⟩ := h
  obtain ⟨_, r2, r3, r4⟩ := rp_of_ok C bs m m' c c1 d held held' _ e j0 hrp hk
  exact ⟨m', held', r2, r3.trans hpk, r4.trans hfk⟩

/-- so does whatever `Hypercore::new` returns after the step was cut at its `k`-th storage operation -/
theorem Exch.crash {C : Crypto} {bs : Array Bytes} {pk : Bytes} {fork : Nat} {c : Core} {d : Disk} {p : Proof} (h : Exch C bs pk fork c d p)
    (k : Nat) (c' : Core) (j : List SOp)
    (hopen : openCore C none (d.applyAll ((c.verifyAndApply C d p).journal.take k)) = .ok (c', j)) :
    ∃ m held, RP C bs m c' ((d.applyAll ((c.verifyAndApply C d p).journal.take k)).applyAll j) held
      ∧ c'.publicKey = pk ∧ c'.tree.fork = fork := by
  obtain ⟨m, m', held, held', c1, e, j0, hrp, rfl, rfl, hk⟩ := h
  rcases crash_ok C bs m m' c c1 d held held' _ e j0 hrp hk k with hd | hd
  · exact ⟨m, held, durR_opened C bs m held _ _ _ hd c' j hopen⟩
  · exact ⟨m', held', durR_opened C bs m' held' _ _ _ hd c' j hopen⟩

theorem exch_first (C : Crypto) (hC : HashWF C) (hT : TreeWF C) (bs : Array Bytes) (pk : Bytes) (fork : Nat) (c : Core) (d : Disk)
    (hinv : ∃ m held, RP C bs m c d held ∧ c.publicKey = pk ∧ c.tree.fork = fork) (n : Nat) (sig : Bytes)
    (hlen0 : c.tree.length = 0) (h0 : 0 < n) (hn : n ≤ bs.size) (hsl : sig.length = 64)
    (hver : C.verify pk (signableAt C bs n fork) sig = true) :
    Exch C bs pk fork c d (honestFirst C bs c.tree.fork n sig) := by
  obtain ⟨m, held, hrp, rfl, rfl⟩ := hinv
  obtain rfl : m = 0 := hrp.rep.closed.sparse.length.symm.trans hlen0
  obtain ⟨c1, e, j0, hk⟩ := first_ok C hC hT bs c d held hrp n h0 hn sig hsl hver
  exact ⟨0, n, _, _, c1, e, j0, hrp, rfl, rfl, hk⟩

theorem exch_act (C : Crypto) (hC : HashWF C) (hT : TreeWF C) (bs : Array Bytes) (pk : Bytes) (fork : Nat) (c : Core) (d : Disk)
    (hinv : ∃ m held, RP C bs m c d held ∧ c.publicKey = pk ∧ c.tree.fork = fork) (a : Act)
    (hm0 : 0 < c.tree.length) (hok : OkActs C bs pk fork c.tree.length [a]) :
    Exch C bs pk fork c d (actProof C bs c d a) := by
  obtain ⟨m, held, hrp, rfl, rfl⟩ := hinv
  obtain rfl : c.tree.length = m := hrp.rep.closed.sparse.length
  obtain ⟨c1, e, j0, hk⟩ := act_ok C hC hT bs _ c d held hrp hm0 a hok
  exact ⟨_, _, held, _, c1, e, j0, hrp, rfl, rfl, hk⟩

theorem exch_blockGrow (C : Crypto) (hC : HashWF C) (hT : TreeWF C) (bs : Array Bytes) (pk : Bytes) (fork : Nat) (c : Core) (d : Disk)
    (hinv : ∃ m held, RP C bs m c d held ∧ c.publicKey = pk ∧ c.tree.fork = fork) (i n : Nat) (us : List (Nat × Nat)) (sig : Bytes)
    (hm0 : 0 < c.tree.length) (hmn : c.tree.length < n) (hn : n ≤ bs.size) (hup : Up c.tree.length 0 (rootsStack n).reverse us)
    (hsl : sig.length = 64) (hver : C.verify pk (signableAt C bs n fork) sig = true) (hi : i < c.tree.length) :
    Exch C bs pk fork c d (BlockGrow.honestBlockGrowth C bs c d i c.tree.length n us sig) := by
  obtain ⟨m, held, hrp, rfl, rfl⟩ := hinv
  obtain rfl : c.tree.length = m := hrp.rep.closed.sparse.length
  obtain ⟨c1, e, j0, hk⟩ := BlockGrow.blockgrow_ok C hC hT bs _ n c d held hrp hm0 hmn hn us hup sig hsl hver i hi
  exact ⟨_, n, held, _, c1, e, j0, hrp, rfl, rfl, hk⟩

theorem exch_newBlock (C : Crypto) (hC : HashWF C) (hT : TreeWF C) (bs : Array Bytes) (pk : Bytes) (fork : Nat) (c : Core) (d : Disk)
    (hinv : ∃ m held, RP C bs m c d held ∧ c.publicKey = pk ∧ c.tree.fork = fork) (i n : Nat) (us a b : List (Nat × Nat)) (k : Nat)
    (sig : Bytes) (hm0 : 0 < c.tree.length) (hmn : c.tree.length < n) (hn : n ≤ bs.size)
    (hup : Up c.tree.length 0 (rootsStack n).reverse us) (hmi : c.tree.length ≤ i) (hi : i < n) (hsplit : us = a ++ (k, i / 2 ^ k) :: b)
    (hsl : sig.length = 64) (hver : C.verify pk (signableAt C bs n fork) sig = true) :
    Exch C bs pk fork c d (BlockGrowGen.honestNewBlock C bs c.tree.fork i c.tree.length n a b k sig) := by
  obtain ⟨m, held, hrp, rfl, rfl⟩ := hinv
  obtain rfl : c.tree.length = m := hrp.rep.closed.sparse.length
  obtain ⟨c1, e, j0, hk⟩ := BlockGrowGen.newblock_ok C hC hT bs _ n c d held hrp hm0 hmn hn us hup sig hsl hver i hmi hi a b k hsplit
  exact ⟨_, n, held, _, c1, e, j0, hrp, rfl, rfl, hk⟩

/-- the replica states reachable from a state that satisfies the invariants (e.g. a freshly created replica) by first
    contact, honest exchanges, close/reopen and **crashes at any storage operation of an exchange (first contact
    included) followed by a reopen** -/
inductive Reach (C : Crypto) (bs : Array Bytes) (pk : Bytes) (fork : Nat) : Core × Disk → Prop
  | start (c : Core) (d : Disk) (m : Nat) (held : Nat → Bool) : RP C bs m c d held → c.publicKey = pk → c.tree.fork = fork →
      Reach C bs pk fork (c, d)
  | first (c : Core) (d : Disk) (n : Nat) (sig : Bytes) : Reach C bs pk fork (c, d) → c.tree.length = 0 → 0 < n → n ≤ bs.size →
      sig.length = 64 → C.verify pk (signableAt C bs n fork) sig = true →
      Reach C bs pk fork ((c.verifyAndApply C d (honestFirst C bs c.tree.fork n sig)).core, d.applyAll (c.verifyAndApply C d (honestFirst C bs c.tree.fork n sig)).journal)
  | crashFirst (c : Core) (d : Disk) (n : Nat) (sig : Bytes) (k : Nat) (c' : Core) (j : List SOp) : Reach C bs pk fork (c, d) →
      c.tree.length = 0 → 0 < n → n ≤ bs.size → sig.length = 64 → C.verify pk (signableAt C bs n fork) sig = true →
      openCore C none (d.applyAll ((c.verifyAndApply C d (honestFirst C bs c.tree.fork n sig)).journal.take k)) = .ok (c', j) →
      Reach C bs pk fork (c', (d.applyAll ((c.verifyAndApply C d (honestFirst C bs c.tree.fork n sig)).journal.take k)).applyAll j)
  | act (c : Core) (d : Disk) (a : Act) : Reach C bs pk fork (c, d) → 0 < c.tree.length → OkActs C bs pk fork c.tree.length [a] →
      Reach C bs pk fork ((c.verifyAndApply C d (actProof C bs c d a)).core, d.applyAll (c.verifyAndApply C d (actProof C bs c d a)).journal)
  | reopen (c : Core) (d : Disk) (c' : Core) (j : List SOp) : Reach C bs pk fork (c, d) → openCore C none d = .ok (c', j) →
      Reach C bs pk fork (c', d.applyAll j)
  | crash (c : Core) (d : Disk) (a : Act) (k : Nat) (c' : Core) (j : List SOp) : Reach C bs pk fork (c, d) → 0 < c.tree.length →
      OkActs C bs pk fork c.tree.length [a] →
      openCore C none (d.applyAll ((c.verifyAndApply C d (actProof C bs c d a)).journal.take k)) = .ok (c', j) →
      Reach C bs pk fork (c', (d.applyAll ((c.verifyAndApply C d (actProof C bs c d a)).journal.take k)).applyAll j)
  | blockGrow (c : Core) (d : Disk) (i n : Nat) (us : List (Nat × Nat)) (sig : Bytes) : Reach C bs pk fork (c, d) → 0 < c.tree.length →
      c.tree.length < n → n ≤ bs.size → Up c.tree.length 0 (rootsStack n).reverse us → sig.length = 64 →
      C.verify pk (signableAt C bs n fork) sig = true → i < c.tree.length →
      Reach C bs pk fork ((c.verifyAndApply C d (BlockGrow.honestBlockGrowth C bs c d i c.tree.length n us sig)).core,
        d.applyAll (c.verifyAndApply C d (BlockGrow.honestBlockGrowth C bs c d i c.tree.length n us sig)).journal)
  | crashBlockGrow (c : Core) (d : Disk) (i n : Nat) (us : List (Nat × Nat)) (sig : Bytes) (k : Nat) (c' : Core) (j : List SOp) :
      Reach C bs pk fork (c, d) → 0 < c.tree.length →
      c.tree.length < n → n ≤ bs.size → Up c.tree.length 0 (rootsStack n).reverse us → sig.length = 64 →
      C.verify pk (signableAt C bs n fork) sig = true → i < c.tree.length →
      openCore C none (d.applyAll ((c.verifyAndApply C d (BlockGrow.honestBlockGrowth C bs c d i c.tree.length n us sig)).journal.take k)) = .ok (c', j) →
      Reach C bs pk fork (c', (d.applyAll ((c.verifyAndApply C d (BlockGrow.honestBlockGrowth C bs c d i c.tree.length n us sig)).journal.take k)).applyAll j)
  | newBlock (c : Core) (d : Disk) (i n : Nat) (us a b : List (Nat × Nat)) (k : Nat) (sig : Bytes) : Reach C bs pk fork (c, d) → 0 < c.tree.length →
      c.tree.length < n → n ≤ bs.size → Up c.tree.length 0 (rootsStack n).reverse us → c.tree.length ≤ i → i < n → us = a ++ (k, i / 2 ^ k) :: b →
      sig.length = 64 → C.verify pk (signableAt C bs n fork) sig = true →
      Reach C bs pk fork ((c.verifyAndApply C d (BlockGrowGen.honestNewBlock C bs c.tree.fork i c.tree.length n a b k sig)).core,
        d.applyAll (c.verifyAndApply C d (BlockGrowGen.honestNewBlock C bs c.tree.fork i c.tree.length n a b k sig)).journal)
  | crashNewBlock (c : Core) (d : Disk) (i n : Nat) (us a b : List (Nat × Nat)) (k : Nat) (sig : Bytes) (kk : Nat) (c' : Core) (j : List SOp) :
      Reach C bs pk fork (c, d) → 0 < c.tree.length →
      c.tree.length < n → n ≤ bs.size → Up c.tree.length 0 (rootsStack n).reverse us → c.tree.length ≤ i → i < n → us = a ++ (k, i / 2 ^ k) :: b →
      sig.length = 64 → C.verify pk (signableAt C bs n fork) sig = true →
      openCore C none (d.applyAll ((c.verifyAndApply C d (BlockGrowGen.honestNewBlock C bs c.tree.fork i c.tree.length n a b k sig)).journal.take kk)) = .ok (c', j) →
      Reach C bs pk fork (c', (d.applyAll ((c.verifyAndApply C d (BlockGrowGen.honestNewBlock C bs c.tree.fork i c.tree.length n a b k sig)).journal.take kk)).applyAll j)

/-- **every reachable state satisfies the replica invariant and the ghost invariant** -/
theorem reach_rp (C : Crypto) (hC : HashWF C) (hT : TreeWF C) (bs : Array Bytes) (pk : Bytes) (fork : Nat) (s : Core × Disk)
    (h : Reach C bs pk fork s) : ∃ m held, RP C bs m s.1 s.2 held ∧ s.1.publicKey = pk ∧ s.1.tree.fork = fork := by
  induction h with
  | start c d m held hrp hpk hfk => exact ⟨m, held, hrp, hpk, hfk⟩
  | reopen c d c' j _ hopen ih =>
    obtain ⟨m, held, hrp, rfl, rfl⟩ := ih
    exact ⟨m, held, durR_opened C bs m held d _ _ (rp_durR C bs m c d held hrp) c' j hopen⟩
  | first c d n sig _ hlen0 h0 hn hsl hver ih =>
    exact (exch_first C hC hT bs pk fork c d ih n sig hlen0 h0 hn hsl hver).step
  | crashFirst c d n sig k c' j _ hlen0 h0 hn hsl hver hopen ih =>
    exact (exch_first C hC hT bs pk fork c d ih n sig hlen0 h0 hn hsl hver).crash k c' j hopen
  | act c d a _ hm0 hok ih =>
    exact (exch_act C hC hT bs pk fork c d ih a hm0 hok).step
  | crash c d a k c' j _ hm0 hok hopen ih =>
    exact (exch_act C hC hT bs pk fork c d ih a hm0 hok).crash k c' j hopen
  | blockGrow c d i n us sig _ hm0 hmn hn hup hsl hver hi ih =>
    exact (exch_blockGrow C hC hT bs pk fork c d ih i n us sig hm0 hmn hn hup hsl hver hi).step
  | crashBlockGrow c d i n us sig k c' j _ hm0 hmn hn hup hsl hver hi hopen ih =>
    exact (exch_blockGrow C hC hT bs pk fork c d ih i n us sig hm0 hmn hn hup hsl hver hi).crash k c' j hopen
  | newBlock c d i n us a b k sig _ hm0 hmn hn hup hmi hi hsplit hsl hver ih =>
    exact (exch_newBlock C hC hT bs pk fork c d ih i n us a b k sig hm0 hmn hn hup hmi hi hsplit hsl hver).step
  | crashNewBlock c d i n us a b k sig kk c' j _ hm0 hmn hn hup hmi hi hsplit hsl hver hopen ih =>
    exact (exch_newBlock C hC hT bs pk fork c d ih i n us a b k sig hm0 hmn hn hup hmi hi hsplit hsl hver).crash kk c' j hopen

end HC.ReplicaCrash
