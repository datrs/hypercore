import HC.Proofs.BlockUpgrade
/-!
A block of the **new part** together with an upgrade in one proof (C03, tree level) — the usual shape of a download:
"send me block `i ≥ m` and upgrade me from `m`".  The writer sends the block with its sibling path up to the node of the
upgrade's position list that contains it and leaves that node out of the upgrade section.  On the replica `verify_tree`
recomputes the node and hands it to `verify_upgrade` as the *extra* node of its queue, where it is taken exactly when its
turn comes: `Rel` / `shift_rel` / `growLoop_rel` / `upgradeRoots_rel` simulate the run on the plain queue (all nodes in
the list) by the run with one node in the extra slot; `verifyUpgrade_addOld` shows that the upgrade does not look at the
nodes the block climb has already recorded.
-/
namespace HC.BlockNew
open HC HC.Codec HC.Flat HC.Tree HC.RefTree HC.RefProof HC.Sound HC.Offsets HC.TreeStore HC.Complete HC.UpgradeSound HC.Pow2
  HC.Replica HC.Growth HC.HashReq HC.BlockUpgrade

/-! ### `verify_upgrade` does not look at the nodes already recorded in the changeset -/

def addOld (r : List Node) (cs : Changeset) : Changeset := { cs with rnodes := cs.rnodes ++ r }

theorem addOld_path_nodes (C : Crypto) (bs : Array Bytes) (i k : Nat) (cs : Changeset) :
    (addOld (upPath C bs 0 i k ++ [nodeAt C bs 0 i]) cs).nodes = (nodeAt C bs 0 i :: downPath C bs 0 i k) ++ cs.nodes := by
  rw [Changeset.nodes, Changeset.nodes, addOld, List.reverse_append, path_reverse]

/-- the path's `2 k + 1` nodes on top of what `cs` has recorded (`R + 0 + 2 * u` is the bound in the shape
    `grow_upgrade_accepted` gives it: roots, no earlier nodes, two per position) -/
theorem addOld_path_count (C : Crypto) (bs : Array Bytes) (i k : Nat) (cs : Changeset) (R u : Nat) (hR : R ≤ 64)
    (hcs : cs.rnodes.length ≤ R + 0 + 2 * u) :
    (addOld (upPath C bs 0 i k ++ [nodeAt C bs 0 i]) cs).nodes.length ≤ 64 + 2 * u + (2 * k + 1) := by
  have hlen : (addOld (upPath C bs 0 i k ++ [nodeAt C bs 0 i]) cs).nodes.length = cs.rnodes.length + (2 * k + 1) := by
    rw [Changeset.nodes, List.length_reverse, addOld, List.length_append, List.length_append, upPath_length]
    rfl
  omega

theorem appendRoot_addOld (C : Crypto) (r : List Node) (cs : Changeset) (n : Node) (it : Iter) :
    appendRoot C (addOld r cs) n it = (addOld r (appendRoot C cs n it).1, (appendRoot C cs n it).2) := by
  simp only [appendRoot, addOld]
  rw [← List.cons_append, mergeLoop_addOld]

/-- with no additional nodes, an accepted upgrade is its root loop followed by the signature check -/
theorem verifyUpgrade_noadd_ok_iff (C : Crypto) (fork : Nat) (u : DataUpgrade) (x : Option Node) (pk : Bytes) (cs : Changeset)
    (hadd : u.additionalNodes = []) (c : Bool) (cs' : Changeset) :
    verifyUpgrade C fork u x pk cs = .ok (c, cs') ↔
      ∃ st, upgradeRoots C (2 * (u.start + u.length)) (2 * (u.start + u.length) + 2)
            ⟨cs, Iter.new 0, NodeQueue.new u.nodes x, 0, !cs.roots.isEmpty⟩ = .ok st
        ∧ st.cs.roots ≠ [] ∧ u.signature.length = 64
        ∧ C.verify pk (signable (rootsHash C st.cs.roots) st.cs.length fork) u.signature = true
        ∧ c = st.q.extra.isNone
        ∧ cs' = { st.cs with fork := fork, hash := some (rootsHash C st.cs.roots), signature := some u.signature } := by
  rw [verifyUpgrade_ok_iff]
  simp only [hadd, extraSiblings_nil, extraRest_nil]
  constructor
  · rintro ⟨st, last, y, hst, hl, hy, r⟩
    cases hy
    exact ⟨st, hst, (fun e => by rw [e] at hl; cases hl), r⟩
  · rintro ⟨st, hst, hne, r⟩
    exact ⟨st, _, _, hst, List.getLast?_eq_some_getLast hne, rfl, r⟩

/-- **the upgrade does not depend on the nodes the block climb has recorded**: with other old nodes in the changeset
    it gives the same answer and the same changeset with those nodes behind -/
theorem verifyUpgrade_addOld (C : Crypto) (r : List Node) (fork : Nat) (u : DataUpgrade) (x : Option Node) (pk : Bytes) (cs : Changeset)
    (hadd : u.additionalNodes = []) (c : Bool) (cs' : Changeset) (h : verifyUpgrade C fork u x pk cs = .ok (c, cs')) :
    verifyUpgrade C fork u x pk (addOld r cs) = .ok (c, addOld r cs') := by
  obtain ⟨st, hst, hne, h64, hv, hc, rfl⟩ := (verifyUpgrade_noadd_ok_iff C fork u x pk cs hadd c cs').mp h
  -- the two runs take the same nodes from the same queue, and `append_root` carries `r` along
  obtain ⟨_, _, h₂, rfl, rfl⟩ := upgradeRoots_both C (fun cs q cs₂ q₂ => cs₂ = addOld r cs ∧ q₂ = q)
    (fun _ _ _ _ hS => by rw [hS.1]; rfl)
    (fun cs q cs₂ q₂ i n q' it hS hs => by
      obtain ⟨rfl, rfl⟩ := hS
      rw [appendRoot_addOld]
      exact ⟨q', hs, rfl, rfl, rfl⟩)
    _ _ _ st (addOld r cs) _ hst ⟨rfl, rfl⟩
  exact (verifyUpgrade_noadd_ok_iff C fork u x pk (addOld r cs) hadd c _).mpr
    ⟨{ st with cs := addOld r st.cs }, h₂, hne, h64, hv, hc, rfl⟩

/-! ### an extra node that is asked for exactly when its turn comes -/

/-- `qx` is the plain queue `q` with one node `x` moved into the extra slot (`x` not yet asked for), or `x` has been taken
    and both are the same plain queue -/
def Rel (x : Node) (q qx : NodeQueue) : Prop :=
  (∃ a b, q.nodes = a ++ x :: b ∧ qx.nodes = a ++ b ∧ qx.extra = some x ∧ q.extra = none ∧ ∀ n ∈ a, n.index ≠ x.index)
    ∨ (qx.nodes = q.nodes ∧ qx.extra = none ∧ q.extra = none)

theorem rel_plain_extra (x : Node) (q qx : NodeQueue) (h : Rel x q qx) : q.extra = none := by
  rcases h with ⟨_, _, _, _, _, h4, _⟩ | ⟨_, _, h3⟩
  · exact h4
  · exact h3

theorem shift_rel (x : Node) (q qx : NodeQueue) (h : Rel x q qx) (idx : Nat) (n : Node) (q' : NodeQueue)
    (hs : q.shift idx = .ok (n, q')) :
    ∃ qx', qx.shift idx = .ok (n, qx') ∧ Rel x q' qx' ∧ q'.nodes.length + 1 = q.nodes.length := by
  obtain ⟨ns, hn, hi, rfl⟩ := shift_plain_ok (rel_plain_extra x q qx h) hs
  have hlen : ns.length + 1 = q.nodes.length := by rw [hn]; rfl
  rcases h with ⟨a, b, h1, h2, h3, h4, h5⟩ | ⟨h1, h2, h3⟩
  · rw [h1] at hn
    cases a with
    | nil =>
      -- `x` is at the head of the plain queue: its turn has come
      obtain ⟨rfl, rfl⟩ := List.cons.inj hn
      exact ⟨_, shift_of_extra qx x idx h3 hi, Or.inr ⟨h2, rfl, h4⟩, hlen⟩
    | cons n0 a' =>
      obtain ⟨rfl, rfl⟩ := List.cons.inj hn
      have hx : ∀ e, qx.extra = some e → e.index ≠ idx := by
        intro e he
        rw [h3] at he
        cases he
        rw [← hi]
        exact fun e => h5 n0 (List.mem_cons_self ..) e.symm
      exact ⟨_, shift_of_head qx n0 (a' ++ b) idx hx h2 hi,
        Or.inl ⟨a', b, rfl, rfl, h3, h4, fun m hm => h5 m (List.mem_cons_of_mem _ hm)⟩, hlen⟩
  · exact ⟨_, shift_of_head qx n ns idx (fun e he => by rw [h2] at he; cases he) (by rw [h1, hn]) hi,
      Or.inr ⟨rfl, h2, h3⟩, hlen⟩

theorem rel_count (x : Node) (q qx : NodeQueue) (h : Rel x q qx) : qx.count = q.nodes.length := by
  unfold NodeQueue.count
  rcases h with ⟨a, b, h1, h2, h3, _, _⟩ | ⟨h1, h2, _⟩
  · rw [h1, h2, h3]
    simp only [List.length_append, List.length_cons, Option.isSome_some, ite_true]
    omega
  · rw [h1, h2]
    rfl

theorem growLoop_rel (C : Crypto) (x : Node) (rootIndex : Nat) : ∀ (fuel : Nat) (cs : Changeset) (it : Iter) (q qx : NodeQueue)
    (cs' : Changeset) (it' : Iter) (q' : NodeQueue), Rel x q qx →
    growLoop C rootIndex fuel cs it q = .ok (cs', it', q') → ∀ fuel', q.nodes.length + 1 ≤ fuel' →
    ∃ qx', growLoop C rootIndex fuel' cs it qx = .ok (cs', it', qx') ∧ Rel x q' qx' := by
  intro fuel cs it q qx cs' it' q' hw h fuel' hf
  obtain ⟨qx', hx, hw'⟩ := growLoop_queues C (Rel x)
    (fun q q₂ i n q' hQ hs => by obtain ⟨qx', h1, h2, _⟩ := shift_rel x q q₂ hQ i n q' hs; exact ⟨qx', h1, h2⟩)
    rootIndex fuel cs it q qx cs' it' q' hw h
  exact ⟨qx', growLoop_fuel C rootIndex fuel fuel' cs it qx _ hx (by rw [rel_count x q qx hw]; omega), hw'⟩

theorem upgradeRoots_rel (C : Crypto) (x : Node) (upto : Nat) : ∀ (fuel : Nat) (cs : Changeset) (it0 : Iter) (q qx : NodeQueue) (i : Nat) (g : Bool)
    (st' : UpState), Rel x q qx →
    upgradeRoots C upto fuel ⟨cs, it0, q, i, g⟩ = .ok st' →
    ∃ stx', upgradeRoots C upto fuel ⟨cs, it0, qx, i, g⟩ = .ok stx' ∧ Rel x st'.q stx'.q ∧ stx'.cs = st'.cs :=
  fun fuel cs it0 q qx i g st' =>
    upgradeRoots_queues C (Rel x)
      (fun q q₂ i n q' hQ hs => by obtain ⟨qx', h1, h2, _⟩ := shift_rel x q q₂ hQ i n q' hs; exact ⟨qx', h1, h2⟩)
      upto fuel cs it0 q qx i g st'

/-- **an upgrade node handed over as the extra node**: if the plain upgrade consumes all its nodes, then with one of them
    (of an index no earlier node has) waiting in the extra slot instead, the upgrade gives the same changeset and reports
    the extra node as consumed (`hst` names the final state of the plain root loop so that `hempty` can speak of it;
    `h` is the accepted plain upgrade) -/
theorem verifyUpgrade_consumed (C : Crypto) (fork : Nat) (u : DataUpgrade) (x : Node) (pk : Bytes) (cs cs' : Changeset) (a b : List Node)
    (hn : u.nodes = a ++ x :: b) (hd : ∀ n ∈ a, n.index ≠ x.index) (hadd : u.additionalNodes = []) (st : UpState)
    (hst : upgradeRoots C (2 * (u.start + u.length)) (2 * (u.start + u.length) + 2) ⟨cs, Iter.new 0, NodeQueue.new u.nodes none, 0, !cs.roots.isEmpty⟩ = .ok st)
    (hempty : st.q.nodes = []) (c : Bool) (h : verifyUpgrade C fork u none pk cs = .ok (c, cs')) :
    verifyUpgrade C fork { u with nodes := a ++ b } (some x) pk cs = .ok (true, cs') := by
  obtain ⟨st0, hst0, hne, h64, hv, _, rfl⟩ := (verifyUpgrade_noadd_ok_iff C fork u none pk cs hadd c cs').mp h
  rw [hst] at hst0
  cases hst0
  obtain ⟨stx, hstx, hwx, hcs⟩ := upgradeRoots_rel C x _ _ cs (Iter.new 0) (NodeQueue.new u.nodes none)
    (NodeQueue.new (a ++ b) (some x)) 0 (!cs.roots.isEmpty) st (Or.inl ⟨a, b, hn, rfl, rfl, rfl, hd⟩) hst
  have hdone : stx.q.extra = none := by
    rcases hwx with ⟨a', b', h1, _⟩ | ⟨_, h2, _⟩
    · rw [hempty] at h1
      exact absurd h1 (by simp)
    · exact h2
  refine (verifyUpgrade_noadd_ok_iff C fork { u with nodes := a ++ b } (some x) pk cs hadd true _).mpr
    ⟨stx, hstx, ?_, h64, ?_, ?_, ?_⟩
  · rw [hcs]; exact hne
  · rw [hcs]; exact hv
  · rw [hdone]; rfl
  · rw [hcs]

/-- an upgrade (without additional nodes) whose root loop empties the queue has recorded every node it was sent -/
theorem verifyUpgrade_records (C : Crypto) (fork : Nat) (u : DataUpgrade) (pk : Bytes) (cs : Changeset) (hadd : u.additionalNodes = [])
    (st : UpState)
    (hst : upgradeRoots C (2 * (u.start + u.length)) (2 * (u.start + u.length) + 2) ⟨cs, Iter.new 0, NodeQueue.new u.nodes none, 0, !cs.roots.isEmpty⟩ = .ok st)
    (hempty : st.q.nodes = []) (c : Bool) (cs' : Changeset) (h : verifyUpgrade C fork u none pk cs = .ok (c, cs')) :
    ∀ n ∈ u.nodes, n ∈ cs'.rnodes := by
  obtain ⟨st0, hst0, _, _, _, _, rfl⟩ := (verifyUpgrade_noadd_ok_iff C fork u none pk cs hadd c cs').mp h
  rw [hst] at hst0
  cases hst0
  -- a node sent is still queued or already recorded: `shift` takes the head, `append_root` records it
  have hP := upgradeRoots_inv C (fun cs q => q.extra = none ∧ ∀ n ∈ u.nodes, n ∈ q.nodes ∨ n ∈ cs.rnodes)
    (fun cs q i n q' it hp hs => by
      obtain ⟨ns, hn, _, rfl⟩ := shift_plain_ok hp.1 hs
      obtain ⟨U, hU⟩ := appendRoot_pushes C cs n it
      refine ⟨hp.1, fun y hy => ?_⟩
      rw [hU]
      rcases hp.2 y hy with hq | hr
      · rw [hn] at hq
        rcases List.mem_cons.mp hq with rfl | hq
        · exact Or.inr (List.mem_append_right _ (List.mem_cons_self ..))
        · exact Or.inl hq
      · exact Or.inr (List.mem_append_right _ (List.mem_cons_of_mem _ hr)))
    _ _ _ st hst ⟨rfl, fun n hn => Or.inl hn⟩
  intro n hn
  rcases hP.2 n hn with hq | hr
  · rw [hempty] at hq; cases hq
  · exact hr

/-- in a cover, everything before an element ends where that element starts, or earlier -/
theorem cover_before : ∀ (a : List (Nat × Nat)) (p : Nat × Nat) (b : List (Nat × Nat)) (s e : Nat), Cover (a ++ p :: b) s e →
    ∀ q ∈ a, (q.2 + 1) * 2 ^ q.1 ≤ p.2 * 2 ^ p.1 := by
  intro a
  induction a with
  | nil => intro p b s e _ q hq; cases hq
  | cons r a ih =>
    intro p b s e hc q hq
    obtain ⟨d, o⟩ := r
    rcases List.mem_cons.mp hq with rfl | hq
    · exact hc.tail.lower p (List.mem_append_right _ List.mem_cons_self)
    · exact ih p b _ e hc.tail q hq

theorem insertAll_two_orders (C : Crypto) (bs : Array Bytes) (u : NMap) (A B : List Node) (hA : ∀ n ∈ A, ∃ d o, n = nodeAt C bs d o)
    (hB : ∀ n ∈ B, ∃ d o, n = nodeAt C bs d o) (i : Nat) :
    (insertAll (insertAll u A) B)[i]? = (insertAll (insertAll u B) A)[i]? := by
  by_cases hb : ∃ n ∈ B, n.index = i
  · obtain ⟨y, hy, hyi, hget⟩ := insertAll_hit B (insertAll u A) i hb
    rw [hget]
    by_cases ha : ∃ n ∈ A, n.index = i
    · obtain ⟨y', hy', hyi', hget'⟩ := insertAll_hit A (insertAll u B) i ha
      rw [hget', ref_unique C bs y y' (hB y hy) (hA y' hy') (by rw [hyi, hyi'])]
    · rw [insertAll_miss A _ i (fun n hn e => ha ⟨n, hn, e⟩)]
      obtain ⟨y2, hy2, hyi2, hget2⟩ := insertAll_hit B u i hb
      rw [hget2, ref_unique C bs y y2 (hB y hy) (hB y2 hy2) (by rw [hyi, hyi2])]
  · rw [insertAll_miss B _ i (fun n hn e => hb ⟨n, hn, e⟩)]
    by_cases ha : ∃ n ∈ A, n.index = i
    · obtain ⟨y1, hy1, hyi1, hget1⟩ := insertAll_hit A u i ha
      obtain ⟨y', hy', hyi', hget'⟩ := insertAll_hit A (insertAll u B) i ha
      rw [hget1, hget', ref_unique C bs y1 y' (hA y1 hy1) (hA y' hy') (by rw [hyi1, hyi'])]
    · rw [insertAll_miss A _ i (fun n hn e => ha ⟨n, hn, e⟩), insertAll_miss A _ i (fun n hn e => ha ⟨n, hn, e⟩),
        insertAll_miss B _ i (fun n hn e => hb ⟨n, hn, e⟩)]

/-- a block path hanging on a node that the other new nodes bring, inserted *before* them: the tree is closed again -/
theorem closedAt_with_path (C : Crypto) (hC : HashWF C) (bs : Array Bytes) (n : Nat) (t : Tree) (f : File) (csg : Changeset)
    (hG : ∀ x ∈ csg.nodes, ∃ d o, x = nodeAt C bs d o) (hcl : ClosedAt C bs n (vt t csg) f)
    (i k : Nat) (hR : nodeAt C bs k (i / 2 ^ k) ∈ csg.nodes) (hin : (i / 2 ^ k + 1) * 2 ^ k ≤ n) :
    ClosedAt C bs n (vt t (addOld (upPath C bs 0 i k ++ [nodeAt C bs 0 i]) csg)) f := by
  obtain ⟨hnew, _, _⟩ := insert_lookup C hC bs t (vt t csg) f csg.nodes hG rfl
  -- the tree with the path inserted last
  obtain ⟨hc, _⟩ := hcl.insert_path hC 0 i k (by rw [Nat.zero_add]; exact hnew k _ hR) (by rw [Nat.zero_add]; exact hin)
    { vt t csg with unflushed := insertAll (vt t csg).unflushed (nodeAt C bs 0 i :: downPath C bs 0 i k) } rfl rfl
  have hP : ∀ x ∈ (nodeAt C bs 0 i :: downPath C bs 0 i k), ∃ d o, x = nodeAt C bs d o := by
    intro x hx
    obtain ⟨dd, o, e, _⟩ := Replica.pathNodes_inside C bs 0 i k _ (Nat.le_refl _) x hx
    exact ⟨dd, o, e⟩
  -- both orders store the same nodes
  refine closedAt_congr C bs n _ _ f f hc (fun j => node?_congr _ _ f j ?_) rfl
  show (insertAll t.unflushed (addOld (upPath C bs 0 i k ++ [nodeAt C bs 0 i]) csg).nodes)[j]?
    = (insertAll (insertAll t.unflushed csg.nodes) (nodeAt C bs 0 i :: downPath C bs 0 i k))[j]?
  rw [addOld_path_nodes, insertAll_append]
  exact insertAll_two_orders C bs t.unflushed _ csg.nodes hP hG j

/-! ### the honest answer to "block `i` of the new part and upgrade me from `m` to `n`" -/

/-- **an honest block + upgrade proof whose block lies in the new part passes `verify_proof`**: the block's subtree root is
    one node `(k, i / 2^k)` of the honest position list; the writer sends the block with its sibling path up to that node
    and leaves the node out of the upgrade section; the replica's block climb recomputes it, `verify_upgrade` takes it
    from the extra slot exactly when its turn comes (`verifyUpgrade_consumed`) and reports it as consumed, so no stored
    node is needed.  The changeset holds the reference roots, length and byte length of `n`, the writer's signature,
    and is commitable; every node it records is a reference node.  Stated at a given split `a ++ (k, i / 2^k) :: b`
    of the position list. -/
theorem honest_new_block_upgrade_accepted_at (C : Crypto) (hC : HashWF C) (bs : Array Bytes) (m n : Nat) (c : Core) (d : Disk) (held : Nat → Bool)
    (h : RepRAt C bs m c d held) (hm0 : 0 < m) (hmn : m < n) (hn : n ≤ bs.size) (us : List (Nat × Nat))
    (hup : Up m 0 (rootsStack n).reverse us) (sig : Bytes) (hsl : sig.length = 64)
    (hver : C.verify c.publicKey (signableAt C bs n c.tree.fork) sig = true) (i : Nat)
    (a b : List (Nat × Nat)) (k : Nat) (hsplit : us = a ++ (k, i / 2 ^ k) :: b) :
    ∃ (cs' : Changeset), ((i / 2 ^ k + 1) * 2 ^ k ≤ n ∧ m ≤ i / 2 ^ k * 2 ^ k
      ∧ c.tree.verifyProof C d.tree
          ⟨c.tree.fork, some ⟨i, bs.getD i [], sibPath C bs 0 i k⟩, none, none,
            some ⟨m, n - m, (a ++ b).map (fun p => nodeAt C bs p.1 p.2), [], sig⟩⟩ c.publicKey = .ok cs'
      ∧ cs'.roots = rootsAt C bs n ∧ cs'.length = n ∧ cs'.byteLength = psum bs n ∧ cs'.upgraded = true ∧ cs'.signature = some sig
      ∧ cs'.fork = c.tree.fork ∧ c.tree.commitable cs' = true ∧ (∀ x ∈ cs'.nodes, ∃ dd o, x = nodeAt C bs dd o ∧ (o + 1) * 2 ^ dd ≤ n)
      ∧ ClosedAt C bs n (vt c.tree cs') d.tree ∧ nodeAt C bs 0 i ∈ cs'.nodes
      ∧ cs'.ancestors = c.tree.length ∧ cs'.origLength = c.tree.length ∧ cs'.hash = some (rootsHash C cs'.roots)
      ∧ cs'.nodes.length ≤ 64 + 2 * us.length + (2 * k + 1))
      ∧ ∃ csg, cs' = addOld (upPath C bs 0 i k ++ [nodeAt C bs 0 i]) csg ∧ Inv C bs c.tree d.tree csg n ∧ nodeAt C bs k (i / 2 ^ k) ∈ csg.nodes := by
  have hN : n < 2 ^ 64 := Nat.lt_of_le_of_lt hn h.small.1
  have hcov := up_cover m n _ 0 us (cover_roots n) hup
  subst hsplit
  have hbound : (i / 2 ^ k + 1) * 2 ^ k ≤ n := hcov.bound _ (List.mem_append_right _ (List.mem_cons_self ..))
  -- the plain upgrade from the replica's own changeset, which consumes every node it is sent
  obtain ⟨csg, hvu, hinv, hfork, hsig, hupg, horigLen, horigFork, hanc, hhash, hcount, _⟩ := grow_upgrade_accepted C hC bs c.tree d.tree m n hN hm0 hmn c.tree.fork c.publicKey sig
    c.tree.changeset (inv_changeset C bs m c d held h) _ hup hsl hver
  obtain ⟨st, s1, _, s3⟩ := grow_upgradeRoots_all C hC bs c.tree d.tree m n hN hm0 hmn c.tree.changeset (inv_changeset C bs m c d held h) _ hup
  rw [← Nat.add_sub_cancel' (Nat.le_of_lt hmn)] at s1
  rw [List.map_append, List.map_cons] at hvu s1
  -- the nodes sent before the block's root end where it starts: they have other indices
  have hd : ∀ nd ∈ a.map (fun p => nodeAt C bs p.1 p.2), nd.index ≠ (nodeAt C bs k (i / 2 ^ k)).index := by
    intro nd hnd
    obtain ⟨q, hq, rfl⟩ := List.mem_map.mp hnd
    exact index_ne_of_before (cover_before a (k, i / 2 ^ k) b m n hcov q hq)
  -- with the block's root in the extra slot instead, and the block's path already recorded
  have hcons := verifyUpgrade_consumed C c.tree.fork ⟨m, n - m, _, [], sig⟩ (nodeAt C bs k (i / 2 ^ k)) c.publicKey c.tree.changeset csg
    _ _ rfl hd rfl st s1 s3 true hvu
  have hadd := verifyUpgrade_addOld C (upPath C bs 0 i k ++ [nodeAt C bs 0 i]) c.tree.fork _ _ c.publicKey c.tree.changeset rfl true csg hcons
  rw [← List.map_append] at hadd
  -- the node the block hangs on is recorded by the upgrade
  have hRin : nodeAt C bs k (i / 2 ^ k) ∈ csg.nodes := List.mem_reverse.mpr
    (verifyUpgrade_records C c.tree.fork ⟨m, n - m, _, [], sig⟩ c.publicKey c.tree.changeset rfl st s1 s3 true csg hvu _
      (List.mem_append_right _ (List.mem_cons_self ..)))
  have hnodes := addOld_path_nodes C bs i k csg
  refine ⟨addOld (upPath C bs 0 i k ++ [nodeAt C bs 0 i]) csg, ⟨hbound,
    hcov.lower _ (List.mem_append_right _ (List.mem_cons_self ..)),
    verifyProof_block_upgrade C bs c.tree d.tree c.publicKey c.tree.fork i k _ true _ hadd (Or.inl rfl),
    rootsAt_of_reverse hinv.roots, hinv.length, hinv.bytes, hupg, hsig, hfork, commitable_upgraded c.tree _ hupg horigLen horigFork, ?_,
    closedAt_with_path C hC bs n c.tree d.tree csg (inv_nodes_ref hinv) hinv.closed i k hRin hbound, ?_, hanc, horigLen, hhash, ?_⟩,
    csg, rfl, hinv, hRin⟩
  · intro x hx
    rw [hnodes] at hx
    rcases List.mem_append.mp hx with hx | hx
    · exact Replica.pathNodes_inside C bs 0 i k n (by rw [Nat.zero_add]; exact hbound) x hx
    · exact inv_nodes_bound hinv x hx
  · rw [hnodes]; exact List.mem_append_left _ (List.mem_cons_self ..)
  · exact addOld_path_count C bs i k csg _ _ (roots_length_le C bs m c d held h) hcount

/-- the block lies under exactly one node of the honest position list -/
theorem split_exists (m n : Nat) (us : List (Nat × Nat)) (hup : Up m 0 (rootsStack n).reverse us) (i : Nat) (hmi : m ≤ i) (hi : i < n) :
    ∃ (a b : List (Nat × Nat)) (k : Nat), us = a ++ (k, i / 2 ^ k) :: b := by
  have hcov := up_cover m n _ 0 us (cover_roots n) hup
  obtain ⟨p, hp, hp1, hp2⟩ := hcov.find i hmi hi
  obtain ⟨k, o⟩ := p
  simp only at hp1 hp2
  have hdiv : i / 2 ^ k = o := div_eq_of_span i k o hp1 hp2
  obtain ⟨a, b, e⟩ := List.append_of_mem hp
  exact ⟨a, b, k, by rw [hdiv]; exact e⟩

theorem honest_new_block_upgrade_accepted (C : Crypto) (hC : HashWF C) (bs : Array Bytes) (m n : Nat) (c : Core) (d : Disk) (held : Nat → Bool)
    (h : RepRAt C bs m c d held) (hm0 : 0 < m) (hmn : m < n) (hn : n ≤ bs.size) (us : List (Nat × Nat))
    (hup : Up m 0 (rootsStack n).reverse us) (sig : Bytes) (hsl : sig.length = 64)
    (hver : C.verify c.publicKey (signableAt C bs n c.tree.fork) sig = true) (i : Nat) (hmi : m ≤ i) (hi : i < n) :
    ∃ (a b : List (Nat × Nat)) (k : Nat) (cs' : Changeset), us = a ++ (k, i / 2 ^ k) :: b ∧ (i / 2 ^ k + 1) * 2 ^ k ≤ n ∧ m ≤ i / 2 ^ k * 2 ^ k
      ∧ c.tree.verifyProof C d.tree
          ⟨c.tree.fork, some ⟨i, bs.getD i [], sibPath C bs 0 i k⟩, none, none,
            some ⟨m, n - m, (a ++ b).map (fun p => nodeAt C bs p.1 p.2), [], sig⟩⟩ c.publicKey = .ok cs'
      ∧ cs'.roots = rootsAt C bs n ∧ cs'.length = n ∧ cs'.byteLength = psum bs n ∧ cs'.upgraded = true ∧ cs'.signature = some sig
      ∧ cs'.fork = c.tree.fork ∧ c.tree.commitable cs' = true ∧ (∀ x ∈ cs'.nodes, ∃ dd o, x = nodeAt C bs dd o ∧ (o + 1) * 2 ^ dd ≤ n)
      ∧ ClosedAt C bs n (vt c.tree cs') d.tree ∧ nodeAt C bs 0 i ∈ cs'.nodes
      ∧ cs'.ancestors = c.tree.length ∧ cs'.origLength = c.tree.length ∧ cs'.hash = some (rootsHash C cs'.roots)
      ∧ cs'.nodes.length ≤ 64 + 2 * us.length + (2 * k + 1) := by
  obtain ⟨a, b, k, hsplit⟩ := split_exists m n us hup i hmi hi
  obtain ⟨cs', hacc, _⟩ := honest_new_block_upgrade_accepted_at C hC bs m n c d held h hm0 hmn hn us hup sig hsl hver i a b k hsplit
  exact ⟨a, b, k, cs', hsplit, hacc⟩

end HC.BlockNew
