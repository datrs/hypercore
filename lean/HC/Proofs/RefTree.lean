import HC.Model.Tree
import HC.Spec.RefTree
import HC.Proofs.Iat
import HC.Proofs.CoreEqs
import HC.Proofs.Verify
/-!
`append_root`'s incremental merge loop computes the reference tree: positions (binary-counter
induction over the recursive root stack; `carries k m` are the parents one push creates) and node values
(merging two reference siblings yields the reference parent).  From these, `append_eq` / `append_ref` /
`commit_ref`: `append` keeps `RootsOK`.  `Growth.mem_rootsStack` (the roots of `n` leaves by the bits of `n`),
`mem_rootsStack_span` and `rootsStack_length_log` stand here, next to the root stack they speak of.
-/
namespace HC.RefProof
open HC HC.Codec HC.Flat HC.Tree HC.RefTree HC.Pow2

def lift (p : Nat × Nat) : Nat × Nat := (p.1 + 1, p.2)
def liftN (k : Nat) (p : Nat × Nat) : Nat × Nat := (p.1 + k, p.2)

theorem rootsStack_zero : rootsStack 0 = [] := by rw [rootsStack, dif_pos rfl]

theorem rootsStack_even (n : Nat) (h0 : n ≠ 0) (h : n % 2 = 0) : rootsStack n = (rootsStack (n / 2)).map lift := by
  rw [rootsStack, dif_neg h0, if_pos h]; rfl

theorem rootsStack_odd (n : Nat) (h : n % 2 = 1) : rootsStack n = (0, n - 1) :: (rootsStack (n / 2)).map lift := by
  rw [rootsStack, dif_neg (fun h0 => by rw [h0] at h; cases h), if_neg (by rw [h]; decide)]; rfl

/-- the roots of `2 q` leaves are those of `q` leaves, one level up -/
theorem rootsStack_double (q : Nat) (h : q ≠ 0) : rootsStack (2 * q) = (rootsStack q).map lift := by
  rw [rootsStack_even (2 * q) (Nat.mul_ne_zero (by decide) h) (Nat.mul_mod_right 2 q), Nat.mul_div_cancel_left q (by decide)]

theorem rootsStack_double_succ (q : Nat) : rootsStack (2 * q + 1) = (0, 2 * q) :: (rootsStack q).map lift := by
  rw [rootsStack_odd (2 * q + 1) (double_succ_mod q), Nat.add_sub_cancel, double_succ_div]

theorem map_liftN_lift (k : Nat) (l : List (Nat × Nat)) : (l.map lift).map (liftN k) = l.map (liftN (k + 1)) := by
  rw [List.map_map]
  exact List.map_congr_left fun p _ => congrArg (·, p.2) (Nat.add_right_comm p.1 1 k)

theorem not_mem_map_lift_zero (l : List (Nat × Nat)) (o : Nat) : (0, o) ∉ l.map lift := by
  intro h
  obtain ⟨p, _, hp⟩ := List.mem_map.mp h
  exact Nat.succ_ne_zero p.1 (congrArg Prod.fst hp)

theorem mem_map_lift_succ (l : List (Nat × Nat)) (d o : Nat) : (d + 1, o) ∈ l.map lift ↔ (d, o) ∈ l := by
  constructor
  · intro h
    obtain ⟨p, hp, e⟩ := List.mem_map.mp h
    rwa [show (d, o) = p from Prod.ext (Nat.succ_injective (congrArg Prod.fst e)).symm (congrArg Prod.snd e).symm]
  · exact fun h => List.mem_map.mpr ⟨(d, o), h, rfl⟩

theorem rootsStack_ne_nil (n : Nat) (h : 0 < n) : rootsStack n ≠ [] := by
  induction n using binary_induction with
  | zero => exact absurd h (Nat.lt_irrefl 0)
  | double q hq ih =>
    rw [rootsStack_double q hq, Ne, List.map_eq_nil_iff]
    exact ih (Nat.pos_of_ne_zero hq)
  | double_succ q _ => rw [rootsStack_double_succ]; exact List.cons_ne_nil _ _

end HC.RefProof

namespace HC.Growth
open HC HC.RefTree HC.RefProof HC.Complete HC.Pow2

/-- `(d, o)` is a root of an `n`-leaf tree iff bit `d` of `n` is set and `o + 1 = n >> d` -/
theorem mem_rootsStack (n : Nat) : ∀ d o, (d, o) ∈ rootsStack n ↔ o + 1 = n / 2 ^ d ∧ (n / 2 ^ d) % 2 = 1 := by
  induction n using binary_induction with
  | zero =>
    intro d o
    rw [rootsStack_zero, Nat.zero_div]
    exact ⟨fun h => absurd h List.not_mem_nil, fun h => absurd h.1 (Nat.succ_ne_zero o)⟩
  | double q hq ih =>
    intro d o
    rw [rootsStack_double q hq]
    cases d with
    | zero =>
      rw [Nat.pow_zero, Nat.div_one, Nat.mul_mod_right]
      exact ⟨fun h => absurd h (not_mem_map_lift_zero _ o), fun h => absurd h.2 (by decide)⟩
    | succ d => rw [mem_map_lift_succ, ih d o, ← div_pow_succ, Nat.mul_div_cancel_left q (by decide)]
  | double_succ q ih =>
    intro d o
    rw [rootsStack_double_succ, List.mem_cons]
    cases d with
    | zero =>
      rw [Nat.pow_zero, Nat.div_one, double_succ_mod, Prod.mk.injEq]
      exact ⟨fun h => h.elim (fun e => ⟨congrArg (· + 1) e.2, rfl⟩) (fun h => absurd h (not_mem_map_lift_zero _ o)),
        fun h => Or.inl ⟨rfl, Nat.succ_injective h.1⟩⟩
    | succ d =>
      rw [mem_map_lift_succ, ih d o, ← div_pow_succ, double_succ_div, Prod.mk.injEq]
      exact ⟨fun h => h.elim (fun e => absurd e.1 (Nat.succ_ne_zero d)) id, Or.inr⟩

end HC.Growth

namespace HC.RefProof
open HC HC.RefTree HC.Growth HC.Complete HC.Pow2 HC.Codec HC.Flat HC.Tree

/-- the roots of an `n`-leaf tree by their spans: left children whose span ends inside `n` and whose parent's does not -/
theorem mem_rootsStack_span (n d o : Nat) :
    (d, o) ∈ rootsStack n ↔ o % 2 = 0 ∧ (o + 1) * 2 ^ d ≤ n ∧ n < (o + 2) * 2 ^ d := by
  rw [mem_rootsStack]
  constructor
  · rintro ⟨h1, h2⟩
    have hle := Nat.div_mul_le_self n (2 ^ d)
    have hlt := lt_succ_div_mul n (2 ^ d) (pow_pos' d)
    rw [← h1] at hle hlt h2
    exact ⟨Nat.succ_mod_two_eq_one_iff.mp h2, hle, hlt⟩
  · rintro ⟨h0, h1, h2⟩
    rw [div_eq_of_span n d (o + 1) h1 h2]
    exact ⟨rfl, Nat.succ_mod_two_eq_one_iff.mpr h0⟩

theorem rootsStack_length_log (k : Nat) : ∀ n, n < 2 ^ k → (rootsStack n).length ≤ k := by
  intro n
  induction n using binary_induction generalizing k with
  | zero => intro _; rw [rootsStack_zero]; exact Nat.zero_le k
  | double q hq ih =>
    intro hn
    cases k with
    | zero => exact absurd hn (Nat.not_lt.mpr (Nat.mul_pos (by decide) (Nat.pos_of_ne_zero hq)))
    | succ k =>
      rw [rootsStack_double q hq, List.length_map]
      exact Nat.le_succ_of_le (ih k (Nat.lt_of_mul_lt_mul_left (pow_succ2 k ▸ hn)))
  | double_succ q ih =>
    intro hn
    cases k with
    | zero => exact absurd hn (Nat.not_lt.mpr (Nat.succ_le_succ (Nat.zero_le _)))
    | succ k =>
      rw [rootsStack_double_succ, List.length_cons, List.length_map]
      exact Nat.succ_le_succ (ih k (Nat.lt_of_mul_lt_mul_left (Nat.lt_of_succ_lt (pow_succ2 k ▸ hn))))

theorem rootsStack_bound (n : Nat) : ∀ p ∈ rootsStack n, (p.2 + 1) * 2 ^ p.1 ≤ n := by
  intro p hp
  rw [((Growth.mem_rootsStack n p.1 p.2).mp hp).1]
  exact Nat.div_mul_le_self n (2 ^ p.1)

theorem rootsStack_length_le (n : Nat) : (rootsStack n).length ≤ n :=
  rootsStack_length_log n n Nat.lt_two_pow_self

theorem rootsStack_double_succ' (q : Nat) : rootsStack (2 * q + 1) = (0, 2 * q) :: rootsStack (2 * q) := by
  rw [rootsStack_double_succ]
  by_cases h : q = 0
  · subst h; rw [Nat.mul_zero, rootsStack_zero]; rfl
  · rw [rootsStack_double q h]

theorem rootsStack_double_add_two (q : Nat) : rootsStack (2 * q + 1 + 1) = (rootsStack (q + 1)).map lift :=
  rootsStack_double (q + 1) (Nat.succ_ne_zero q)

theorem liftN_cons_zero (k o : Nat) (l : List (Nat × Nat)) : ((0, o) :: l).map (liftN k) = (k, o) :: l.map (liftN k) := by
  rw [List.map_cons, liftN, Nat.zero_add]

theorem rootsStack_double_depth (q : Nat) : ∀ p ∈ rootsStack (2 * q), p.1 ≠ 0 := by
  intro p hp h0
  have := ((Growth.mem_rootsStack (2 * q) p.1 p.2).mp hp).2
  rw [h0, Nat.pow_zero, Nat.div_one, Nat.mul_mod_right] at this
  cases this

/-- Positions of the parents that pushing the root `(k, m)` creates, deepest first: one carry for each
    trailing one bit of `m`. -/
def carries : Nat → Nat → List (Nat × Nat)
  | k, m => if m % 2 = 1 then carries (k + 1) (m / 2) ++ [(k + 1, m / 2)] else []
termination_by _ m => m
decreasing_by omega

theorem carries_double (k q : Nat) : carries k (2 * q) = [] := by
  rw [carries, if_neg (by rw [Nat.mul_mod_right]; decide)]

theorem carries_double_succ (k q : Nat) : carries k (2 * q + 1) = carries (k + 1) q ++ [(k + 1, q)] := by
  rw [carries, if_pos (double_succ_mod q), double_succ_div]

/-- the carries are the nodes above depth `k` whose span ends where the span of `(k, m)` ends -/
theorem mem_carries (m : Nat) : ∀ (k d o : Nat), (d, o) ∈ carries k m ↔ k < d ∧ (o + 1) * 2 ^ d = (m + 1) * 2 ^ k := by
  induction m using Nat.strongRecOn with
  | _ m ih =>
    intro k d o
    obtain ⟨q, rfl | rfl⟩ := bit_cases m
    · rw [carries_double]
      exact ⟨fun h => absurd h List.not_mem_nil, fun ⟨hd, he⟩ => absurd ((double_succ_mod q).symm.trans (carry_even k d o (2 * q) hd he)) (by decide)⟩
    · rw [carries_double_succ, List.mem_append, List.mem_singleton, Prod.mk.injEq, ih q (Nat.lt_succ_of_le (Nat.le_mul_of_pos_left q (by decide))), ← parent_end k q]
      constructor
      · rintro (⟨hd, he⟩ | ⟨rfl, rfl⟩)
        · exact ⟨Nat.lt_of_succ_lt hd, he⟩
        · exact ⟨Nat.lt_succ_self k, rfl⟩
      · rintro ⟨hd, he⟩
        rcases Nat.eq_or_lt_of_le (Nat.succ_le_of_lt hd) with rfl | hd'
        · exact Or.inr ⟨rfl, Nat.succ_injective (Nat.eq_of_mul_eq_mul_right (pow_pos' (k + 1)) he)⟩
        · exact Or.inl ⟨hd', he⟩

theorem carries_sorted (m : Nat) : ∀ k, (carries k m).Pairwise fun p q => q.1 < p.1 := by
  induction m using Nat.strongRecOn with
  | _ m ih =>
    intro k
    obtain ⟨q, rfl | rfl⟩ := bit_cases m
    · rw [carries_double]; exact List.Pairwise.nil
    · rw [carries_double_succ, List.pairwise_append]
      refine ⟨ih q (Nat.lt_succ_of_le (Nat.le_mul_of_pos_left q (by decide))) (k + 1), List.pairwise_singleton _ _, fun p hp r hr => ?_⟩
      rw [List.mem_singleton.mp hr]
      exact ((mem_carries q (k + 1) p.1 p.2).mp hp).1

/-- a reference node depends only on the blocks before the end of its span -/
theorem node_congr (C : Crypto) (bs bs' : Array Bytes) (d o : Nat)
    (h : ∀ i, i < (o + 1) * 2 ^ d → bs'.getD i [] = bs.getD i []) : RefTree.node C bs' d o = RefTree.node C bs d o := by
  induction d generalizing o with
  | zero => simp only [RefTree.node, h o (by rw [Nat.pow_zero, Nat.mul_one]; exact Nat.lt_succ_self o)]
  | succ d ih =>
    rw [Pow2.parent_end] at h
    simp only [RefTree.node, ih (2 * o + 1) h,
      ih (2 * o) fun i hi => h i (Nat.lt_of_lt_of_le hi (Nat.mul_le_mul_right _ (Nat.le_succ _)))]

theorem nodeAt_congr (C : Crypto) (bs bs' : Array Bytes) (d o : Nat)
    (h : ∀ i, i < (o + 1) * 2 ^ d → bs'.getD i [] = bs.getD i []) : nodeAt C bs' d o = nodeAt C bs d o := by
  rw [nodeAt, nodeAt, node_congr C bs bs' d o h]

theorem nodeAt_push (C : Crypto) (bs : Array Bytes) (b : Bytes) (d o : Nat) (h : (o + 1) * 2 ^ d ≤ bs.size) :
    nodeAt C (bs.push b) d o = nodeAt C bs d o :=
  nodeAt_congr C bs (bs.push b) d o fun i hi => by
    have : i < bs.size := Nat.lt_of_lt_of_le hi h
    simp [Array.getD_eq_getD_getElem?, Array.getElem?_push, Nat.ne_of_lt this]

/-- hashing the two children of `(d + 1, q)`, given in either order, gives the reference node `(d + 1, q)`:
    `Hash::parent` orders its arguments by index -/
theorem parent_children (C : Crypto) (bs : Array Bytes) (d q : Nat) :
    (⟨Flat.index (d + 1) q, (nodeAt C bs d (2 * q)).length + (nodeAt C bs d (2 * q + 1)).length,
        parentHash C (nodeAt C bs d (2 * q)) (nodeAt C bs d (2 * q + 1))⟩ : Node) = nodeAt C bs (d + 1) q
      ∧ (⟨Flat.index (d + 1) q, (nodeAt C bs d (2 * q + 1)).length + (nodeAt C bs d (2 * q)).length,
        parentHash C (nodeAt C bs d (2 * q + 1)) (nodeAt C bs d (2 * q))⟩ : Node) = nodeAt C bs (d + 1) q := by
  have hlt : (nodeAt C bs d (2 * q)).index < (nodeAt C bs d (2 * q + 1)).index :=
    index_lt_of_offset_lt d _ _ (Nat.lt_succ_self _)
  constructor
  · rw [parentHash, if_pos (Nat.le_of_lt hlt)]; rfl
  · rw [parentHash, if_neg (Nat.not_le_of_lt hlt), Nat.add_comm (nodeAt C bs d (2 * q + 1)).length]; rfl

/-- no root at the depth of the new one: nothing merges -/
theorem mergeLoop_keep (C : Crypto) (bs : Array Bytes) (fuel k m : Nat) (l : List (Nat × Nat)) (rn : List Node)
    (hl : ∀ p ∈ l, p.1 ≠ k) :
    mergeLoop C (fuel + 1) (nodeAt C bs k m :: l.map fun p => nodeAt C bs p.1 p.2) rn (iat k m)
      = (nodeAt C bs k m :: l.map fun p => nodeAt C bs p.1 p.2, rn, iat k m) := by
  cases l with
  | nil => exact mergeLoop_single C _ _ _ _
  | cons b rest =>
    have hne : (iat k m).sibling.index ≠ (nodeAt C bs b.1 b.2).index := by
      rw [RefProof.iat_sibling]
      exact fun e => hl b (List.mem_cons_self ..) (RefProof.index_inj _ _ _ _ e).1.symm
    rw [List.map_cons, mergeLoop_nomerge C fuel _ _ _ _ _ hne, RefProof.iat_sibling_sibling]

/-- the left sibling of the new root is the previous root: the two merge into their parent, one level up -/
theorem mergeLoop_carry (C : Crypto) (bs : Array Bytes) (fuel k q : Nat) (rest rn : List Node) :
    mergeLoop C (fuel + 1) (nodeAt C bs k (2 * q + 1) :: nodeAt C bs k (2 * q) :: rest) rn (iat k (2 * q + 1))
      = mergeLoop C fuel (nodeAt C bs (k + 1) q :: rest) (nodeAt C bs (k + 1) q :: rn) (iat (k + 1) q) := by
  have hsib : (iat k (2 * q + 1)).sibling = iat k (2 * q) := iat_sibling_odd k (2 * q + 1) (double_succ_mod q)
  rw [mergeLoop_merge C fuel _ _ _ _ _ (by rw [hsib]; rfl), hsib, iat_parent_even, iat_index, (parent_children C bs k q).2]

/-- Binary-counter step on the positions.  The new root `(k, m)` sits on top of the stack of an `m`-leaf tree
    lifted by `k`; the loop leaves the lifted stack of an `(m+1)`-leaf tree, records the carries, and the
    iterator ends on the top root. -/
theorem mergeLoop_carries (C : Crypto) (bs : Array Bytes) (m : Nat) : ∀ (k fuel : Nat) (rn : List Node),
    (rootsStack m).length < fuel →
      ∃ top, ((rootsStack (m + 1)).map (liftN k)).head? = some top ∧
        mergeLoop C fuel (nodeAt C bs k m :: ((rootsStack m).map (liftN k)).map (fun p => nodeAt C bs p.1 p.2)) rn (iat k m)
          = (((rootsStack (m + 1)).map (liftN k)).map (fun p => nodeAt C bs p.1 p.2),
              (carries k m).map (fun p => nodeAt C bs p.1 p.2) ++ rn, iat top.1 top.2) := by
  induction m using Nat.strongRecOn with
  | _ m ih =>
    intro k fuel rn hf
    obtain ⟨fuel, rfl⟩ := Nat.exists_eq_add_one_of_ne_zero (Nat.ne_of_gt (Nat.zero_lt_of_lt hf))
    obtain ⟨q, rfl | rfl⟩ := bit_cases m
    · rw [rootsStack_double_succ', liftN_cons_zero, carries_double, mergeLoop_keep]
      · exact ⟨(k, 2 * q), rfl, rfl⟩
      · intro p hp
        obtain ⟨r, hr, rfl⟩ := List.mem_map.mp hp
        exact fun e => rootsStack_double_depth q r hr (Nat.add_right_cancel (e.trans (Nat.zero_add k).symm))
    · rw [rootsStack_double_succ, List.length_cons, List.length_map] at hf
      obtain ⟨top, htop, hrec⟩ := ih q (Nat.lt_succ_of_le (Nat.le_mul_of_pos_left q (by decide))) (k + 1) fuel (nodeAt C bs (k + 1) q :: rn)
        (Nat.lt_of_succ_lt_succ hf)
      rw [rootsStack_double_add_two, rootsStack_double_succ, liftN_cons_zero, map_liftN_lift, map_liftN_lift,
        carries_double_succ, List.map_cons, mergeLoop_carry, hrec, List.map_append, List.append_assoc]
      exact ⟨top, htop, rfl⟩

/-- `mergeLoop_carries` with the carries described instead of named: `added` holds exactly the reference nodes above
    depth `k` whose span ends with that of `(k, m)`, and (last conjunct) lists them highest first, the order in which
    the replica's node list receives them. -/
theorem mergeLoop_ref_eq (C : Crypto) (bs : Array Bytes) (m : Nat) :
    ∀ (k fuel : Nat) (rn : List Node), (rootsStack m).length < fuel →
      ∃ (added : List Node) (top : Nat × Nat),
        mergeLoop C fuel (nodeAt C bs k m :: ((rootsStack m).map (liftN k)).map (fun p => nodeAt C bs p.1 p.2)) rn (iat k m)
          = (((rootsStack (m + 1)).map (liftN k)).map (fun p => nodeAt C bs p.1 p.2), added ++ rn, iat top.1 top.2)
        ∧ (∀ n ∈ added, ∃ d o, n = nodeAt C bs d o ∧ (o + 1) * 2 ^ d = (m + 1) * 2 ^ k ∧ k < d)
        ∧ ((rootsStack (m + 1)).map (liftN k)).head? = some top
        ∧ (∀ d o, k < d → (o + 1) * 2 ^ d = (m + 1) * 2 ^ k → nodeAt C bs d o ∈ added)
        ∧ (∀ (a b : List Node) (x : Node), added = a ++ x :: b → ∀ y ∈ a, ∃ dx ox dy oy, x = nodeAt C bs dx ox ∧ y = nodeAt C bs dy oy ∧ dx < dy) := by
  intro k fuel rn hf
  obtain ⟨top, htop, hrun⟩ := mergeLoop_carries C bs m k fuel rn hf
  refine ⟨(carries k m).map fun p => nodeAt C bs p.1 p.2, top, hrun, ?_, htop, ?_, ?_⟩
  · intro n hn
    obtain ⟨p, hp, rfl⟩ := List.mem_map.mp hn
    obtain ⟨hd, he⟩ := (mem_carries m k p.1 p.2).mp hp
    exact ⟨p.1, p.2, rfl, he, hd⟩
  · intro d o hd he
    exact List.mem_map.mpr ⟨(d, o), (mem_carries m k d o).mpr ⟨hd, he⟩, rfl⟩
  · intro a b x hsplit y hy
    obtain ⟨l₁, l₂, hl, rfl, h2⟩ := List.map_eq_append_iff.mp hsplit
    obtain ⟨p, l₃, rfl, rfl, _⟩ := List.map_eq_cons_iff.mp h2
    obtain ⟨q, hq, rfl⟩ := List.mem_map.mp hy
    have hs := carries_sorted m k
    rw [hl] at hs
    exact ⟨p.1, p.2, q.1, q.2, rfl, rfl, (List.pairwise_append.mp hs).2.2 q hq p (List.mem_cons_self ..)⟩

/-- the changeset's roots are the reference roots of the block list `bs` -/
structure RootsOK (C : Crypto) (bs : Array Bytes) (cs : Changeset) : Prop where
  length : cs.length = bs.size
  roots : cs.roots.reverse = (rootsStack bs.size).map (fun p => nodeAt C bs p.1 p.2)
  bytes : cs.byteLength = (bs.toList.map List.length).sum

theorem liftN_zero (l : List (Nat × Nat)) : l.map (liftN 0) = l := by
  induction l with
  | nil => rfl
  | cons p ps ih => rw [List.map_cons, ih]; rfl

theorem nodeAt_leaf_push (C : Crypto) (bs : Array Bytes) (b : Bytes) :
    nodeAt C (bs.push b) 0 bs.size = ⟨bs.size * 2, b.length, C.leaf b⟩ := by
  simp [nodeAt, RefTree.node, Flat.index, Array.getD_eq_getD_getElem?]

theorem roots_push (C : Crypto) (bs : Array Bytes) (b : Bytes) :
    (rootsStack bs.size).map (fun p => nodeAt C (bs.push b) p.1 p.2) = (rootsStack bs.size).map (fun p => nodeAt C bs p.1 p.2) := by
  apply List.map_congr_left
  intro p hp
  exact nodeAt_push C bs b p.1 p.2 (rootsStack_bound bs.size p hp)

theorem appendRoot_fst (C : Crypto) (cs : Changeset) (n : Node) (it : Iter) :
    (appendRoot C cs n it).1 =
      { cs with upgraded := true, length := cs.length + it.factor / 2, byteLength := cs.byteLength + n.length,
                roots := (mergeLoop C (cs.roots.length + 1) (n :: cs.roots.reverse) (n :: cs.rnodes) it).1.reverse,
                rnodes := (mergeLoop C (cs.roots.length + 1) (n :: cs.roots.reverse) (n :: cs.rnodes) it).2.1 } := rfl

/-- `append` on a changeset that holds the reference roots of `bs`, in closed form: the new roots are the
    reference roots of the longer log, the new nodes are the leaf and the carries above it -/
theorem append_eq (C : Crypto) (bs : Array Bytes) (cs : Changeset) (b : Bytes) (h : RootsOK C bs cs) :
    Tree.append C cs b =
      { cs with upgraded := true, length := bs.size + 1, byteLength := cs.byteLength + b.length,
                batchLength := cs.batchLength + 1,
                roots := ((rootsStack (bs.size + 1)).map fun p => nodeAt C (bs.push b) p.1 p.2).reverse,
                rnodes := (carries 0 bs.size).map (fun p => nodeAt C (bs.push b) p.1 p.2)
                  ++ nodeAt C (bs.push b) 0 bs.size :: cs.rnodes } := by
  have hfuel : (rootsStack bs.size).length < cs.roots.length + 1 := by
    have := congrArg List.length h.roots
    rw [List.length_reverse, List.length_map] at this
    exact this ▸ Nat.lt_succ_self _
  obtain ⟨top, _, hm⟩ := mergeLoop_carries C (bs.push b) bs.size 0 (cs.roots.length + 1)
    (nodeAt C (bs.push b) 0 bs.size :: cs.rnodes) hfuel
  rw [liftN_zero, liftN_zero, roots_push C bs b, ← h.roots, nodeAt_leaf_push, ← h.length, ← new_even'] at hm
  rw [Tree.append, appendRoot_fst, hm, new_even', iat_factor_half, h.length, Nat.pow_zero, nodeAt_leaf_push]

/-- C05, one block: appending a block to a changeset whose roots are the reference roots of `bs`
    yields the reference roots of `bs ++ [b]`; every node it adds is a reference node of the longer log. -/
theorem append_ref (C : Crypto) (bs : Array Bytes) (cs : Changeset) (b : Bytes) (h : RootsOK C bs cs) :
    RootsOK C (bs.push b) (Tree.append C cs b)
      ∧ ∃ added, (Tree.append C cs b).rnodes = added ++ cs.rnodes
          ∧ (∀ n ∈ added, ∃ d o, n = nodeAt C (bs.push b) d o ∧ (o + 1) * 2 ^ d ≤ bs.size + 1)
          ∧ (∀ d o, (o + 1) * 2 ^ d = bs.size + 1 → nodeAt C (bs.push b) d o ∈ added) := by
  rw [append_eq C bs cs b h]
  refine ⟨⟨(Array.size_push ..).symm, by rw [List.reverse_reverse, Array.size_push], ?_⟩,
    (carries 0 bs.size).map (fun p => nodeAt C (bs.push b) p.1 p.2) ++ [nodeAt C (bs.push b) 0 bs.size],
    by rw [List.append_assoc]; rfl, ?_, ?_⟩
  · simp [h.bytes]
  · intro n hn
    rcases List.mem_append.mp hn with hn | hn
    · obtain ⟨p, hp, rfl⟩ := List.mem_map.mp hn
      exact ⟨p.1, p.2, rfl, by rw [((mem_carries bs.size 0 p.1 p.2).mp hp).2, Nat.pow_zero, Nat.mul_one]⟩
    · exact ⟨0, bs.size, List.mem_singleton.mp hn, by rw [Nat.pow_zero, Nat.mul_one]⟩
  · intro d o he
    cases d with
    | zero =>
      rw [Nat.pow_zero, Nat.mul_one] at he
      rw [Nat.succ_injective he]
      exact List.mem_append_right _ (List.mem_singleton_self _)
    | succ d =>
      refine List.mem_append_left _ (List.mem_map.mpr ⟨(d + 1, o), ?_, rfl⟩)
      exact (mem_carries bs.size 0 (d + 1) o).mpr ⟨Nat.succ_pos d, by rw [he, Nat.pow_zero, Nat.mul_one]⟩

theorem rootsOK_empty (C : Crypto) (fork : Nat) :
    RootsOK C #[] { length := 0, ancestors := 0, byteLength := 0, fork := fork, roots := [], origLength := 0, origFork := fork } :=
  ⟨rfl, by simp [rootsStack_zero], rfl⟩

theorem append_cons_toArray (bs : Array Bytes) (b : Bytes) (rest : List Bytes) :
    bs ++ (b :: rest).toArray = bs.push b ++ rest.toArray := by
  apply Array.ext'
  simp

/-- C05, any batch: folding `append` over a batch keeps the invariant -/
theorem appendMany_ref (C : Crypto) (batch : List Bytes) (bs : Array Bytes) (cs : Changeset) (h : RootsOK C bs cs) :
    RootsOK C (bs ++ batch.toArray) (batch.foldl (Tree.append C) cs) := by
  induction batch generalizing bs cs with
  | nil => exact Array.append_empty (xs := bs) ▸ h
  | cons b rest ih =>
    rw [append_cons_toArray]
    exact ih (bs.push b) (Tree.append C cs b) (append_ref C bs cs b h).1

/-- a batch keeps the safeguards of `changeset()` and, unless it is empty, marks the changeset as upgraded -/
theorem appendMany_meta (C : Crypto) (l : List Bytes) : ∀ (cs : Changeset),
    (l.foldl (Tree.append C) cs).origLength = cs.origLength ∧ (l.foldl (Tree.append C) cs).origFork = cs.origFork
      ∧ (l.foldl (Tree.append C) cs).ancestors = cs.ancestors ∧ (l.foldl (Tree.append C) cs).fork = cs.fork
      ∧ (l ≠ [] → (l.foldl (Tree.append C) cs).upgraded = true) := by
  induction l with
  | nil => exact fun cs => ⟨rfl, rfl, rfl, rfl, fun h => absurd rfl h⟩
  | cons x xs ih =>
    intro cs
    obtain ⟨a1, a2, a3, a4, a5⟩ := ih (Tree.append C cs x)
    refine ⟨a1, a2, a3, a4, fun _ => ?_⟩
    cases xs with
    | nil => rfl
    | cons y ys => exact a5 (List.cons_ne_nil y ys)

/-- committing the changeset of a non-empty batch gives a tree with the reference roots of the
    extended block list -/
theorem commit_ref (C : Crypto) (bs : Array Bytes) (t : Tree) (batch : List Bytes) (seed : Bytes)
    (hne : batch ≠ []) (h : RootsOK C bs t.changeset) :
    ∃ t', t.commit (hashAndSign C (batch.foldl (Tree.append C) t.changeset) seed) = .ok t'
      ∧ RootsOK C (bs ++ batch.toArray) t'.changeset := by
  have hb := appendMany_ref C batch bs t.changeset h
  obtain ⟨k1, k2, k3, _, k5⟩ := appendMany_meta C batch t.changeset
  generalize batch.foldl (Tree.append C) t.changeset = cs at hb k1 k2 k3 k5
  have hup : (hashAndSign C cs seed).upgraded = true := k5 hne
  have hc : t.commitable (hashAndSign C cs seed) = true := by
    rw [Tree.commitable, hup, if_pos rfl, Bool.and_eq_true, beq_iff_eq, beq_iff_eq]
    exact ⟨k2, k1⟩
  refine ⟨_, (Tree.commit_ok_iff t _ _).mpr ⟨hc, fun hp => ?_, rfl⟩, ?_⟩
  · exact absurd hp.2 (by rw [show (hashAndSign C cs seed).ancestors = (hashAndSign C cs seed).origLength from k3.trans k1.symm]
                          exact Nat.lt_irrefl _)
  · rw [if_pos hup]
    exact ⟨hb.length, hb.roots, hb.bytes⟩

end HC.RefProof

namespace HC.Growth
open HC HC.Codec HC.RefTree HC.RefProof

/-- the reference roots of the first `n` blocks, left to right -/
def rootsAt (C : Crypto) (bs : Array Bytes) (n : Nat) : List Node := (rootsStack n).reverse.map (fun p => nodeAt C bs p.1 p.2)

theorem roots_eq_rootsAt (C : Crypto) (bs : Array Bytes) : RefTree.roots C bs = rootsAt C bs bs.size := by
  simp [RefTree.roots, rootsAt]

/-- a root list kept last root first (as `append_root` and the invariants have it) -/
theorem rootsAt_of_reverse {C : Crypto} {bs : Array Bytes} {l : List Node} {n : Nat}
    (h : l.reverse = (rootsStack n).map fun p => nodeAt C bs p.1 p.2) : l = rootsAt C bs n := by
  rw [← List.reverse_reverse l, h, ← List.map_reverse]; rfl

theorem rootsAt_zero (C : Crypto) (bs : Array Bytes) : rootsAt C bs 0 = [] := by rw [rootsAt, rootsStack_zero]; rfl

theorem rootsAt_length (C : Crypto) (bs : Array Bytes) (n : Nat) : (rootsAt C bs n).length = (rootsStack n).length := by
  rw [rootsAt, List.length_map, List.length_reverse]

theorem rootsAt_inside (C : Crypto) (bs : Array Bytes) (n : Nat) :
    ∀ x ∈ rootsAt C bs n, ∃ d o, x = nodeAt C bs d o ∧ (o + 1) * 2 ^ d ≤ n := by
  intro x hx
  obtain ⟨p, hp, rfl⟩ := List.mem_map.mp hx
  exact ⟨p.1, p.2, rfl, rootsStack_bound n p (List.mem_reverse.mp hp)⟩

theorem rootsAt_mem (C : Crypto) (bs : Array Bytes) {n : Nat} {p : Nat × Nat} (hp : p ∈ rootsStack n) :
    nodeAt C bs p.1 p.2 ∈ rootsAt C bs n :=
  List.mem_map.mpr ⟨p, List.mem_reverse.mpr hp, rfl⟩

end HC.Growth

namespace HC.RefProof
open HC HC.Codec HC.RefTree HC.Growth

theorem RootsOK.roots_eq {C : Crypto} {bs : Array Bytes} {cs : Changeset} (h : RootsOK C bs cs) : cs.roots = rootsAt C bs bs.size :=
  rootsAt_of_reverse h.roots

end HC.RefProof
