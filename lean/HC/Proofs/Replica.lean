import HC.Proofs.ReplicaTree
/-!
The replica at core level (C03, "replicas converge to the writer's data"): `RepR`, the representation invariant of a
replica of the whole log, the writer's honest block answer and first-contact upgrade with the cores they lead to, and
a run of block requests.  That what is held reads back byte-identical and that applying these answers with
`verify_and_apply_proof` keeps the invariant is proved in `GrowthCore`, as the case "whole log" of the statements for a
replica of a prefix.
-/
namespace HC.Replica
open HC HC.Codec HC.Flat HC.Tree HC.RefTree HC.RefProof HC.Sound HC.Offsets HC.TreeStore HC.Complete HC.UpgradeSound HC.CreateTotal HC.Oplog

/-- representation invariant of a replica that has upgraded to the writer's log `bs` and holds the blocks `held` -/
structure RepR (C : Crypto) (bs : Array Bytes) (c : Core) (d : Disk) (held : Nat → Bool) : Prop where
  closed : Closed C bs c.tree d.tree
  roots : c.tree.roots = RefTree.roots C bs
  bytes : c.tree.byteLength = psum bs bs.size
  mapwf : MapWF c.tree.unflushed
  aligned : d.tree.size % 40 = 0
  bits : ∀ i, c.bitfield.get i = held i
  heldLt : ∀ i, held i = true → i < bs.size
  leaf : ∀ i, held i = true → c.tree.node? d.tree (Flat.index 0 i) = some (nodeAt C bs 0 i)
  data : ∀ i, held i = true → ∀ k, k < sz bs i →
    psum bs i + k < d.data.size ∧ d.data.byte (psum bs i + k) = (bs.getD i []).getD k 0
  contig : Core.FirstMissing c.bitfield c.header.contiguous
  small : bs.size < 2 ^ 64 ∧ psum bs bs.size < 2 ^ 64

/-- the honest answer to "block `i`, as many nodes as I am missing" -/
def honestBlock (C : Crypto) (bs : Array Bytes) (c : Core) (d : Disk) (i : Nat) : Proof :=
  ⟨c.tree.fork, some ⟨i, bs.getD i [], sibPath C bs 0 i (c.tree.missingNodes d.tree (2 * i))⟩, none, none, none⟩

/-- the state after the entry has been logged and the tree committed, before the periodic flush -/
def afterBlock (C : Crypto) (bs : Array Bytes) (c : Core) (d : Disk) (i : Nat) : Core :=
  let k := c.tree.missingNodes d.tree (2 * i)
  let nodes := nodeAt C bs 0 i :: downPath C bs 0 i k
  let entry : Entry := { treeNodes := nodes, treeUpgrade := none, bitfield := some ⟨false, i, 1⟩ }
  let bf := c.bitfield.setRange i 1 true
  { c with oplog := (Oplog.appendEntry c.oplog entry).1, header := Core.updateContiguous c.header bf ⟨false, i, 1⟩, bitfield := bf, tree := { c.tree with unflushed := insertAll c.tree.unflushed nodes } }

def blockJournal (C : Crypto) (bs : Array Bytes) (c : Core) (d : Disk) (i : Nat) : List SOp :=
  let k := c.tree.missingNodes d.tree (2 * i)
  let nodes := nodeAt C bs 0 i :: downPath C bs 0 i k
  let entry : Entry := { treeNodes := nodes, treeUpgrade := none, bitfield := some ⟨false, i, 1⟩ }
  [.write .data (psum bs i) (bs.getD i [])] ++ (Oplog.appendEntry c.oplog entry).2

theorem psum_succ_le (bs : Array Bytes) {i j : Nat} (h : i < j) : psum bs i + sz bs i ≤ psum bs j := by
  have : psum bs (i + 1) = psum bs i + sz bs i := rfl
  rw [← this]; exact psum_mono bs h

/-- a replica that knows nothing yet -/
structure FreshR (C : Crypto) (bs : Array Bytes) (c : Core) (d : Disk) : Prop where
  empty : Sparse C bs 0 c.tree d.tree
  roots : c.tree.roots = []
  bytes0 : c.tree.byteLength = 0
  mapwf : MapWF c.tree.unflushed
  aligned : d.tree.size % 40 = 0
  bits : ∀ i, c.bitfield.get i = false
  contig : Core.FirstMissing c.bitfield c.header.contiguous
  small : bs.size < 2 ^ 64 ∧ psum bs bs.size < 2 ^ 64

/-- the writer's answer to "upgrade from 0 to your length" -/
def honestUpgrade (C : Crypto) (bs : Array Bytes) (fork : Nat) (sig : Bytes) : Proof :=
  ⟨fork, none, none, none, some ⟨0, bs.size, RefTree.roots C bs, [], sig⟩⟩

/-- the core right after an upgrade has been logged and committed, before the periodic flush -/
def growCore (c : Core) (cs : Changeset) : Core :=
  { c with oplog := (Oplog.appendEntry c.oplog (Core.entryOf cs none c.header).1).1, header := (Core.entryOf cs none c.header).2, bitfield := c.bitfield, tree := { c.tree with roots := cs.roots, length := cs.length, byteLength := cs.byteLength, fork := cs.fork, signature := cs.signature, unflushed := insertAll c.tree.unflushed cs.nodes } }

/-- the replica after fetching the blocks `is`, in that order, each with the writer's honest answer -/
def fetch (C : Crypto) (bs : Array Bytes) : Core × Disk → List Nat → Core × Disk
  | s, [] => s
  | (c, d), i :: is =>
    fetch C bs ((c.verifyAndApply C d (honestBlock C bs c d i)).core, d.applyAll (c.verifyAndApply C d (honestBlock C bs c d i)).journal) is

/-- the answers of `verify_and_apply_proof` along the way -/
def fetchResults (C : Crypto) (bs : Array Bytes) : Core × Disk → List Nat → List (R Bool)
  | _, [] => []
  | (c, d), i :: is =>
    (c.verifyAndApply C d (honestBlock C bs c d i)).result ::
      fetchResults C bs ((c.verifyAndApply C d (honestBlock C bs c d i)).core, d.applyAll (c.verifyAndApply C d (honestBlock C bs c d i)).journal) is

end HC.Replica
