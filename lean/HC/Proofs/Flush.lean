import HC.Proofs.TreeStore
import HC.Proofs.BitfieldPages
import HC.Proofs.CoreEqs
/-!
What a flush does to the four stores (the model alone, no invariant).  `flush_all` writes the dirty bitfield pages, then the
unflushed tree nodes in index order, then the oplog header (and cuts the entry region), so the stores after the whole
journal (`flushAll_disk`, `flushAll_stores`), after any prefix of it (`flushAll_take_cases`) and with one of its writes torn
(`flushAll_torn_cases`) can be written down: `writePages` of some pages, `writeSlots` of some nodes, some operations of
`Oplog.flush`.  Writer and replica, live, cut and torn, all start from here.
-/
namespace HC.Crash
open HC HC.Codec HC.Tree HC.TreeStore HC.Core HC.Oplog HC.LogSpec HC.BitfieldPages

theorem pages_journal (b : Bitfield) :
    b.flush.2 = b.dirty.map fun p => SOp.write .bitfield (p * Spec.pageBytes) (b.pageBytes p) := rfl

theorem applyAll_page_writes (b : Bitfield) (d : Disk) (ps : List Nat) :
    d.applyAll (ps.map fun p => SOp.write .bitfield (p * Spec.pageBytes) (b.pageBytes p))
      = { d with bitfield := writePages b d.bitfield ps } :=
  Disk.applyAll_writes d .bitfield _ _ ps

theorem sides_disk (c : Core) (d : Disk) :
    d.applyAll (c.bitfield.flush.2 ++ c.tree.flush.2)
      = { d with bitfield := writePages c.bitfield d.bitfield c.bitfield.dirty, tree := writeSlots d.tree (flushList c.tree) } := by
  rw [Journal.applyAll_append, pages_journal, applyAll_page_writes, flush_journal, applyAll_tree_writes]

theorem flushAll_disk (c : Core) (d : Disk) (ct : Bool) :
    d.applyAll (c.flushAll ct).2 =
      { d with bitfield := writePages c.bitfield d.bitfield c.bitfield.dirty, tree := writeSlots d.tree (flushList c.tree),
               oplog := (Oplog.flush c.oplog c.header ct).2.foldl (fun g op => op.onFile g) d.oplog } := by
  rw [flushAll_snd, Journal.applyAll_append, sides_disk, Disk.applyAll_eq_set _ (Journal.oplogFlush_store c.oplog c.header ct)]
  rfl

/-- … store by store -/
theorem flushAll_stores (c : Core) (d : Disk) (ct : Bool) :
    (d.applyAll (c.flushAll ct).2).tree = writeSlots d.tree (flushList c.tree)
      ∧ (d.applyAll (c.flushAll ct).2).bitfield = writePages c.bitfield d.bitfield c.bitfield.dirty
      ∧ (d.applyAll (c.flushAll ct).2).oplog = (Oplog.flush c.oplog c.header ct).2.foldl (fun g op => op.onFile g) d.oplog := by
  rw [flushAll_disk]
  exact ⟨rfl, rfl, rfl⟩

theorem maybeFlush_snd (c : Core) :
    c.maybeFlush.2 = if c.skipFlush = 0 ∨ c.oplog.entriesByteLength ≥ Spec.maxEntriesBytes then (c.flushAll false).2 else [] := by
  split
  · rename_i h; rw [maybeFlush_flush c h]; rfl
  · rename_i h; rw [maybeFlush_skip c h]

theorem flushAll_take_cases (c : Core) (d : Disk) (ct : Bool) (k : Nat) :
    (∃ ps m, d.applyAll ((c.flushAll ct).2.take k)
        = { d with bitfield := writePages c.bitfield d.bitfield ps, tree := writeSlots d.tree ((flushList c.tree).take m) })
    ∨ (∃ m, 1 ≤ m ∧ d.applyAll ((c.flushAll ct).2.take k)
        = { d with bitfield := writePages c.bitfield d.bitfield c.bitfield.dirty, tree := writeSlots d.tree (flushList c.tree),
                   oplog := ((Oplog.flush c.oplog c.header ct).2.take m).foldl (fun g op => op.onFile g) d.oplog }) := by
  rw [flushAll_snd]
  by_cases h : k ≤ (c.bitfield.flush.2 ++ c.tree.flush.2).length
  · refine Or.inl ⟨c.bitfield.dirty.take k, k - c.bitfield.flush.2.length, ?_⟩
    rw [List.take_append_of_le_length h, List.take_append, Journal.applyAll_append, pages_journal, flush_journal, ← List.map_take,
      ← List.map_take, applyAll_page_writes, applyAll_tree_writes]
  · have h' := Nat.lt_of_not_le h
    refine Or.inr ⟨k - (c.bitfield.flush.2 ++ c.tree.flush.2).length, Nat.sub_pos_of_lt h', ?_⟩
    rw [List.take_append, List.take_of_length_le (Nat.le_of_lt h'), Journal.applyAll_append, sides_disk,
      Disk.applyAll_eq_set _ (Journal.on_take (Journal.oplogFlush_store c.oplog c.header ct) _)]
    rfl

theorem flushAll_torn_cases (c : Core) (d : Disk) (ct : Bool) (k t : Nat) :
    (∃ p, tornApply d (c.flushAll ct).2 k t
        = { d with bitfield := (writePages c.bitfield d.bitfield (c.bitfield.dirty.take k)).write (p * Spec.pageBytes)
                                 ((c.bitfield.pageBytes p).take t) })
    ∨ (∃ m n, (flushList c.tree)[m]? = some n ∧ tornApply d (c.flushAll ct).2 k t
        = { d with bitfield := writePages c.bitfield d.bitfield c.bitfield.dirty,
                   tree := (writeSlots d.tree ((flushList c.tree).take m)).write (n.index * Spec.nodeSize) ((nodeBytes n).take t) })
    ∨ (∃ m, (c.flushAll ct).2[k]? = (Oplog.flush c.oplog c.header ct).2[m]? ∧ tornApply d (c.flushAll ct).2 k t
        = tornApply { d with bitfield := writePages c.bitfield d.bitfield c.bitfield.dirty, tree := writeSlots d.tree (flushList c.tree) }
            (Oplog.flush c.oplog c.header ct).2 m t) := by
  have lP : c.bitfield.flush.2.length = c.bitfield.dirty.length := by rw [pages_journal, List.length_map]
  have lT : c.tree.flush.2.length = (flushList c.tree).length := by rw [flush_journal, List.length_map]
  rw [flushAll_snd]
  by_cases h1 : k < c.bitfield.dirty.length
  · refine Or.inl ⟨c.bitfield.dirty[k], ?_⟩
    rw [tornApply_left _ _ _ _ _ (by rw [List.length_append, lP]; exact Nat.lt_add_right _ h1), tornApply_left _ _ _ _ _ (lP ▸ h1),
      pages_journal, tornApply_map _ _ _ _ _ _ _ _ (List.getElem?_eq_getElem h1), applyAll_page_writes, Disk.apply_write]
    rfl
  · have h1 := Nat.le_of_not_lt h1
    by_cases h2 : k - c.bitfield.dirty.length < (flushList c.tree).length
    · refine Or.inr (Or.inl ⟨k - c.bitfield.dirty.length, (flushList c.tree)[k - c.bitfield.dirty.length], List.getElem?_eq_getElem h2, ?_⟩)
      rw [tornApply_left _ _ _ _ _ (by rw [List.length_append, lP, lT]; exact (Nat.sub_lt_iff_lt_add' h1).mp h2),
        tornApply_right _ _ _ _ _ (lP ▸ h1), lP, pages_journal, applyAll_page_writes, flush_journal,
        tornApply_map _ _ _ _ _ _ _ _ (List.getElem?_eq_getElem h2), applyAll_tree_writes, Disk.apply_write]
      rfl
    · have hk : (c.bitfield.flush.2 ++ c.tree.flush.2).length ≤ k := by
        rw [List.length_append, lP, lT]; exact Nat.add_le_of_le_sub' h1 (Nat.le_of_not_lt h2)
      refine Or.inr (Or.inr ⟨k - (c.bitfield.flush.2 ++ c.tree.flush.2).length, List.getElem?_append_right hk, ?_⟩)
      rw [tornApply_right _ _ _ _ _ hk, sides_disk]

/-- an oplog write of a flush is a header write: it starts inside the two header slots -/
theorem flushAll_oplog_off (c : Core) (ct : Bool) (k off : Nat) (bs : Bytes) (h : (c.flushAll ct).2[k]? = some (.write .oplog off bs)) :
    off < Spec.entriesOffset := by
  have hhw : ∀ bits, SOp.write .oplog off bs = headerWrite c.header bits ct → off < Spec.entriesOffset := by
    intro bits e
    obtain ⟨b, hb | hb⟩ := headerWrite_offset c.header bits ct
    · rw [hb] at e; cases e; decide
    · rw [hb] at e; cases e; decide
  rw [flushAll_snd] at h
  rcases List.mem_append.mp (List.mem_of_getElem? h) with h1 | h3
  · rcases List.mem_append.mp h1 with h1 | h2
    · cases Journal.bitfieldFlush_store _ _ h1
    · cases Journal.treeFlush_store _ _ h2
  · cases ct with
    | false =>
      rw [flush_ops] at h3
      rcases List.mem_cons.mp h3 with e | h3
      · exact hhw _ e
      · cases List.mem_singleton.mp h3
    | true =>
      rw [flush_ops_clear] at h3
      rcases List.mem_cons.mp h3 with e | h3
      · exact hhw _ e
      · rcases List.mem_cons.mp h3 with e | h3
        · cases e
        · exact hhw _ (List.mem_singleton.mp h3)

end HC.Crash
