import HC.Proofs.OplogBytes
/-!
Format limits: the headers and entries a live history writes are within the ranges of the codec
(64-bit numbers, 32-byte keys and digests, frames shorter than 2^30 bytes, headers that fit a slot).
-/
namespace HC.FormatLimits
open HC HC.Codec HC.Oplog HC.OplogBytes

theorem ite_le {c : Prop} [Decidable c] {a b k : Nat} (ha : a ≤ k) (hb : b ≤ k) : (if c then a else b) ≤ k := by
  split <;> assumption

theorem sizeUint_le (n : Nat) : sizeUint n ≤ 9 :=
  ite_le (by decide) (ite_le (by decide) (ite_le (by decide) (by decide)))

theorem encUint_le (n : Nat) : (encUint n).length ≤ 9 := by rw [encUint_length]; exact sizeUint_le n

theorem encBuf_le (b : Bytes) : (encBuf b).length ≤ 9 + b.length := by
  rw [encBuf_length]; exact Nat.add_le_add_right (sizeUint_le b.length) _

/-- the shape of every header a writer core holds -/
structure HdrShape (h : Header) : Prop where
  key : h.key.length = 32
  ns : h.manifestNamespace.length = 32
  mkey : h.manifestKey.length = 32
  pk : h.publicKey.length = 32
  sk : ∀ s, h.secret = some s → s.length = 32
  ud : h.userData = []
  reorgs : h.reorgs = []
  fork : U64 h.tree.fork
  len : U64 h.tree.length
  rootHash : h.tree.rootHash.length ≤ 32
  sig : h.tree.signature.length ≤ 64
  contig : U64 h.contiguous

/-- a length-prefixed public key, then a length-prefixed secret-and-public pair or one zero byte: (9 + 32) + (9 + 64) -/
theorem encKeyPair_le (pk : Bytes) (sk : Option Bytes) (hpk : pk.length = 32) (hsk : ∀ s, sk = some s → s.length = 32) :
    (encKeyPair pk sk).length ≤ 114 := by
  have a1 := encBuf_le pk
  cases sk with
  | none => rw [encKeyPair, List.length_append]; rw [hpk] at a1; exact Nat.add_le_add a1 (by decide : 1 ≤ 73)
  | some s =>
    have a2 := encBuf_le (s ++ pk)
    rw [List.length_append, hsk s rfl] at a2
    rw [hpk] at a1 a2
    rw [encKeyPair, List.length_append]
    exact Nat.add_le_add a1 a2

theorem encHeaderTree_le (t : HeaderTree) (h1 : t.rootHash.length ≤ 32) (h2 : t.signature.length ≤ 64) :
    (encHeaderTree t).length ≤ 132 := by
  have e1 := encUint_le t.fork
  have e2 := encUint_le t.length
  have e3 := encBuf_le t.rootHash
  have e4 := encBuf_le t.signature
  simp only [encHeaderTree, List.length_append]
  omega

/-- 2 version bytes, the key, the manifest (4 + 32 + 32), the key pair, two empty string lists, the tree, the hint -/
theorem encHeader_le (h : Header) (hs : HdrShape h) : (encHeader h).length ≤ 359 := by
  have e1 := encKeyPair_le h.publicKey h.secret hs.pk hs.sk
  have e2 := encHeaderTree_le h.tree hs.rootHash hs.sig
  have e3 := encUint_le h.contiguous
  have hstr : (encStrings ([] : List Bytes)).length = 1 := rfl
  simp only [encHeader, encManifest, List.length_append, hs.key, hs.ns, hs.mkey, hs.ud, hs.reorgs, hstr,
    versionFlags_length, List.length_cons, List.length_nil]
  omega

theorem stringsWF_nil : StringsWF [] := ⟨by decide, fun b hb => by cases hb⟩

theorem headerOK_of_shape (h : Header) (hs : HdrShape h) : HeaderOK h := by
  have h32 : ∀ n, n ≤ 64 → U64 n := fun n hn => Nat.lt_of_le_of_lt hn (by decide)
  refine ⟨⟨hs.key, hs.ns, hs.mkey, hs.pk, hs.sk, ?_, ⟨hs.fork, hs.len, ?_, ?_⟩, ?_, hs.contig⟩, ?_⟩
  · rw [hs.ud]; exact stringsWF_nil
  · exact h32 _ (Nat.le_trans hs.rootHash (by decide))
  · exact h32 _ hs.sig
  · rw [hs.reorgs]; exact stringsWF_nil
  · have := encHeader_le h hs
    simp only [Spec.leaderSize, Spec.headerSize]; omega

theorem hdrShape_set (h : Header) (hs : HdrShape h) (rh sg : Bytes) (len cc : Nat) (h1 : rh.length ≤ 32) (h2 : sg.length ≤ 64)
    (h3 : U64 len) (h4 : U64 cc) :
    HdrShape { h with tree := { h.tree with rootHash := rh, signature := sg, length := len }, contiguous := cc } :=
  ⟨hs.key, hs.ns, hs.mkey, hs.pk, hs.sk, hs.ud, hs.reorgs, hs.fork, h3, h1, h2, h4⟩

theorem hdrShape_contig (h : Header) (hs : HdrShape h) (cc : Nat) (h4 : U64 cc) : HdrShape { h with contiguous := cc } :=
  ⟨hs.key, hs.ns, hs.mkey, hs.pk, hs.sk, hs.ud, hs.reorgs, hs.fork, hs.len, hs.rootHash, hs.sig, h4⟩

theorem hdrShape_nosecret (h : Header) (hs : HdrShape h) : HdrShape { h with secret := none } :=
  ⟨hs.key, hs.ns, hs.mkey, hs.pk, (fun s hh => by cases hh), hs.ud, hs.reorgs, hs.fork, hs.len, hs.rootHash, hs.sig, hs.contig⟩

theorem sum_map_le {α : Type} (f : α → Nat) (k : Nat) (hf : ∀ a, f a ≤ k) (l : List α) :
    (l.map f).sum ≤ k * l.length := by
  induction l with
  | nil => exact Nat.le_refl 0
  | cons a as ih =>
    rw [List.map_cons, List.sum_cons, List.length_cons, Nat.mul_succ, Nat.add_comm]
    exact Nat.add_le_add ih (hf a)

theorem sizeNode_le (n : Node) : sizeNode n ≤ 50 :=
  Nat.add_le_add (Nat.add_le_add (sizeUint_le _) (sizeUint_le _)) (Nat.le_refl 32)

theorem encNodes_le (l : List Node) (h : NodesWF l) : (encNodes l).length ≤ 9 + 50 * l.length := by
  rw [encNodes_length l h]
  exact Nat.add_le_add (sizeUint_le _) (sum_map_le sizeNode 50 sizeNode_le l)

theorem encTreeUpgrade_le (u : TreeUpgrade) (hsig : u.signature.length ≤ 64) : (encTreeUpgrade u).length ≤ 100 := by
  have e1 := encUint_le u.fork
  have e2 := encUint_le u.ancestors
  have e3 := encUint_le u.length
  have e4 := encBuf_le u.signature
  simp only [encTreeUpgrade, List.length_append]
  omega

theorem encBitfieldUpdate_le (b : BitfieldUpdate) : (encBitfieldUpdate b).length ≤ 19 := by
  have e1 := encUint_le b.start
  have e2 := encUint_le b.length
  simp only [encBitfieldUpdate, List.length_append, List.length_cons, List.length_nil]
  omega

/-- `2^22` nodes of at most 50 bytes keep the frame below `2^30`; a batch of fewer than `2^20` blocks logs at most
    `2·2^20 + 64` nodes. -/
theorem appendEntry_ok (nodes : List Node) (fork anc len : Nat) (sig : Bytes) (start k : Nat)
    (hn : NodesWF nodes) (hcount : nodes.length ≤ 2 ^ 22) (hf : U64 fork) (ha : U64 anc) (hl : U64 len)
    (hsig : sig.length = 64) (hs : U64 start) (hk : U64 k) :
    EntryOK { treeNodes := nodes, treeUpgrade := some ⟨fork, anc, len, sig⟩, bitfield := some ⟨false, start, k⟩ } := by
  refine ⟨⟨stringsWF_nil, hn, ?_, ?_⟩, ?_⟩
  · intro u hu; cases hu; exact ⟨hf, ha, hl, by rw [hsig]; decide⟩
  · intro b hb; cases hb; exact ⟨hs, hk⟩
  · -- the node section, whether written or not, is no longer than the encoded nodes
    have e1 : (if nodes.isEmpty then [] else encNodes nodes).length ≤ 9 + 50 * nodes.length :=
      Nat.le_trans (by split <;> simp) (encNodes_le nodes hn)
    have e2 := encTreeUpgrade_le ⟨fork, anc, len, sig⟩ (Nat.le_of_eq hsig)
    have e3 := encBitfieldUpdate_le ⟨false, start, k⟩
    simp only [encEntry, List.length_append, List.length_cons, List.length_nil, List.isEmpty_nil, ite_true]
    omega

theorem clearEntry_ok (start len : Nat) (hs : U64 start) (hl : U64 len) :
    EntryOK { bitfield := some ⟨true, start, len⟩ } := by
  refine ⟨⟨stringsWF_nil, ⟨(by decide : U64 0), fun n hn => by cases hn⟩, ?_, ?_⟩, ?_⟩
  · intro u hu; cases hu
  · intro b hb; cases hb; exact ⟨hs, hl⟩
  · have e := encBitfieldUpdate_le ⟨true, start, len⟩
    simp only [encEntry, List.length_append, List.length_cons, List.length_nil, List.isEmpty_nil, ite_true]
    omega

end HC.FormatLimits
