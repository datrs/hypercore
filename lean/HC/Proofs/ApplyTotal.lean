import HC.Proofs.CreateTotal
/-!
The core-level calls a peer can trigger are total (C09): `create_proof` and `verify_and_apply_proof` return a value or
an error, never a panic.  Beyond `verify_proof` being total the application step needs two facts:
`byte_offset_in_changeset` walks the replica's *own* tree (`byteOffsetFromNodes_total`), and the tree commit's only panic
site, a truncating commit (`ancestors < original length`), is unreachable because the changeset `verify_proof` returns
keeps both numbers of the tree's changeset (`verifyProof_keeps`).  At the end, where `RootShape` holds.
-/
namespace HC.ApplyTotal
open HC HC.Codec HC.Flat HC.Tree HC.CreateTotal

theorem verifyProof_keeps (C : Crypto) (t : Tree) (f : File) (p : Proof) (pk : Bytes) (cs : Changeset)
    (h : verifyProof C t f p pk = .ok cs) : cs.ancestors = t.length ∧ cs.origLength = t.length := by
  obtain ⟨root, cs1, hv, hrest⟩ := (verifyProof_ok_iff C t f p pk cs).mp h
  obtain ⟨rn, rfl⟩ := verifyTree_rnodes C _ _ _ _ _ _ hv
  obtain ⟨_, rfl, _⟩ | ⟨u, consumed, _, hvu, _⟩ := hrest
  · exact ⟨rfl, rfl⟩
  · -- `verify_upgrade` changes the changeset only through `append_root` and the final fork/hash/signature update
    exact verifyUpgrade_inv C (fun c => c.ancestors = t.length ∧ c.origLength = t.length) (fun _ _ _ hk => hk)
      (fun _ _ _ hk => hk) hvu ⟨rfl, rfl⟩

theorem commit_notPanic (t : Tree) (cs : Changeset) (h : cs.ancestors = t.length ∧ cs.origLength = t.length) :
    NotPanic (t.commit cs) := by
  unfold Tree.commit
  refine of_ite (fun _ => notPanic_err) fun _ => of_ite (fun hc => ?_) fun _ => notPanic_ok _
  exact absurd (of_decide_eq_true (Bool.and_eq_true_iff.mp hc).2) (by rw [h.1, h.2]; exact Nat.lt_irrefl _)

theorem byteOffsetInChangeset_total (t : Tree) (f : File) (hT : RootShape t) (i : Nat) (cs : Changeset) :
    NotPanic (t.byteOffsetInChangeset f i cs) := by
  unfold Tree.byteOffsetInChangeset
  refine of_ite (fun _ => notPanic_ok _) fun _ => ?_
  · dsimp only
    split
    · split
      · exact notPanic_ok _
      · split
        next e he => exact (byteOffsetFromNodes_total t f hT _).of_error he
        next => exact notPanic_ok _
    · split
      next e he => exact (byteOffsetFromNodes_total t f hT _).of_error he
      next => exact notPanic_ok _

theorem byteRange_total (t : Tree) (f : File) (hT : RootShape t) (i : Nat) : NotPanic (t.byteRange f i) := by
  unfold Tree.byteRange
  split
  next e he =>
    refine NotPanic.of_error ?_ he
    unfold Tree.validateIndex
    exact of_ite (fun _ => notPanic_err) fun _ => notPanic_ok _
  next index _ =>
    split
    next e he => exact (requiredNode_notPanic t f index).of_error he
    next n _ =>
      split
      next e he => exact (byteOffsetFromNodes_total t f hT index).of_error he
      next => exact notPanic_ok _

theorem getBlock_total (c : Core) (d : Disk) (hT : RootShape c.tree) (i : Nat) : NotPanic (c.getBlock d i).result := by
  unfold Core.getBlock
  split
  · exact notPanic_ok _
  · split
    next e he => exact (byteRange_total c.tree d.tree hT i).of_error he
    next off len _ =>
      split
      · exact notPanic_ok _
      · split
        · exact notPanic_err
        · exact notPanic_ok _

theorem createProof_total (c : Core) (d : Disk) (hT : RootShape c.tree) (block hash : Option RequestBlock) (seek : Option RequestSeek)
    (upgrade : Option RequestUpgrade)
    (hb : ∀ b, block = some b → b.index < 2 ^ 63) (hh : ∀ h, hash = some h → h.index < 2 ^ 65 - 1) :
    NotPanic (c.createProof d block hash seek upgrade).result := by
  unfold Core.createProof
  split
  next e he => exact (create_total c.tree d.tree hT block hash seek upgrade hb hh).of_error he
  next vp _ =>
    split
    · exact notPanic_ok _
    next b _ =>
      dsimp only
      split
      next e he => exact (getBlock_total c d hT b.index).of_error he
      next => exact notPanic_ok _
      next => exact notPanic_ok _

theorem dataStep_total (c : Core) (d : Disk) (hT : RootShape c.tree) (p : Proof) (cs : Changeset) :
    NotPanic (Core.dataStep c d p cs) := by
  unfold Core.dataStep
  split
  · split
    next e he => exact (byteOffsetInChangeset_total c.tree d.tree hT _ cs).of_error he
    next => exact notPanic_ok _
  · exact notPanic_ok _

theorem finishApply_total {c : Core} {ol : Oplog.State} {header : Oplog.Header} {bf : Bitfield} {j01 : List SOp} {p : Proof}
    {bu : Option Oplog.BitfieldUpdate} {r : R Tree} (h : NotPanic r) : NotPanic (Core.finishApply c ol header bf j01 p bu r).result := by
  cases r with
  | error e => exact h.of_error rfl
  | ok tr => exact notPanic_ok _

theorem verifyAndApply_total (C : Crypto) (c : Core) (d : Disk) (hT : RootShape c.tree) (p : Proof) :
    NotPanic (c.verifyAndApply C d p).result := by
  unfold Core.verifyAndApply
  split
  · exact notPanic_ok _
  · split
    next e he => exact (verifyProof_notPanic C c.tree d.tree p c.publicKey).of_error he
    next cs hv =>
      split
      · exact notPanic_ok _
      · split
        next e he => exact (dataStep_total c d hT p cs).of_error he
        next j0 bu _ =>
          split
          · exact finishApply_total (commit_notPanic c.tree cs (verifyProof_keeps C c.tree d.tree p c.publicKey cs hv))
          · exact notPanic_err

theorem rootShape_of_roots (t : Tree) (n : Nat) (hn : n < 2 ^ 64) (hl : t.length = n)
    (hr : t.roots.map (·.index) = (RefTree.rootsStack n).reverse.map (fun p => Flat.index p.1 p.2)) : RootShape t :=
  ⟨hl ▸ hn, (RefTree.rootsStack n).reverse, hl ▸ Offsets.cover_roots n, hr⟩

theorem roots_index_map (C : Crypto) (bs : Array Bytes) :
    (RefTree.roots C bs).map (·.index) = (RefTree.rootsStack bs.size).reverse.map (fun p => Flat.index p.1 p.2) := by
  rw [RefTree.roots, List.map_map]; rfl

theorem rootShape_of_rootsOK (C : Crypto) (bs : Array Bytes) (t : Tree) (h : RefProof.RootsOK C bs t.changeset) (hs : bs.size < 2 ^ 64) :
    RootShape t := by
  apply rootShape_of_roots t bs.size hs h.length
  have hr : t.roots.reverse = (RefTree.rootsStack bs.size).map (fun p => RefTree.nodeAt C bs p.1 p.2) := h.roots
  have : t.roots = ((RefTree.rootsStack bs.size).map (fun p => RefTree.nodeAt C bs p.1 p.2)).reverse := by
    rw [← hr, List.reverse_reverse]
  rw [this, ← List.map_reverse, List.map_map]
  rfl

theorem rootShape_empty : RootShape {} := ⟨by decide, [], Offsets.Cover.nil 0, rfl⟩

end HC.ApplyTotal
