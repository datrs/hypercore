import HC.Model.Core
import HC.Proofs.File
/-!
Store-locality of journals: the effect of a journal on one store is the effect of the operations that
target that store; which stores the journals of the core's sub-operations target.
-/
namespace HC

def SOp.store : SOp → Store
  | .write s _ _ => s
  | .del s _ _ => s
  | .trunc s _ => s

/-- effect of an operation on the file it targets -/
def SOp.onFile (op : SOp) (f : File) : File :=
  match op with
  | .write _ off bs => f.write off bs
  | .del _ off len => (f.del off len).getD f
  | .trunc _ len => f.truncate len

@[simp] theorem SOp.store_write (s : Store) (off : Nat) (bs : Bytes) : (SOp.write s off bs).store = s := rfl
@[simp] theorem SOp.store_del (s : Store) (off len : Nat) : (SOp.del s off len).store = s := rfl
@[simp] theorem SOp.store_trunc (s : Store) (len : Nat) : (SOp.trunc s len).store = s := rfl
@[simp] theorem SOp.onFile_write (s : Store) (off : Nat) (bs : Bytes) (f : File) : (SOp.write s off bs).onFile f = f.write off bs := rfl
@[simp] theorem SOp.onFile_trunc (s : Store) (len : Nat) (f : File) : (SOp.trunc s len).onFile f = f.truncate len := rfl
theorem SOp.onFile_del (s : Store) (off len : Nat) (f : File) : (SOp.del s off len).onFile f = (f.del off len).getD f := rfl

namespace Disk

@[simp] theorem get_tree (d : Disk) : d.get .tree = d.tree := rfl
@[simp] theorem get_data (d : Disk) : d.get .data = d.data := rfl
@[simp] theorem get_bitfield (d : Disk) : d.get .bitfield = d.bitfield := rfl
@[simp] theorem get_oplog (d : Disk) : d.get .oplog = d.oplog := rfl

theorem get_set (d : Disk) (s s' : Store) (f : File) : (d.set s f).get s' = if s = s' then f else d.get s' := by
  cases s <;> cases s' <;> rfl

@[simp] theorem get_set_same (d : Disk) (s : Store) (f : File) : (d.set s f).get s = f := by
  cases s <;> rfl

theorem get_set_ne (d : Disk) {s s' : Store} (f : File) (h : s ≠ s' := by decide) : (d.set s f).get s' = d.get s' := by
  rw [get_set, if_neg h]

@[simp] theorem set_set (d : Disk) (s : Store) (f g : File) : (d.set s f).set s g = d.set s g := by
  cases s <;> rfl

@[simp] theorem set_get (d : Disk) (s : Store) : d.set s (d.get s) = d := by
  cases s <;> rfl

theorem set_tree (d : Disk) (s : Store) (f : File) : (d.set s f).tree = if s = .tree then f else d.tree := get_set d s .tree f
theorem set_data (d : Disk) (s : Store) (f : File) : (d.set s f).data = if s = .data then f else d.data := get_set d s .data f
theorem set_bitfield (d : Disk) (s : Store) (f : File) : (d.set s f).bitfield = if s = .bitfield then f else d.bitfield :=
  get_set d s .bitfield f
theorem set_oplog (d : Disk) (s : Store) (f : File) : (d.set s f).oplog = if s = .oplog then f else d.oplog := get_set d s .oplog f

theorem apply_eq_set (d : Disk) (op : SOp) : d.apply op = d.set op.store (op.onFile (d.get op.store)) := by
  cases op with
  | write s off bs => cases s <;> rfl
  | del s off len =>
    simp only [Disk.apply, SOp.store, SOp.onFile]
    cases (d.get s).del off len with
    | none => exact (set_get d s).symm
    | some f => rfl
  | trunc s len => rfl

theorem apply_write (d : Disk) (s : Store) (off : Nat) (bs : Bytes) :
    d.apply (.write s off bs) = d.set s ((d.get s).write off bs) := apply_eq_set d _
theorem apply_trunc (d : Disk) (s : Store) (len : Nat) : d.apply (.trunc s len) = d.set s ((d.get s).truncate len) := rfl
theorem apply_del (d : Disk) (s : Store) (off len : Nat) :
    d.apply (.del s off len) = d.set s (((d.get s).del off len).getD (d.get s)) := apply_eq_set d _

theorem applyAll_nil (d : Disk) : d.applyAll [] = d := rfl
theorem applyAll_cons (d : Disk) (op : SOp) (ops : List SOp) : d.applyAll (op :: ops) = (d.apply op).applyAll ops := rfl
theorem applyAll_one (d : Disk) (op : SOp) : d.applyAll [op] = d.apply op := rfl

theorem applyAll_eq_set (d : Disk) {ops : List SOp} {s : Store} (h : ∀ op ∈ ops, op.store = s) :
    d.applyAll ops = d.set s (ops.foldl (fun g op => op.onFile g) (d.get s)) := by
  induction ops generalizing d with
  | nil => exact (set_get d s).symm
  | cons op rest ih =>
    rw [applyAll_cons, ih _ fun o ho => h o (List.mem_cons_of_mem _ ho), apply_eq_set, h op List.mem_cons_self,
      get_set_same, set_set, List.foldl_cons]

/-- a journal of writes to one store -/
theorem applyAll_writes {α : Type} (d : Disk) (s : Store) (off : α → Nat) (bytes : α → Bytes) (l : List α) :
    d.applyAll (l.map fun x => SOp.write s (off x) (bytes x)) = d.set s (l.foldl (fun g x => g.write (off x) (bytes x)) (d.get s)) := by
  rw [applyAll_eq_set d (s := s) fun op hop => by obtain ⟨x, _, rfl⟩ := List.mem_map.mp hop; rfl, List.foldl_map]
  rfl

end Disk

namespace Journal

theorem apply_get (d : Disk) (op : SOp) (s : Store) :
    (d.apply op).get s = if op.store = s then op.onFile (d.get s) else d.get s := by
  rw [Disk.apply_eq_set, Disk.get_set]
  split
  · rename_i h; rw [h]
  · rfl

theorem apply_tree (d : Disk) (op : SOp) : (d.apply op).tree = if op.store = .tree then op.onFile d.tree else d.tree :=
  apply_get d op .tree
theorem apply_data (d : Disk) (op : SOp) : (d.apply op).data = if op.store = .data then op.onFile d.data else d.data :=
  apply_get d op .data
theorem apply_bitfield (d : Disk) (op : SOp) :
    (d.apply op).bitfield = if op.store = .bitfield then op.onFile d.bitfield else d.bitfield := apply_get d op .bitfield
theorem apply_oplog (d : Disk) (op : SOp) : (d.apply op).oplog = if op.store = .oplog then op.onFile d.oplog else d.oplog :=
  apply_get d op .oplog

theorem applyAll_get (d : Disk) (ops : List SOp) (s : Store) :
    (d.applyAll ops).get s = (ops.filter fun op => op.store = s).foldl (fun f op => op.onFile f) (d.get s) := by
  induction ops generalizing d with
  | nil => rfl
  | cons op rest ih =>
    rw [Disk.applyAll_cons, ih, apply_get, List.filter_cons]
    by_cases h : op.store = s
    · simp only [h, decide_true, ite_true, List.foldl_cons]
    · simp only [h, decide_false, ite_false, Bool.false_eq_true]

theorem applyAll_append (d : Disk) (a b : List SOp) : d.applyAll (a ++ b) = (d.applyAll a).applyAll b :=
  List.foldl_append ..

theorem applyAll_other (d : Disk) (ops : List SOp) (s : Store) (h : ∀ op ∈ ops, op.store ≠ s) :
    (d.applyAll ops).get s = d.get s := by
  rw [applyAll_get]
  have : (ops.filter fun op => op.store = s) = [] := by
    apply List.filter_eq_nil_iff.mpr
    intro op hop
    simpa using h op hop
  rw [this]; rfl

/-! `∀ op ∈ j, op.store = s` is how the sub-journals are described (`appendEntry_store` … below).  The side
condition `s ≠ s'` is an auto-param: with `s` read off the hypothesis it is closed by `decide`. -/

theorem off_of_on {j : List SOp} {s : Store} (h : ∀ op ∈ j, op.store = s) (s' : Store) (hs : s ≠ s' := by decide) :
    ∀ op ∈ j, op.store ≠ s' := fun op hop => by rw [h op hop]; exact hs

theorem on_append {a b : List SOp} {s : Store} (ha : ∀ op ∈ a, op.store = s) (hb : ∀ op ∈ b, op.store = s) :
    ∀ op ∈ a ++ b, op.store = s := fun op hop => (List.mem_append.mp hop).elim (ha op) (hb op)

theorem off_append {a b : List SOp} {s : Store} (ha : ∀ op ∈ a, op.store ≠ s) (hb : ∀ op ∈ b, op.store ≠ s) :
    ∀ op ∈ a ++ b, op.store ≠ s := fun op hop => (List.mem_append.mp hop).elim (ha op) (hb op)

theorem on_take {j : List SOp} {s : Store} (h : ∀ op ∈ j, op.store = s) (k : Nat) : ∀ op ∈ j.take k, op.store = s :=
  fun op hop => h op (List.mem_of_mem_take hop)

theorem on_map {α : Type} (l : List α) (f : α → SOp) (s : Store) (h : ∀ a, (f a).store = s) : ∀ op ∈ l.map f, op.store = s := by
  intro op hop
  obtain ⟨a, _, rfl⟩ := List.mem_map.mp hop
  exact h a

theorem applyAll_on {d : Disk} {ops : List SOp} {s : Store} (h : ∀ op ∈ ops, op.store = s) :
    (d.applyAll ops).get s = ops.foldl (fun g op => op.onFile g) (d.get s) := by
  rw [Disk.applyAll_eq_set d h, Disk.get_set_same]

theorem applyAll_off {d : Disk} {ops : List SOp} {s : Store} (h : ∀ op ∈ ops, op.store = s) (s' : Store)
    (hs : s ≠ s' := by decide) : (d.applyAll ops).get s' = d.get s' := by
  rw [Disk.applyAll_eq_set d h, Disk.get_set_ne _ _ hs]

theorem applyAll_tree {d : Disk} {ops : List SOp} {s : Store} (h : ∀ op ∈ ops, op.store = s) (hs : s ≠ .tree := by decide) :
    (d.applyAll ops).tree = d.tree := applyAll_off h .tree hs
theorem applyAll_data {d : Disk} {ops : List SOp} {s : Store} (h : ∀ op ∈ ops, op.store = s) (hs : s ≠ .data := by decide) :
    (d.applyAll ops).data = d.data := applyAll_off h .data hs
theorem applyAll_bitfield {d : Disk} {ops : List SOp} {s : Store} (h : ∀ op ∈ ops, op.store = s)
    (hs : s ≠ .bitfield := by decide) : (d.applyAll ops).bitfield = d.bitfield := applyAll_off h .bitfield hs
theorem applyAll_oplog {d : Disk} {ops : List SOp} {s : Store} (h : ∀ op ∈ ops, op.store = s) (hs : s ≠ .oplog := by decide) :
    (d.applyAll ops).oplog = d.oplog := applyAll_off h .oplog hs

theorem applyAll_tree_off {d : Disk} {ops : List SOp} (h : ∀ op ∈ ops, op.store ≠ .tree) : (d.applyAll ops).tree = d.tree :=
  applyAll_other d ops .tree h
theorem applyAll_data_off {d : Disk} {ops : List SOp} (h : ∀ op ∈ ops, op.store ≠ .data) : (d.applyAll ops).data = d.data :=
  applyAll_other d ops .data h
theorem applyAll_bitfield_off {d : Disk} {ops : List SOp} (h : ∀ op ∈ ops, op.store ≠ .bitfield) :
    (d.applyAll ops).bitfield = d.bitfield := applyAll_other d ops .bitfield h
theorem applyAll_oplog_off {d : Disk} {ops : List SOp} (h : ∀ op ∈ ops, op.store ≠ .oplog) : (d.applyAll ops).oplog = d.oplog :=
  applyAll_other d ops .oplog h

theorem applyAll_on_tree {d : Disk} {ops : List SOp} (h : ∀ op ∈ ops, op.store = .tree) :
    (d.applyAll ops).tree = ops.foldl (fun g op => op.onFile g) d.tree := applyAll_on h
theorem applyAll_on_data {d : Disk} {ops : List SOp} (h : ∀ op ∈ ops, op.store = .data) :
    (d.applyAll ops).data = ops.foldl (fun g op => op.onFile g) d.data := applyAll_on h
theorem applyAll_on_bitfield {d : Disk} {ops : List SOp} (h : ∀ op ∈ ops, op.store = .bitfield) :
    (d.applyAll ops).bitfield = ops.foldl (fun g op => op.onFile g) d.bitfield := applyAll_on h
theorem applyAll_on_oplog {d : Disk} {ops : List SOp} (h : ∀ op ∈ ops, op.store = .oplog) :
    (d.applyAll ops).oplog = ops.foldl (fun g op => op.onFile g) d.oplog := applyAll_on h

theorem applyAll_only {d : Disk} {ops : List SOp} {s : Store} (h : ∀ op ∈ ops, op.store = s) :
    d.applyAll ops = d.set s ((d.applyAll ops).get s) := by
  rw [applyAll_on h]; exact Disk.applyAll_eq_set d h

theorem appendEntry_store (s : Oplog.State) (e : Oplog.Entry) : ∀ op ∈ (Oplog.appendEntry s e).2, op.store = .oplog :=
  on_map [_] _ .oplog fun _ => rfl

theorem insertHeader_store (h : Oplog.Header) (n : Nat) (bits : Bool × Bool) (ct : Bool) :
    ∀ op ∈ (Oplog.insertHeader h n bits ct).2, op.store = .oplog := by
  intro op hop
  rcases List.mem_cons.mp hop with rfl | hop
  · rfl
  · cases List.mem_singleton.mp hop; rfl

theorem oplogFlush_store (s : Oplog.State) (h : Oplog.Header) (ct : Bool) : ∀ op ∈ (Oplog.flush s h ct).2, op.store = .oplog := by
  cases ct with
  | true => exact on_append (insertHeader_store _ _ _ _) (on_take (insertHeader_store _ _ _ _) 1)
  | false => exact insertHeader_store _ _ _ _

theorem bitfieldFlush_store (b : Bitfield) : ∀ op ∈ b.flush.2, op.store = .bitfield :=
  on_map b.dirty _ .bitfield fun _ => rfl

theorem treeFlush_store (t : Tree) : ∀ op ∈ t.flush.2, op.store = .tree :=
  on_map _ _ .tree fun _ => rfl

end Journal

end HC
