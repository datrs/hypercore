import HC.Proofs.Persist
/-!
Crash states.  `Durable C d hf a0 es a`: the four stores `d` are a legitimate image of the log `a` (the oplog opens to
the header `hf` of some flush and the entries `es` logged since, which lead from the log `a0` of that flush to `a`).
`durable_open`: opening such stores yields a core that represents `a`.  `crash_step`: after every prefix of a call's
storage operations the stores are `Durable` for the log before the call or for the log after it.
Two facts carry the proofs.  A flush writes bitfield pages, then tree nodes, then the oplog, so the stores after any
prefix of its journal can be written down (`flushAll_take_cases`, `flushAll_torn_cases`).  A call that changes anything
logs exactly one entry, between operations on the data store and followed by a flush decision (`Logged`, `call_cases`).
-/
namespace HC.Crash
open HC HC.Codec HC.Flat HC.Tree HC.RefTree HC.RefProof HC.Offsets HC.TreeStore HC.LogSpec HC.Core HC.Oplog HC.LiveRefine
  HC.BitfieldPages HC.OplogBytes HC.FormatLimits HC.Touch HC.Persist

theorem take_cut {α : Type} (pre : List α) (x : α) (post fl : List α) (k : Nat) :
    (k ≤ pre.length ∧ (pre ++ x :: post ++ fl).take k = pre.take k)
      ∨ (∃ m, (pre ++ x :: post ++ fl).take k = pre ++ [x] ++ post.take m)
      ∨ (∃ m, (pre ++ x :: post ++ fl).take k = pre ++ x :: post ++ fl.take m) := by
  by_cases h1 : k ≤ pre.length
  · exact Or.inl ⟨h1, by rw [List.append_assoc, List.take_append_of_le_length h1]⟩
  · have h1 := Nat.lt_of_not_le h1
    by_cases h2 : k ≤ (pre ++ x :: post).length
    · refine Or.inr (Or.inl ⟨k - pre.length - 1, ?_⟩)
      rw [List.take_append_of_le_length h2, List.take_append, List.take_of_length_le (Nat.le_of_lt h1),
        ← Nat.sub_add_cancel (Nat.sub_pos_of_lt h1), List.take_succ_cons, List.append_cons, Nat.add_sub_cancel]
    · exact Or.inr (Or.inr ⟨k - (pre ++ x :: post).length, by rw [List.take_append, List.take_of_length_le (Nat.le_of_not_le h2)]⟩)

/-- what a reopen needs (`durable_open`) -/
structure Durable0 (C : Crypto) (d : Disk) (hf : Header) (a0 : Abs) (es : List Entry) (a : Abs) : Prop where
  oplog : OpImage d.oplog hf es
  hfLen : hf.tree.length = a0.blocks.size
  hfSig : hf.tree.signature = [] ∨ hf.tree.signature.length = 64
  hfSecret : hf.secret.isSome = a.writable
  hfShape : HdrShape hf
  oks : ∀ e ∈ es, EntryOK e
  fileNodes : NodesOK C a0.blocks {} d.tree
  -- the next four relate the bitfield store to `a0`'s bits and `es` as `Reopen.RInv` needs them for the replay:
  -- a bit no entry touches is `a0`'s; a bit of `a0` is still set unless an entry clears it;
  -- inside `a0`'s length no bit is set that `a0` lacks; no bit is set beyond the current length
  stable : ∀ i, (∀ e ∈ es, ¬ Touches e i) → (Bitfield.ofFile d.bitfield).get i = a0.held i
  kept : ∀ i, a0.held i = true → (Bitfield.ofFile d.bitfield).get i = true ∨ ∃ e ∈ es, Clears e i
  low : ∀ i, i < a0.blocks.size → a0.held i = false → (Bitfield.ofFile d.bitfield).get i = false
  below : ∀ i, (Bitfield.ofFile d.bitfield).get i = true → i < a.blocks.size
  held0Lt : ∀ i, a0.held i = true → i < a0.blocks.size
  contig : (∀ i, i < hf.contiguous → a0.held i = true) ∧ a0.held hf.contiguous = false
  small0 : Small a0
  trace : Trace C a0 es a
  data : ∀ i, a.held i = true → ∀ k, k < sz a.blocks i →
    psum a.blocks i + k < d.data.size ∧ d.data.byte (psum a.blocks i + k) = (a.blocks.getD i []).getD k 0

/-- … and what carrying on after the reopen needs in addition (`recover_persist`): the bitfield store consists
    of whole pages (a torn page write can break this until the page is written again) -/
structure Durable (C : Crypto) (d : Disk) (hf : Header) (a0 : Abs) (es : List Entry) (a : Abs) : Prop
    extends Durable0 C d hf a0 es a where
  fileSize : d.bitfield.size % Spec.pageBytes = 0

/-- **opening durable stores yields a core that represents the log** -/
theorem durable_open (C : Crypto) (hC : HashWF C) (hTw : TreeWF C) (d : Disk) (hf : Header) (a0 : Abs) (es : List Entry) (a : Abs)
    (h : Durable0 C d hf a0 es a) : ∃ c' j, Core.openCore C none d = .ok (c', j) ∧ Rep C c' (d.applyAll j) a := by
  obtain ⟨ost, ops, hlog, hops, _⟩ := opimage_open _ hf es h.oplog
  obtain ⟨c', ho, hr⟩ := Reopen.reopen_refines C hC hTw d ost hf es a0 a ops hops hlog h.hfLen h.hfSig h.hfSecret h.hfShape h.oks h.fileNodes h.stable h.kept
    h.low h.below h.held0Lt h.contig h.small0 h.trace h.data
  exact ⟨c', ops, ho, hr⟩

theorem persist_durable (C : Crypto) (c : Core) (d : Disk) (hf : Header) (a0 : Abs) (es : List Entry) (a : Abs)
    (hrep : Rep C c d a) (hp : Persist C c d hf a0 es a) : Durable C d hf a0 es a :=
  { oplog := opimage_of_inv c.oplog _ hf es hp.oplog
    hfLen := hp.hfLen
    hfSig := hp.hfSig
    hfSecret := by rw [hp.hfSecret]; exact hrep.writer
    hfShape := hp.hfShape
    oks := hp.oplog.entryOK
    fileNodes := hp.fileNodes
    fileSize := hp.fileSize
    stable := hp.stable
    kept := hp.kept
    low := hp.low
    below := hp.below
    held0Lt := hp.held0Lt
    contig := hp.hfContig
    small0 := hp.small0
    trace := hp.trace
    data := hrep.data }

/-- **recovery re-establishes both invariants**: opening durable stores yields a core that represents the
    log and satisfies the ghost invariant again (for the stores as `Hypercore::new` leaves them), so it
    can be used, closed, reopened and crashed again. -/
theorem recover_persist (C : Crypto) (hC : HashWF C) (hTw : TreeWF C) (d : Disk) (hf : Header) (a0 : Abs) (es : List Entry) (a : Abs)
    (h : Durable C d hf a0 es a) :
    ∃ c' j, Core.openCore C none d = .ok (c', j) ∧ Rep C c' (d.applyAll j) a ∧ Persist C c' (d.applyAll j) hf a0 es a := by
  obtain ⟨ost, ops, hlog, hops, hopinv⟩ := opimage_open _ hf es h.oplog
  obtain ⟨h', t', b', hopen, hinv, hs'⟩ := Reopen.reopen_full C hC hTw d ost hf es a0 a ops hops hlog h.hfLen h.hfSig
    h.hfShape h.oks h.fileNodes h.stable h.kept h.low h.below h.held0Lt h.contig h.small0 h.trace
  refine ⟨_, ops, hopen, ?_, ?_⟩
  -- the open writes to the oplog only: over the other stores the facts are those of `d`
  · exact Reopen.rep_of_rinv (fb := d.bitfield) (N := a.blocks.size) (by rw [Journal.applyAll_tree hops]; exact hinv)
      (by show h'.secret.isSome = a.writable; rw [hs']; exact h.hfSecret) (by rw [Journal.applyAll_data hops]; exact h.data)
      (trace_small C a0 a es h.trace h.small0)
  · rw [Disk.applyAll_eq_set d hops]
    exact {
      trace := h.trace
      small0 := h.small0
      fileNodes := h.fileNodes
      stable := h.stable
      kept := h.kept
      low := h.low
      below := h.below
      fileSize := h.fileSize
      held0Lt := h.held0Lt
      hfLen := h.hfLen
      hfSig := h.hfSig
      hfSecret := hs'.symm
      hfContig := h.contig
      dirty := hinv.dirty
      hdrLen := hinv.hdrLen
      hdrSig := hinv.hdrSig
      hdrSecret := rfl
      oplog := hopinv
      shape := hinv.shape
      forkU := hinv.forkU
      hfShape := h.hfShape }

-- each field of `Durable0` looks at one of the four stores

theorem Durable0.with_data {C : Crypto} {d : Disk} {hf : Header} {a0 : Abs} {es : List Entry} {a : Abs}
    (h : Durable0 C d hf a0 es a) {f : File} (hd : DataOK a.blocks a.held f) : Durable0 C { d with data := f } hf a0 es a :=
  { h with data := hd }

theorem Durable0.with_oplog {C : Crypto} {d : Disk} {hf : Header} {a0 : Abs} {es : List Entry} {a : Abs}
    (h : Durable0 C d hf a0 es a) {f : File} (ho : OpImage f hf es) : Durable0 C { d with oplog := f } hf a0 es a :=
  { h with oplog := ho }

theorem Durable0.with_tree {C : Crypto} {d : Disk} {hf : Header} {a0 : Abs} {es : List Entry} {a : Abs}
    (h : Durable0 C d hf a0 es a) {f : File} (hn : NodesOK C a0.blocks {} f) : Durable0 C { d with tree := f } hf a0 es a :=
  { h with fileNodes := hn }

/-- a bitfield store in which every bit is the old store's or the current log's (pages written ahead of the header, a page
    half written): `es` still leads from what it holds to the current log -/
theorem Durable0.with_bits {C : Crypto} {d : Disk} {hf : Header} {a0 : Abs} {es : List Entry} {a : Abs}
    (h : Durable0 C d hf a0 es a) {f : File}
    (hb : ∀ i, (Bitfield.ofFile f).get i = (Bitfield.ofFile d.bitfield).get i ∨ (Bitfield.ofFile f).get i = a.held i) :
    Durable0 C { d with bitfield := f } hf a0 es a :=
  { h with
    stable := by
      intro i hu
      show (Bitfield.ofFile f).get i = a0.held i
      rcases hb i with e | e
      · rw [e]; exact h.stable i hu
      · rw [e]; exact trace_untouched C a0 a es h.trace i hu
    kept := by
      intro i hh
      show (Bitfield.ofFile f).get i = true ∨ _
      rcases hb i with e | e
      · rw [e]; exact h.kept i hh
      · rw [e]; exact trace_kept C a0 a es h.trace i hh
    low := by
      intro i hi hh
      show (Bitfield.ofFile f).get i = false
      rcases hb i with e | e
      · rw [e]; exact h.low i hi hh
      · rw [e]; exact trace_low C a0 a es h.trace i hi hh
    below := by
      intro i hi
      change (Bitfield.ofFile f).get i = true at hi
      rcases hb i with e | e
      · rw [e] at hi; exact h.below i hi
      · rw [e] at hi; exact trace_heldLt C a0 a es h.trace h.held0Lt i hi }

theorem unflushed_ref (C : Crypto) (bs : Array Bytes) (t : Tree) (f : File) (hN : NodesOK C bs t f) (dd o : Nat) (n : Node)
    (hb : (o + 1) * 2 ^ dd ≤ bs.size) (hu : t.unflushed[Flat.index dd o]? = some n) : n = nodeAt C bs dd o := by
  have hold := hN dd o hb
  simp only [Tree.node?, hu] at hold
  cases hbk : n.blank with
  | true => simp [hbk] at hold
  | false => simpa [hbk] using hold

/-- an unflushed node that belongs in a slot which holds a reference node of the last flush (of the log `bs0`, since extended
    by `l`) is that node: both are the reference node of the current log -/
theorem unflushed_old (C : Crypto) (bs0 : Array Bytes) (l : List Bytes) (t : Tree) (g : File) (hN : NodesOK C (bs0 ++ l.toArray) t g)
    (n : Node) (hn : t.unflushed[n.index]? = some n) (dd o : Nat) (hb : (o + 1) * 2 ^ dd ≤ bs0.size) (hidx : n.index = Flat.index dd o) :
    n = nodeAt C bs0 dd o := by
  have hb' : (o + 1) * 2 ^ dd ≤ (bs0 ++ l.toArray).size := Nat.le_trans hb (size_append_list bs0 l ▸ Nat.le_add_right _ _)
  rw [unflushed_ref C _ t g hN dd o n hb' (hidx ▸ hn), nodeAt_append C bs0 l dd o hb]

theorem nodesOK_slots (C : Crypto) (bs0 : Array Bytes) (l : List Bytes) (t : Tree) (f : File) (L : List Node)
    (hwf : MapWF t.unflushed) (hN : NodesOK C (bs0 ++ l.toArray) t f) (hN0 : NodesOK C bs0 {} f)
    (hmem : ∀ n ∈ L, t.unflushed[n.index]? = some n) (hdist : L.Pairwise (fun a b => a.index ≠ b.index)) :
    NodesOK C bs0 {} (writeSlots f L) := fun dd o hb =>
  -- a slot that is rewritten gets the node it held
  writeSlots_keep L (fun n hn => (hwf _ _ (hmem n hn)).2) hdist f _ _ (hN0 dd o hb) fun n hn hidx =>
    unflushed_old C bs0 l t f hN n (hmem n hn) dd o hb hidx

/-- some dirty pages and a prefix of the unflushed nodes written ahead of the header: durable for the same ghosts -/
theorem durable_ahead (C : Crypto) (c : Core) (d : Disk) (hf : Header) (a0 a : Abs) (es : List Entry)
    (hrep : Rep C c d a) (h : Durable C d hf a0 es a) (ps : List Nat) (m : Nat) :
    Durable C { d with bitfield := writePages c.bitfield d.bitfield ps, tree := writeSlots d.tree ((flushList c.tree).take m) }
      hf a0 es a := by
  obtain ⟨g1, g2⟩ := writePages_bits c.bitfield d.bitfield h.fileSize ps
  have hbits : ∀ i, (Bitfield.ofFile (writePages c.bitfield d.bitfield ps)).get i = (Bitfield.ofFile d.bitfield).get i
      ∨ (Bitfield.ofFile (writePages c.bitfield d.bitfield ps)).get i = a.held i := by
    intro i
    rw [g1, ← hrep.bits]
    split
    · exact Or.inr rfl
    · exact Or.inl rfl
  -- the log has only grown since the last flush
  obtain ⟨l, hl⟩ := trace_blocks C a0 a es h.trace
  have hnodes : NodesOK C a0.blocks {} (writeSlots d.tree ((flushList c.tree).take m)) :=
    nodesOK_slots C a0.blocks l c.tree d.tree _ hrep.mapwf (hl ▸ hrep.nodes) h.fileNodes
      (fun n hn => (flushList_mem c.tree hrep.mapwf n).mp (List.mem_of_mem_take hn))
      ((flushList_distinct c.tree hrep.mapwf).sublist (List.take_sublist m _))
  exact ⟨(h.toDurable0.with_bits hbits).with_tree hnodes, g2⟩

theorem opimage_flush_cut (st : Oplog.State) (f : File) (hf : Header) (es : List Entry) (h' : Header) (ct : Bool)
    (h : OpInv st f.toList hf es) (hok : HeaderOK h') (m : Nat) (hm : 1 ≤ m) :
    OpImage (((Oplog.flush st h' ct).2.take m).foldl (fun g op => op.onFile g) f) h' [] := by
  obtain ⟨m, rfl⟩ : ∃ m', m = m' + 1 := ⟨m - 1, (Nat.sub_add_cancel hm).symm⟩
  cases m with
  | zero =>
    -- the header is written, the entry region not yet truncated
    refine Or.inr ⟨st, f, hf, es, ct, h, hok, rfl, ?_⟩
    cases ct
    · rw [flush_ops, insertHeader_ops]; rfl
    · rw [flush_ops_clear, insertHeader_ops]; rfl
  | succ m =>
    cases ct with
    | false =>
      rw [List.take_of_length_le (by rw [flush_ops]; exact Nat.le_add_left 2 m)]
      exact opimage_of_inv _ _ _ _ (opinv_flush st f hf es h' h hok)
    | true =>
      cases m with
      | zero =>
        have := opinv_insert st f hf es h' true h hok
        rw [flush_ops_clear]
        rw [insertHeader_ops] at this
        exact opimage_of_inv _ _ _ _ this
      | succ m =>
        rw [List.take_of_length_le (by rw [flush_ops_clear]; exact Nat.le_add_left 3 m)]
        exact opimage_of_inv _ _ _ _ (opinv_flush_traces st f hf es h' h hok)

theorem durable_flushed (C : Crypto) (c : Core) (d : Disk) (hf : Header) (es : List Entry) (a : Abs) (ct : Bool)
    (hD : Durable C (d.applyAll (c.flushAll ct).2) c.header a [] a) (hop : OpInv c.oplog d.oplog.toList hf es)
    (hok : HeaderOK c.header) (m : Nat) (hm : 1 ≤ m) :
    Durable C { d with bitfield := writePages c.bitfield d.bitfield c.bitfield.dirty, tree := writeSlots d.tree (flushList c.tree),
                       oplog := ((Oplog.flush c.oplog c.header ct).2.take m).foldl (fun g op => op.onFile g) d.oplog }
      c.header a [] a := by
  rw [flushAll_disk] at hD
  exact ⟨hD.toDurable0.with_oplog (opimage_flush_cut c.oplog d.oplog hf es c.header ct hop hok m hm), hD.fileSize⟩

theorem durable_flushAll (C : Crypto) (hC : HashWF C) (c : Core) (d : Disk) (hf : Header) (a0 a : Abs) (es : List Entry)
    (hrep : Rep C c d a) (hp : Persist C c d hf a0 es a) (ct : Bool) :
    Durable C (d.applyAll (c.flushAll ct).2) c.header a [] a :=
  persist_durable C _ _ _ _ _ _ (hrep.flushAll hC ct)
    (flushAll_persist C hC c d hf a es ct hrep hp.oplog hp.fileSize hp.dirty hp.shape hp.hdrLen hp.hdrSig hp.hdrSecret hp.forkU)

/-- **a flush cut at any point.**  The flushing core `c1` has the bitfield and tree of a core `c` that represents the log
    `a` on durable stores; `a1` is the log the stores are durable for once the flush is complete (`a` itself for a periodic
    flush, `a` read-only for `make_read_only`, where `c1` is `c` without its secret).  Until the header write the stores are
    durable for `a`, from then on for `a1`. -/
theorem crash_flush_cut (C : Crypto) (c : Core) (d : Disk) (hf : Header) (a0 a : Abs) (es : List Entry)
    (hrep : Rep C c d a) (hdur : Durable C d hf a0 es a) (c1 : Core) (a1 : Abs) (hb : c1.bitfield = c.bitfield) (ht : c1.tree = c.tree)
    (ct : Bool) (hD : Durable C (d.applyAll (c1.flushAll ct).2) c1.header a1 [] a1) (hop : OpInv c1.oplog d.oplog.toList hf es)
    (hok : HeaderOK c1.header) (k : Nat) :
    (∃ hf' a0' es', Durable C (d.applyAll ((c1.flushAll ct).2.take k)) hf' a0' es' a)
      ∨ (∃ hf' a0' es', Durable C (d.applyAll ((c1.flushAll ct).2.take k)) hf' a0' es' a1) := by
  rcases flushAll_take_cases c1 d ct k with ⟨ps, m, e⟩ | ⟨m, hm, e⟩
  · rw [e, hb, ht]
    exact Or.inl ⟨hf, a0, es, durable_ahead C c d hf a0 a es hrep hdur ps m⟩
  · rw [e]
    exact Or.inr ⟨c1.header, a1, [], durable_flushed C c1 d hf es a1 ct hD hop hok m hm⟩

/-- **the flush decision of a call cut at any point leaves durable stores for the same log** -/
theorem crash_flush (C : Crypto) (hC : HashWF C) (c : Core) (d : Disk) (hf : Header) (a0 a : Abs) (es : List Entry)
    (hrep : Rep C c d a) (hp : Persist C c d hf a0 es a) (k : Nat) :
    ∃ hf' a0' es', Durable C (d.applyAll (c.maybeFlush.2.take k)) hf' a0' es' a := by
  rw [maybeFlush_snd]
  split
  · exact (crash_flush_cut C c d hf a0 a es hrep (persist_durable C c d hf a0 es a hrep hp) c a rfl rfl false
      (durable_flushAll C hC c d hf a0 a es hrep hp false) hp.oplog (headerOK_of_shape _ hp.shape) k).elim id id
  · rw [List.take_nil]
    exact ⟨hf, a0, es, persist_durable C c d hf a0 es a hrep hp⟩

theorem durable_readOnly (C : Crypto) (hC : HashWF C) (c : Core) (d : Disk) (hf : Header) (a0 a : Abs) (es : List Entry)
    (hrep : Rep C c d a) (hp : Persist C c d hf a0 es a) :
    Durable C (d.applyAll (({ c with secret := none, header := { c.header with secret := none } } : Core).flushAll true).2)
      { c.header with secret := none } { a with writable := false } [] { a with writable := false } :=
  persist_durable C _ _ _ _ _ _ ((rep_drop_secret C c d a hrep).flushAll hC true)
    (flushAll_persist C hC _ d hf _ es true (rep_drop_secret C c d a hrep) hp.oplog hp.fileSize hp.dirty (hdrShape_nosecret _ hp.shape)
      hp.hdrLen hp.hdrSig rfl hp.forkU)

/-- **`make_read_only` cut anywhere**: the stores are durable for the writable log (until the first header write
    reaches the store) or for the same log, read-only (from then on) -/
theorem crash_ro (C : Crypto) (hC : HashWF C) (c : Core) (d : Disk) (hf : Header) (a0 a : Abs) (es : List Entry)
    (hrep : Rep C c d a) (hp : Persist C c d hf a0 es a) (hw : a.writable = true) (k : Nat) :
    (∃ hf' a0' es', Durable C (d.applyAll (c.makeReadOnly.journal.take k)) hf' a0' es' a)
      ∨ (∃ hf' a0' es', Durable C (d.applyAll (c.makeReadOnly.journal.take k)) hf' a0' es' { a with writable := false }) := by
  have hj : c.makeReadOnly.journal = (({ c with secret := none, header := { c.header with secret := none } } : Core).flushAll true).2 := by
    rw [makeReadOnly_writer c (by rw [hrep.writer]; exact hw)]
  rw [hj]
  exact crash_flush_cut C c d hf a0 a es hrep (persist_durable C c d hf a0 es a hrep hp)
    { c with secret := none, header := { c.header with secret := none } } _ rfl rfl true
    (durable_readOnly C hC c d hf a0 a es hrep hp) hp.oplog (headerOK_of_shape _ (hdrShape_nosecret _ hp.shape)) k

/-- from the entry write up to the flush decision the stores differ from those at the flush decision in the data store only -/
theorem _root_.HC.Persist.Logged.mid {C : Crypto} {c : Core} {d : Disk} {hf : Header} {a0 : Abs} {es : List Entry} {a a' : Abs} {pre : List SOp} {ow : SOp}
    {entry : Entry} {post : List SOp} {c1 : Core} (L : Logged C c d hf a0 es a a' pre ow entry post c1) {f : File} (hd : DataOK a'.blocks a'.held f) :
    Durable C ((d.applyAll (pre ++ [ow])).set .data f) hf a0 (es ++ [entry]) a' := by
  have hmid := persist_durable C c1 _ hf a0 _ a' L.rep L.persist
  rw [List.append_cons, Journal.applyAll_append, Journal.applyAll_only L.postData] at hmid
  exact ⟨hmid.toDurable0.with_data hd, hmid.fileSize⟩

/-- **the journal of a call that logs one entry, cut anywhere**: inside `pre` the stores are durable for the log before the
    call; from the entry write on, for the log after it -/
theorem logged_cut (C : Crypto) (hC : HashWF C) (c : Core) (d : Disk) (hf : Header) (a0 : Abs) (es : List Entry) (a a' : Abs)
    (pre : List SOp) (ow : SOp) (entry : Entry) (post : List SOp) (c1 : Core) (L : Logged C c d hf a0 es a a' pre ow entry post c1)
    (hdur : Durable C d hf a0 es a) (k : Nat) :
    (∃ hf' a0' es', Durable C (d.applyAll ((pre ++ ow :: post ++ c1.maybeFlush.2).take k)) hf' a0' es' a)
      ∨ (∃ hf' a0' es', Durable C (d.applyAll ((pre ++ ow :: post ++ c1.maybeFlush.2).take k)) hf' a0' es' a') := by
  rcases take_cut pre ow post c1.maybeFlush.2 k with ⟨_, e⟩ | ⟨m, e⟩ | ⟨m, e⟩
  · left
    rw [e, Journal.applyAll_only (Journal.on_take L.preData k)]
    exact ⟨hf, a0, es, hdur.toDurable0.with_data (L.preOK k), hdur.fileSize⟩
  · right
    rw [e, Journal.applyAll_append, Journal.applyAll_only (Journal.on_take L.postData m)]
    exact ⟨hf, a0, _, L.mid (L.postOK m)⟩
  · right
    rw [e, Journal.applyAll_append]
    exact crash_flush C hC c1 _ hf a0 a' _ L.rep L.persist m

/-- **C02 on the model, one call.**  Whatever prefix of the call's storage operations reached the stores,
    they are durable for the log before the call or for the log after it. -/
theorem crash_step (C : Crypto) (hC : HashWF C) (hS : SignWF C) (hTw : TreeWF C) (c : Core) (d : Disk) (hf : Header) (a0 a : Abs)
    (es : List Entry) (hrep : Rep C c d a) (hp : Persist C c d hf a0 es a) (op : Op) (hv : Valid a op) (hl : Limits a op) (k : Nat) :
    (∃ hf' a0' es', Durable C (crashDisk C (c, d) op k) hf' a0' es' a)
      ∨ (∃ hf' a0' es', Durable C (crashDisk C (c, d) op k) hf' a0' es' (a.step op).1) := by
  have hdur := persist_durable C c d hf a0 es a hrep hp
  unfold crashDisk
  rcases call_cases C hC hS hTw c d hf a0 a es hrep hp op hv hl with ⟨_, _, hj⟩ | ⟨pre, ow, entry, post, c1, hj, _, L⟩ | ⟨rfl, hw⟩
  · rw [hj, List.take_nil]
    exact Or.inl ⟨hf, a0, es, hdur⟩
  · rw [hj]
    exact logged_cut C hC c d hf a0 es a _ pre ow entry post c1 L hdur k
  · rw [step_makeReadOnly a hw]
    exact crash_ro C hC c d hf a0 a es hrep hp hw k

end HC.Crash
