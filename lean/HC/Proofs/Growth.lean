import HC.Proofs.GrowthCore
/-!
The writer's side of a growth round, for any sub tree, block request and local proof.  The right siblings along the path from
the replica's last leaf to the first new root (`Growth.rightSibs`, in `GrowthTree.lean`, where `grow_rightSibs` shows them to be
the honest `Grow` list) lie inside that root (`rightSibs_bound`); `connectWalk_treatAll`: the "connect existing tree" walk of
`upgrade_proof` is `treatAll` (`CreateTotal.lean`) of them, on any tree; `rootWalk_up`: the root loop in its list form (`rootWalk`)
skips the roots the replica has and is `treatAll` of the honest position list `Up`.  `create_growth_proof` reads the answer to a
plain upgrade request off these with `treatAll_plain` (`UpgradeComplete.lean`), the only step that needs the writer's tree.
-/
namespace HC.Growth
open HC HC.Codec HC.Flat HC.Tree HC.RefTree HC.RefProof HC.Sound HC.Offsets HC.TreeStore HC.Complete HC.UpgradeSound HC.CreateTotal HC.Replica HC.FullRoots HC.Pow2 HC.UpgradeComplete

theorem up_bound (m n : Nat) (ln : List (Nat × Nat)) (s : Nat) (us : List (Nat × Nat)) (hc : Cover ln s n) (hup : Up m s ln us) :
    ∀ q ∈ us, (q.2 + 1) * 2 ^ q.1 ≤ n :=
  (BlockNew.up_cover m n ln s us hc hup).bound

/-- the right siblings along a path lie inside the span of the path's last node -/
theorem rightSibs_bound : ∀ (gap j q : Nat), ∀ x ∈ rightSibs gap j q, (x.2 + 1) * 2 ^ x.1 ≤ (q / 2 ^ gap + 1) * 2 ^ (j + gap) := by
  intro gap
  induction gap with
  | zero => intro j q x hx; cases hx
  | succ gap ih =>
    intro j q x hx
    have e : j + 1 + gap = j + (gap + 1) := by rw [Nat.add_assoc, Nat.add_comm 1 gap]
    have hup : (q / 2 + 1) * 2 ^ (j + 1) ≤ (q / 2 ^ (gap + 1) + 1) * 2 ^ (j + (gap + 1)) := by
      have := span_le (q / 2) (j + 1) gap
      rwa [div_pow_succ, e] at this
    rw [rightSibs] at hx
    rcases List.mem_append.mp hx with h | h
    · split at h
      next hev =>
        rw [List.mem_singleton.mp h, ← parent_end_even j q hev]
        exact hup
      next => cases h
    · have := ih (j + 1) (q / 2) x h
      rwa [div_pow_succ, e] at this

/-- the right siblings on the way from leaf `x` to a root inside the tree lie inside the tree -/
theorem rightSibs_inside {x D O n gap j : Nat} (hR : (O + 1) * 2 ^ D ≤ n) (hj : j + gap = D) (hO : x / 2 ^ (j + gap) = O) :
    ∀ y ∈ rightSibs gap j (x / 2 ^ j), (y.2 + 1) * 2 ^ y.1 ≤ n := fun y hy => by
  have hb := rightSibs_bound gap j _ y hy
  rw [Nat.div_div_eq_div_mul, ← Nat.pow_add, hO, hj] at hb
  exact Nat.le_trans hb hR

section
variable {t : Tree} {f : File} {useSub : Bool} {ix : Option Indexed} {sk : Bool} {sub : Nat} {acc : List Node} {p : LocalProof}

/-- one level of the walk towards `root` with leaf `x` as target, from the ancestor `(j, q)` of `x`: a right sibling is
    treated, a left one passed over -/
theorem connectWalk_step {x root j q fuel : Nat} (hne : (iat j q).index ≠ root) (hq1 : q * 2 ^ j ≤ x) (hq2 : x < (q + 1) * 2 ^ j) :
    t.connectWalk f useSub ix sk sub root (2 * x) (fuel + 1) (iat j q) acc p
      = andThen (t.treatAll f useSub ix sk sub (if q % 2 = 0 then [(j, q + 1)] else []) acc p) fun w =>
          t.connectWalk f useSub ix sk sub root (2 * x) fuel (iat (j + 1) (q / 2)) w.1 w.2 := by
  by_cases hev : q % 2 = 0
  · have hsib : (iat j q).sibling = iat j (q + 1) := iat_sibling_even j q hev
    have hgt : (iat j q).sibling.index > 2 * x := by
      rw [hsib]
      exact Nat.lt_of_lt_of_le (Nat.mul_lt_mul_of_pos_left hq2 (by decide)) (index_ge_start j (q + 1))
    rw [connectWalk_send hne hgt, iat_sib_parent, hsib, if_pos hev, treatAll, andThen_assoc]
    rfl
  · obtain ⟨r, rfl⟩ := Nat.exists_eq_add_one_of_ne_zero (show q ≠ 0 from fun h0 => hev (by rw [h0]))
    have hle : ¬ (iat j (r + 1)).sibling.index > 2 * x := by
      rw [iat_sibling_odd j (r + 1) (Nat.mod_two_ne_zero.mp hev), Nat.add_sub_cancel]
      exact Nat.not_lt_of_ge (Nat.le_trans (Nat.le_of_lt (index_lt_end j r)) (Nat.mul_le_mul_left 2 hq1))
    rw [connectWalk_pass hne hle, iat_sib_parent, if_neg hev]
    rfl

/-- **the walk from leaf `x` up to the root `(D, O)` above it treats the right siblings along the way**, bottom up, one round of
    fuel per level -/
theorem connectWalk_treatAll {x D O gap j fuel : Nat} (hj : j + gap = D) (hO : x / 2 ^ (j + gap) = O) (hf : gap < fuel) :
    t.connectWalk f useSub ix sk sub (Flat.index D O) (2 * x) fuel (iat j (x / 2 ^ j)) acc p
      = t.treatAll f useSub ix sk sub (rightSibs gap j (x / 2 ^ j)) acc p := by
  induction gap generalizing j fuel acc p with
  | zero =>
    obtain ⟨fuel, rfl⟩ := Nat.exists_eq_add_one_of_ne_zero (Nat.ne_of_gt hf)
    rw [Nat.add_zero] at hj hO
    have hroot : (iat j (x / 2 ^ j)).index = Flat.index D O := by rw [hO, hj, iat_index]
    rw [connectWalk_root hroot]
    rfl
  | succ gap ih =>
    obtain ⟨fuel, rfl⟩ := Nat.exists_eq_add_one_of_ne_zero (Nat.ne_of_gt (Nat.zero_lt_of_lt hf))
    have e : j + 1 + gap = j + (gap + 1) := by rw [Nat.add_assoc, Nat.add_comm 1 gap]
    rw [connectWalk_step (index_ne_root (hj ▸ Nat.lt_add_of_pos_right (Nat.succ_pos gap))) (Nat.div_mul_le_self _ _) (lt_succ_div_mul x _ (pow_pos' j)),
      rightSibs, treatAll_append, div_pow_succ']
    exact congrArg (andThen _) (funext fun w => ih (e.trans hj) (by rw [e]; exact hO) (Nat.lt_of_succ_lt_succ hf))

end

/-- the "connect existing tree" walk of `upgrade_proof`: from leaf `m − 1` up to the root, it collects the right siblings -/
theorem connectWalk_honest (C : Crypto) (bs : Array Bytes) (t : Tree) (f : File) (hN : NodesOK C bs t f) (m : Nat) (hm0 : 0 < m)
    (sub : Nat) (hsub : 2 * bs.size ≤ sub) (p : LocalProof) (D O : Nat) (hR : (O + 1) * 2 ^ D ≤ bs.size) :
    ∀ (gap j fuel : Nat) (acc : List Node), j + gap = D → (m - 1) / 2 ^ (j + gap) = O → gap < fuel →
      connectWalk t f true none false sub (Flat.index D O) (2 * (m - 1)) fuel (iat j ((m - 1) / 2 ^ j)) acc p
        = .ok (acc ++ (rightSibs gap j ((m - 1) / 2 ^ j)).map (fun q => nodeAt C bs q.1 q.2), p) := by
  intro gap j fuel acc hj hO hf
  -- nothing inside the root contains a sub tree beyond the writer's length
  have hb := rightSibs_inside hR hj hO
  rw [connectWalk_treatAll hj hO hf]
  exact treatAll_plain hN hb fun x hx => by
    rw [iat_contains_ge (Nat.le_trans (Nat.mul_le_mul_left 2 (hb x hx)) hsub), Bool.and_false]

/-- **`rootWalk` for an upgrade from `x + 1`**, over the roots `ln` of an `n`-leaf tree from leaf `s` on, with any sub tree and
    any local proof: the roots the replica has are skipped; if its length is a root boundary, all that follow are treated;
    if not, the walk from its last leaf `x` to the first new root treats the right siblings on the way — the `Grow` list — and
    the later roots follow.  Together: the honest position list `us`. -/
theorem rootWalk_up {t : Tree} {f : File} {x n : Nat} (hN : n < 2 ^ 64) (hmn : x + 1 < n) {ix : Option Indexed} {sk : Bool} {sub : Nat}
    {ln : List (Nat × Nat)} {s : Nat} {us : List (Nat × Nat)} {acc : List Node} {p : LocalProof} (hc : Cover ln s n) (hup : Up (x + 1) s ln us) :
    rootWalk t f true ix sk (2 * (x + 1)) sub ln false acc p = andThen (t.treatAll f true ix sk sub us acc p) fun w => .ok (true, w.1, w.2) := by
  have hleaf : 2 * (x + 1) - 2 = 2 * x := Nat.add_sub_cancel (n := 2 * x) (m := 2)
  induction hup generalizing acc p with
  | skip d o ln us hend _ ih =>
    rw [rootWalk, if_pos (Nat.mul_le_mul_left 2 hend)]
    exact ih hc.tail
  | plain ln =>
    -- the replica's length is a root boundary of the writer: this root and all that follow are treated
    cases hc with
    | nil => exact absurd rfl (Nat.ne_of_lt hmn)
    | cons d o _ _ rest hs hrest =>
      refine rootWalk_roots (cover_noskip (Cover.cons d o _ _ rest hs hrest) (Nat.le_refl _)) ?_
      rw [hleaf, iat_contains_leaf]
      exact congrArg _ (decide_eq_false fun h => Nat.lt_irrefl x (Nat.lt_of_lt_of_le (Nat.lt_of_lt_of_eq (Nat.lt_succ_self x) hs) h.1))
  | grow d o ln gs hlt hgt hg =>
    have hin : o * 2 ^ d ≤ x ∧ x < (o + 1) * 2 ^ d := ⟨Nat.le_of_lt_succ hlt, Nat.lt_of_succ_lt hgt⟩
    have hgs := grow_rightSibs d o gs (x + 1) _ hg rfl hlt
    rw [Nat.add_sub_cancel] at hgs
    -- 80 is the fuel `upgrade_proof` gives the walk: one round per level, and the root's depth is below 64
    have hwalk : _ = t.treatAll f true ix sk sub _ acc p := connectWalk_treatAll (O := o) (fuel := 80) (Nat.zero_add d)
      (by rw [Nat.zero_add]; exact div_eq_of_span x d o hin.1 hin.2)
      (Nat.lt_trans (Pow2.depth_lt_of_span (hc.bound _ (List.mem_cons_self ..)) hN) (by decide))
    rw [Nat.pow_zero, Nat.div_one, ← hgs] at hwalk
    rw [rootWalk, if_neg (Nat.not_le_of_gt (Nat.mul_lt_mul_of_pos_left hgt (by decide))), hleaf, iat_contains_leaf,
      if_pos (by rw [decide_eq_true hin]; rfl), new_even, hwalk, treatAll_append, andThen_assoc]
    exact congrArg (andThen _) (funext fun w => rootWalk_tail (cover_noskip hc.tail (Nat.mul_le_mul_left 2 (Nat.le_of_lt hgt))))

theorem upgradeLoop_up (C : Crypto) (bs : Array Bytes) (t : Tree) (f : File) (hNodes : NodesOK C bs t f) (hN : bs.size < 2 ^ 64)
    (m : Nat) (hm0 : 0 < m) (hmn : m < bs.size) (sub : Nat) (hsub : 2 * bs.size ≤ sub) (p : LocalProof) :
    ∀ (ln : List (Nat × Nat)) (fuel s : Nat) (acc : List Node) (us : List (Nat × Nat)), Cover ln s bs.size → DecDepth ln → Align s bs.size →
      Up m s ln us → ln.length < fuel →
      t.upgradeLoop f true none false (2 * m) (2 * bs.size) sub fuel (iat 0 s) false acc p
        = .ok (true, acc ++ us.map (fun q => nodeAt C bs q.1 q.2), p) := by
  intro ln fuel s acc us hc hdec hal hup hfuel
  obtain ⟨x, rfl⟩ := Nat.exists_eq_add_one_of_ne_zero (Nat.ne_of_gt hm0)
  -- no node of the list contains a sub tree beyond the writer's length
  have hb := up_bound _ _ ln s us hc hup
  rw [upgradeLoop_rootWalk hN hc hdec hal hfuel, rootWalk_up hN hmn hc hup, treatAll_plain hNodes hb fun q hq => by
      rw [iat_contains_ge (Nat.le_trans (Nat.mul_le_mul_left 2 (hb q hq)) hsub), Bool.and_false]]
  rfl

/-- **the writer's answer to "upgrade me from `m` to your length"** is the honest position list with its signature -/
theorem create_growth_proof (C : Crypto) (bs : Array Bytes) (t : Tree) (f : File) (hT : RootsOK C bs t.changeset)
    (hNodes : NodesOK C bs t f) (hN : bs.size < 2 ^ 64) (m : Nat) (hm0 : 0 < m) (hmn : m < bs.size) (sig : Bytes) (hsig : t.signature = some sig)
    (us : List (Nat × Nat)) (hup : Up m 0 (rootsStack bs.size).reverse us) :
    t.createValuelessProof f none none none (some ⟨m, bs.size - m⟩)
      = .ok ⟨t.fork, none, none, none, some ⟨m, bs.size - m, us.map (fun q => nodeAt C bs q.1 q.2), [], sig⟩⟩ := by
  -- 80 is the fuel `upgrade_proof` gives the root loop: one round per root, and a length below 2^64 has at most 64
  have hl64 : (rootsStack bs.size).reverse.length < 80 := by
    rw [List.length_reverse]; exact Nat.lt_of_le_of_lt (rootsStack_length_log 64 bs.size hN) (by decide)
  have hloop := upgradeLoop_up C bs t f hNodes hN m hm0 hmn (2 * bs.size) (Nat.le_refl _) {} (rootsStack bs.size).reverse 80 0 [] us
    (cover_roots bs.size) (rootsStack_rev_dec bs.size) (align_zero _) hup hl64
  exact create_of_loop t f none m bs.size hT.length hmn hsig rfl (decide_eq_false (Nat.ne_of_gt (Nat.mul_pos (by decide) hm0))).symm hloop (fun h => by cases h)

/-- the honest upgrade in terms of the final log is the one in terms of the writer's log at that moment -/
theorem honestGrowth_extract (C : Crypto) (bs : Array Bytes) (n : Nat) (hn : n ≤ bs.size) (fork m : Nat) (us : List (Nat × Nat)) (sig : Bytes)
    (hup : Up m 0 (rootsStack n).reverse us) :
    honestGrowth C (bs.extract 0 n) fork m n us sig = honestGrowth C bs fork m n us sig := by
  simp only [honestGrowth]
  congr 3
  apply List.map_congr_left
  intro q hq
  exact nodeAt_extract C bs n hn q.1 q.2 (up_bound m n _ 0 us (cover_roots n) hup q hq)

end HC.Growth
