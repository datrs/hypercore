import HC.Proofs.Sound
import HC.Proofs.UpgradeSound
/-!
Soundness of the tree sections of a proof (C04): what the root that `verify_tree` arrives at authenticates.

`verify_proof` compares that root with a stored node unless the upgrade has consumed it (`verifyProof_root`); on a
replica whose stored nodes are the writer's the comparison makes it the writer's.  The rest is the hash climb read
downwards, for any log `B` in which the root is authentic (`climb_path`, and one lemma per combination of sections).

A **seek section** is hashed up to its root first; that root then waits in the queue of the block / hash climb as
its *extra* node, and the climb's loop (`while q.length > 0`) does not end before it has been consumed as a
sibling (`climb_extra`).  So the seek root is authenticated with the siblings of the block, and with it —
`climb_sound` again — every hash of the seek section.  Sizes: a parent's hash covers the *sum* of its children's
sizes, so the sizes of the two bottom nodes of a hash or seek section are not authenticated individually (what C04's
quantifier excludes); the theorems say: if the bottom node's size is the writer's, every node is the writer's.

The two climbs of a proof with a seek section are stated for any log in which the last root is authentic
(`HashUpgradeSound.SecOK`, `HSOK`, `block_seek_tail`, `hash_seek_tail1/2`, in the namespace of the file that applies
them to the log an upgrade authenticates); the block-only and seek-only cases are `C04.sound_block`, `C04.sound_seek`.
-/
namespace HC.SeekSound
open HC HC.Codec HC.Flat HC.Tree HC.RefTree HC.RefProof HC.Sound HC.CreateTotal HC.TreeStore HC.UpgradeSound

theorem stored_auth (C : Crypto) (bs : Array Bytes) (t : Tree) (f : File) (hauth : StoreAuthentic C bs t f) (r v : Node)
    (hreq : t.requiredNode f r.index = .ok v) (hh : v.hash = r.hash) : AuthH C bs r := by
  intro d o hi
  rw [← hh]
  exact hauth d o v (by rw [← hi]; exact (requiredNode_eq_ok_iff ..).mp hreq)

/-- What `verify_proof` does with the root its tree sections hash up to: it is compared with the stored node —
    on a replica whose stored nodes are the writer's it then carries the writer's hash — unless the proof has an
    upgrade that consumed it. -/
theorem verifyProof_root (C : Crypto) (bs : Array Bytes) (t : Tree) (f : File) (pk : Bytes) (p : Proof) (cs' : Changeset)
    (hauth : StoreAuthentic C bs t f) (hv : t.verifyProof C f p pk = .ok cs') :
    ∃ root cs1, verifyTree C p.block p.hash p.seek t.changeset = .ok (root, cs1) ∧ cs1.roots = t.changeset.roots
      ∧ ∀ r, root = some r →
          AuthH C bs r ∨ ∃ u, p.upgrade = some u ∧ verifyUpgrade C p.fork u (some r) pk cs1 = .ok (true, cs') := by
  obtain ⟨root, cs1, hvt, h⟩ := (verifyProof_ok_iff ..).mp hv
  obtain ⟨rn, rfl⟩ := verifyTree_rnodes C _ _ _ _ _ _ hvt
  refine ⟨root, _, hvt, rfl, fun r hr => ?_⟩
  subst hr
  have hst : (∀ r', some r = some r' → ∃ v, t.requiredNode f r'.index = .ok v ∧ v.hash = r'.hash) → AuthH C bs r :=
    fun h => let ⟨v, h1, h2⟩ := h r rfl; stored_auth C bs t f hauth r v h1 h2
  rcases h with ⟨_, _, h⟩ | ⟨u, consumed, hu, hvu, hc | h⟩
  · exact Or.inl (hst h)
  · subst hc
    exact Or.inr ⟨u, hu, hvu⟩
  · exact Or.inl (hst h)

theorem verifyProof_root_stored (C : Crypto) (bs : Array Bytes) (t : Tree) (f : File) (pk : Bytes) (p : Proof) (cs' : Changeset)
    (hu : p.upgrade = none) (hauth : StoreAuthentic C bs t f) (hv : t.verifyProof C f p pk = .ok cs') :
    ∃ root cs1, verifyTree C p.block p.hash p.seek t.changeset = .ok (root, cs1) ∧ ∀ r, root = some r → AuthH C bs r := by
  obtain ⟨root, cs1, hvt, _, h⟩ := verifyProof_root C bs t f pk p cs' hauth hv
  refine ⟨root, cs1, hvt, fun r hr => (h r hr).elim id fun ⟨u, hu', _⟩ => ?_⟩
  rw [hu] at hu'
  cases hu'

/-- what a section that starts with the node `n0` at `(d, o)` and goes on with `rest` establishes about a log `B`:
    `n0` carries the writer's hash, and if its size is the writer's, every other node is the writer's node -/
def PathOK (C : Crypto) (B : Array Bytes) (n0 : Node) (rest : List Node) (d o : Nat) : Prop :=
  n0.hash = (RefTree.node C B d o).2 ∧ (n0.length = (RefTree.node C B d o).1 → ∀ n ∈ rest, ∃ dn on, n = nodeAt C B dn on)

theorem climb_path (C : Crypto) (B : Array Bytes) (nodes : List Node) (fuel d o : Nat) (cur : Node) (rn : List Node)
    (root : Node) (rn' : List Node) (h : climb C fuel (plainQueue nodes) (iat d o) cur rn = .ok (root, rn'))
    (hc : cur.index = Flat.index d o) (hroot : AuthH C B root) : Collision C ∨ PathOK C B cur nodes d o := by
  obtain ⟨hidx, hsound⟩ := climb_sound C B nodes fuel d o cur rn root rn' h hc
  exact (hsound (hroot _ _ hidx)).imp_right fun ⟨h1, h2⟩ => ⟨h1, fun hl => (h2 hl).2⟩

theorem block_path (C : Crypto) (B : Array Bytes) (i : Nat) (v : Bytes) (nodes : List Node) (fuel : Nat) (rn : List Node)
    (root : Node) (rn' : List Node)
    (h : climb C fuel (plainQueue nodes) (iat 0 i) (blockNode C (Flat.index 0 i) v) rn = .ok (root, rn'))
    (hroot : AuthH C B root) : Collision C ∨ (v = B.getD i [] ∧ ∀ n ∈ nodes, ∃ dn on, n = nodeAt C B dn on) := by
  obtain ⟨hidx, _⟩ := climb_sound C B nodes fuel 0 i _ rn root rn' h rfl
  rw [Nat.zero_add] at hidx
  exact (block_sound C B i v nodes fuel rn root rn' h (hroot _ _ hidx)).imp_right fun ⟨h1, _, h3⟩ => ⟨h1, h3⟩

/-- a queue with an extra node behaves like the plain queue with that node inserted where the climb takes it -/
theorem climb_extra (C : Crypto) (x : Node) : ∀ (nodes : List Node) (fuel : Nat) (it : Iter) (cur : Node) (rn : List Node) (root : Node) (rn' : List Node),
    climb C fuel ⟨nodes, some x, nodes.length + 1⟩ it cur rn = .ok (root, rn') →
    ∃ j, j ≤ nodes.length ∧ climb C fuel (plainQueue (nodes.take j ++ x :: nodes.drop j)) it cur rn = .ok (root, rn') := by
  intro nodes fuel
  induction fuel generalizing nodes with
  | zero => intro it cur rn root rn' h; cases h
  | succ fuel ih =>
    intro it cur rn root rn' h
    rw [climb_succ, ite_andThen_ok_iff] at h
    rcases h with ⟨h0, _⟩ | ⟨_, n, q', hsh, hc⟩
    · cases h0
    rcases (shift_ok_iff ..).mp hsh with ⟨hx, hi, rfl⟩ | ⟨_, ns, hn, hi, rfl⟩
    · -- the extra node is taken now
      cases hx
      refine ⟨0, Nat.zero_le _, ?_⟩
      rw [List.take_zero, List.drop_zero, List.nil_append, climb_succ, if_neg (plainQueue_cons_length _ _), shift_plain x nodes _ hi]
      exact hc
    · cases hn
      obtain ⟨j, hj, hc'⟩ := ih ns _ _ _ root rn' hc
      refine ⟨j + 1, Nat.succ_le_succ hj, ?_⟩
      rw [List.take_succ_cons, List.drop_succ_cons, List.cons_append, climb_succ, if_neg (plainQueue_cons_length _ _),
        shift_plain n _ _ hi]
      exact hc'

theorem forall_insert {α : Type} {P : α → Prop} {l : List α} {j : Nat} {x : α} (h : ∀ a ∈ l.take j ++ x :: l.drop j, P a) :
    P x ∧ ∀ a ∈ l, P a := by
  refine ⟨h x (List.mem_append_right _ List.mem_cons_self), fun a ha => h a ?_⟩
  rw [← List.take_append_drop j l] at ha
  rcases List.mem_append.mp ha with ha | ha
  · exact List.mem_append_left _ ha
  · exact List.mem_append_right _ (List.mem_cons_of_mem _ ha)

end HC.SeekSound

namespace HC.HashUpgradeSound
open HC HC.Codec HC.Flat HC.Tree HC.RefTree HC.RefProof HC.Sound HC.TreeStore HC.UpgradeSound HC.SeekSound

/-- what a block + seek proof establishes about a log `B` -/
def SecOK (C : Crypto) (B : Array Bytes) (b : DataBlock) (n0 : Node) (srest : List Node) : Prop :=
  b.value = B.getD b.index [] ∧ (∀ n ∈ b.nodes, ∃ dn on, n = nodeAt C B dn on)
    ∧ ∃ d o, n0.index = Flat.index d o ∧ n0.hash = (RefTree.node C B d o).2
      ∧ (n0.length = (RefTree.node C B d o).1 → ∀ n ∈ srest, ∃ dn on, n = nodeAt C B dn on)

/-- the two climbs of a block + seek proof; `hroot` is `AuthH C B root` -/
theorem block_seek_tail (C : Crypto) (B : Array Bytes) (b : DataBlock) (n0 : Node) (srest : List Node) (d o : Nat) (hidx : n0.index = Flat.index d o)
    (rn0 rn1 rn2 : List Node) (sroot root : Node) (fs fb : Nat)
    (hcs : climb C fs (plainQueue srest) (iat d o) n0 rn0 = .ok (sroot, rn1))
    (hcb : climb C fb ⟨b.nodes, some sroot, b.nodes.length + 1⟩ (iat 0 b.index) (blockNode C (iat 0 b.index).index b.value)
      (blockNode C (iat 0 b.index).index b.value :: rn1) = .ok (root, rn2))
    (hroot : ∀ dd oo, root.index = Flat.index dd oo → root.hash = (RefTree.node C B dd oo).2) :
    Collision C ∨ SecOK C B b n0 srest := by
  obtain ⟨j, _, hplain⟩ := climb_extra C sroot b.nodes _ _ _ _ root rn2 hcb
  refine (block_path C B b.index b.value _ _ _ root rn2 hplain hroot).elim Or.inl fun ⟨h1, h3⟩ => ?_
  -- the seek root is one of the authenticated siblings
  obtain ⟨⟨dn, on, rfl⟩, hbn⟩ := forall_insert h3
  exact (climb_path C B srest _ d o n0 _ _ rn1 hcs hidx (authH_nodeAt C B dn on)).imp_right fun hp => ⟨h1, hbn, d, o, hidx, hp⟩

/-- what a hash + seek proof establishes about a log `B`.  The inner `Collision C ∨`: the seek climb can be read
    downwards only once the size of `m0` is known to be the writer's, so its collision alternative stands under that
    hypothesis. -/
def HSOK (C : Crypto) (B : Array Bytes) (hsec : DataHash) (m0 : Node) (hrest : List Node) (n0 : Node) (srest : List Node) : Prop :=
  ∃ dh oh d o, hsec.index = Flat.index dh oh ∧ n0.index = Flat.index d o ∧
    ((∃ sroot : Node, sroot.index = hsec.index ∧ sroot.hash = (RefTree.node C B dh oh).2 ∧ n0.hash = (RefTree.node C B d o).2
        ∧ (n0.length = (RefTree.node C B d o).1 → ∀ n ∈ srest, ∃ dn on, n = nodeAt C B dn on))
      ∨ (m0.index = hsec.index ∧ m0.hash = (RefTree.node C B dh oh).2
        ∧ (m0.length = (RefTree.node C B dh oh).1 → (∀ n ∈ hrest, ∃ dn on, n = nodeAt C B dn on)
            ∧ (Collision C ∨ (n0.hash = (RefTree.node C B d o).2
              ∧ (n0.length = (RefTree.node C B d o).1 → ∀ n ∈ srest, ∃ dn on, n = nodeAt C B dn on))))))

/-- the two climbs of a hash + seek proof when the seek root is the requested node itself -/
theorem hash_seek_tail1 (C : Crypto) (B : Array Bytes) (hsec : DataHash) (m0 : Node) (hrest : List Node) (n0 : Node) (srest : List Node)
    (dh oh d o : Nat) (hidxh : hsec.index = Flat.index dh oh) (hidx : n0.index = Flat.index d o)
    (rn0 rn1 rn2 : List Node) (sroot root : Node) (fs fb : Nat)
    (hcs : climb C fs (plainQueue srest) (iat d o) n0 rn0 = .ok (sroot, rn1))
    (hx' : sroot.index = Flat.index dh oh)
    (hcb : climb C fb (plainQueue (m0 :: hrest)) (iat dh oh) sroot (sroot :: rn1) = .ok (root, rn2))
    (hroot : ∀ dd oo, root.index = Flat.index dd oo → root.hash = (RefTree.node C B dd oo).2) :
    Collision C ∨ HSOK C B hsec m0 hrest n0 srest := by
  refine (climb_path C B (m0 :: hrest) _ dh oh sroot _ root rn2 hcb hx' hroot).elim Or.inl fun hp => ?_
  exact (climb_path C B srest _ d o n0 _ sroot rn1 hcs hidx (authH_at C B sroot dh oh hx' hp.1)).imp_right fun hq =>
    ⟨dh, oh, d, o, hidxh, hidx, Or.inl ⟨sroot, hx'.trans hidxh.symm, hp.1, hq⟩⟩

/-- … and when the hash section starts with the requested node -/
theorem hash_seek_tail2 (C : Crypto) (B : Array Bytes) (hsec : DataHash) (m0 : Node) (hrest : List Node) (n0 : Node) (srest : List Node)
    (dh oh d o : Nat) (hidxh : hsec.index = Flat.index dh oh) (hidx : n0.index = Flat.index d o)
    (rn0 rn1 rn2 : List Node) (sroot root : Node) (fs fb : Nat)
    (hcs : climb C fs (plainQueue srest) (iat d o) n0 rn0 = .ok (sroot, rn1))
    (hm' : m0.index = Flat.index dh oh)
    (hcb : climb C fb ⟨hrest, some sroot, hrest.length + 1⟩ (iat dh oh) m0 (m0 :: rn1) = .ok (root, rn2))
    (hroot : ∀ dd oo, root.index = Flat.index dd oo → root.hash = (RefTree.node C B dd oo).2) :
    Collision C ∨ HSOK C B hsec m0 hrest n0 srest := by
  obtain ⟨j, _, hplain⟩ := climb_extra C sroot hrest _ _ _ _ root rn2 hcb
  refine (climb_path C B _ _ dh oh m0 _ root rn2 hplain hm' hroot).imp_right fun hp =>
    ⟨dh, oh, d, o, hidxh, hidx, Or.inr ⟨hm'.trans hidxh.symm, hp.1, fun hl => ?_⟩⟩
  -- with the size of `m0` every sibling of the hash climb is the writer's node, the seek root among them
  obtain ⟨⟨dn, on, rfl⟩, hbn⟩ := forall_insert (hp.2 hl)
  exact ⟨hbn, climb_path C B srest _ d o n0 _ _ rn1 hcs hidx (authH_nodeAt C B dn on)⟩

end HC.HashUpgradeSound

namespace HC.SeekSound
open HC HC.Codec HC.Flat HC.Tree HC.RefTree HC.RefProof HC.Sound HC.CreateTotal HC.TreeStore HC.UpgradeSound HC.HashUpgradeSound HC.Complete

/-! `verify_tree`, by the sections the proof carries: its root authenticates the sections, in any log -/

theorem block_section (C : Crypto) (p : Proof) (b : DataBlock) (cs : Changeset) (root : Option Node) (cs1 : Changeset)
    (hb : p.block = some b) (hs : p.seek = none) (h : verifyTree C p.block p.hash p.seek cs = .ok (root, cs1)) :
    ∃ r, root = some r ∧ r.index = Flat.index b.nodes.length (b.index / 2 ^ b.nodes.length)
      ∧ ∀ B, AuthH C B r → Collision C ∨ (b.value = B.getD b.index [] ∧ ∀ n ∈ b.nodes, ∃ dn on, n = nodeAt C B dn on) := by
  rw [hb, hs, verifyTree_block_noSeek C b p.hash none cs rfl, plainQueue_eq, leaf_index, RefProof.new_index 0 _ (by decide)] at h
  obtain ⟨⟨r, rn⟩, hc, h⟩ := (andThen_ok_iff ..).mp h
  cases h
  -- only the index part of `climb_sound` is used here: it does not depend on the log, so any log (`#[]`) will do
  obtain ⟨hidx, _⟩ := climb_sound C #[] b.nodes _ 0 b.index _ _ r rn hc rfl
  rw [Nat.zero_add] at hidx
  exact ⟨r, rfl, hidx, fun B hA => block_path C B b.index b.value b.nodes _ _ r rn hc hA⟩

theorem hash_section (C : Crypto) (p : Proof) (hsec : DataHash) (cs : Changeset) (root : Option Node) (cs1 : Changeset)
    (hb : p.block = none) (hh : p.hash = some hsec) (hs : p.seek = none) (hcan : Canon hsec.index)
    (h : verifyTree C p.block p.hash p.seek cs = .ok (root, cs1)) :
    ∃ r n0 rest d o, root = some r ∧ hsec.nodes = n0 :: rest ∧ hsec.index = Flat.index d o ∧ n0.index = hsec.index
      ∧ ∀ B, AuthH C B r → Collision C ∨ PathOK C B n0 rest d o := by
  obtain ⟨d, o, _, hidx, hnew⟩ := canon_new hsec.index hcan
  rw [hb, hh, hs, verifyTree_hash_noSeek C hsec none cs rfl, plainQueue_eq, hnew] at h
  obtain ⟨⟨n0, q⟩, hsh, h⟩ := (andThen_ok_iff ..).mp h
  obtain ⟨⟨r, rn⟩, hc, h⟩ := (andThen_ok_iff ..).mp h
  cases h
  obtain ⟨rest, hn, hi, rfl⟩ := shift_plain_inv hsh
  exact ⟨r, n0, rest, d, o, rfl, hn, hidx, hi, fun B hA => climb_path C B rest _ d o n0 _ r rn hc (hi.trans hidx) hA⟩

theorem seek_section (C : Crypto) (p : Proof) (s : DataSeek) (n0 : Node) (srest : List Node) (cs : Changeset) (root : Option Node)
    (cs1 : Changeset) (hb : p.block = none) (hh : p.hash = none) (hs : p.seek = some s) (hsn : s.nodes = n0 :: srest)
    (hcan : Canon n0.index) (h : verifyTree C p.block p.hash p.seek cs = .ok (root, cs1)) :
    ∃ r d o, root = some r ∧ n0.index = Flat.index d o ∧ ∀ B, AuthH C B r → Collision C ∨ PathOK C B n0 srest d o := by
  obtain ⟨d, o, _, hidx, hnew⟩ := canon_new n0.index hcan
  rw [hb, hh, hs, verifyTree_seek_cons C s n0 srest cs hsn, plainQueue_eq, hnew] at h
  obtain ⟨⟨r, rn⟩, hc, h⟩ := (andThen_ok_iff ..).mp h
  cases h
  exact ⟨r, d, o, rfl, hidx, fun B hA => climb_path C B srest _ d o n0 _ r rn hc hidx hA⟩

theorem block_seek_section (C : Crypto) (p : Proof) (b : DataBlock) (s : DataSeek) (n0 : Node) (srest : List Node) (cs : Changeset)
    (root : Option Node) (cs1 : Changeset) (hb : p.block = some b) (hs : p.seek = some s) (hsn : s.nodes = n0 :: srest)
    (hcan : Canon n0.index) (h : verifyTree C p.block p.hash p.seek cs = .ok (root, cs1)) :
    ∃ r, root = some r ∧ ∀ B, AuthH C B r → Collision C ∨ SecOK C B b n0 srest := by
  obtain ⟨d, o, _, hidx, hnew⟩ := canon_new n0.index hcan
  rw [hb, hs, verifyTree_block_seek C b p.hash s n0 srest cs hsn, plainQueue_eq, hnew, leaf_index,
    RefProof.new_index 0 _ (by decide)] at h
  obtain ⟨⟨sroot, rn1⟩, hcs, h⟩ := (andThen_ok_iff ..).mp h
  obtain ⟨⟨r, rn2⟩, hcb, h⟩ := (andThen_ok_iff ..).mp h
  cases h
  exact ⟨r, rfl, fun B hA => block_seek_tail C B b n0 srest d o hidx _ rn1 rn2 sroot r _ _ hcs hcb hA⟩

theorem hash_seek_section (C : Crypto) (p : Proof) (hsec : DataHash) (s : DataSeek) (m0 : Node) (hrest : List Node) (n0 : Node)
    (srest : List Node) (cs : Changeset) (root : Option Node) (cs1 : Changeset) (hb : p.block = none) (hh : p.hash = some hsec)
    (hhn : hsec.nodes = m0 :: hrest) (hs : p.seek = some s) (hsn : s.nodes = n0 :: srest) (hcan : Canon n0.index)
    (hcanh : Canon hsec.index) (h : verifyTree C p.block p.hash p.seek cs = .ok (root, cs1)) :
    ∃ r, root = some r ∧ ∀ B, AuthH C B r → Collision C ∨ HSOK C B hsec m0 hrest n0 srest := by
  obtain ⟨d, o, _, hidx, hnew⟩ := canon_new n0.index hcan
  obtain ⟨dh, oh, _, hidxh, hnewh⟩ := canon_new hsec.index hcanh
  rw [hb, hh, hs, verifyTree_hash_seek C hsec s n0 srest cs hsn, plainQueue_eq, hnew, hnewh, hhn] at h
  obtain ⟨⟨sroot, rn1⟩, hcs, h⟩ := (andThen_ok_iff ..).mp h
  obtain ⟨⟨x, q⟩, hsh, h⟩ := (andThen_ok_iff ..).mp h
  obtain ⟨⟨r, rn2⟩, hcb, h⟩ := (andThen_ok_iff ..).mp h
  cases h
  refine ⟨r, rfl, fun B hA => ?_⟩
  rcases (shift_ok_iff ..).mp hsh with ⟨hx, hi, rfl⟩ | ⟨_, ns, hn, hi, rfl⟩
  · -- the seek root is the requested node itself
    cases hx
    exact hash_seek_tail1 C B hsec m0 hrest n0 srest dh oh d o hidxh hidx _ rn1 rn2 sroot r _ _ hcs (hi.trans hidxh) hcb hA
  · -- the hash section starts with the requested node
    cases hn
    exact hash_seek_tail2 C B hsec m0 hrest n0 srest dh oh d o hidxh hidx _ rn1 rn2 sroot r _ _ hcs (hi.trans hidxh) hcb hA

/-! proofs without an upgrade -/

/-- **hash-only proofs** -/
theorem hash_proof_sound (C : Crypto) (bs : Array Bytes) (t : Tree) (f : File) (pk : Bytes) (p : Proof) (hsec : DataHash)
    (cs : Changeset) (hb : p.block = none) (hh : p.hash = some hsec) (hs : p.seek = none) (hu : p.upgrade = none)
    (hcan : Canon hsec.index) (hauth : StoreAuthentic C bs t f) (hv : t.verifyProof C f p pk = .ok cs) :
    Collision C ∨ ∃ n0 rest d o, hsec.nodes = n0 :: rest ∧ hsec.index = Flat.index d o ∧ n0.index = hsec.index
      ∧ n0.hash = (RefTree.node C bs d o).2
      ∧ (n0.length = (RefTree.node C bs d o).1 → ∀ n ∈ rest, ∃ dn on, n = nodeAt C bs dn on) := by
  obtain ⟨root, cs1, hvt, hr⟩ := verifyProof_root_stored C bs t f pk p cs hu hauth hv
  obtain ⟨r, n0, rest, d, o, rfl, hn, hidx, hi, hsound⟩ := hash_section C p hsec _ root cs1 hb hh hs hcan hvt
  exact (hsound bs (hr r rfl)).imp_right fun hp => ⟨n0, rest, d, o, hn, hidx, hi, hp⟩

/-- **block + seek proofs**: `Collision C ∨ SecOK C bs b n0 srest`, written out -/
theorem block_seek_sound (C : Crypto) (bs : Array Bytes) (t : Tree) (f : File) (pk : Bytes) (p : Proof) (b : DataBlock) (s : DataSeek)
    (n0 : Node) (srest : List Node) (cs : Changeset) (hb : p.block = some b) (hs : p.seek = some s) (hsn : s.nodes = n0 :: srest)
    (hu : p.upgrade = none) (hcan : Canon n0.index) (hauth : StoreAuthentic C bs t f) (hv : t.verifyProof C f p pk = .ok cs) :
    Collision C ∨ (b.value = bs.getD b.index [] ∧ (∀ n ∈ b.nodes, ∃ dn on, n = nodeAt C bs dn on)
      ∧ ∃ d o, n0.index = Flat.index d o ∧ n0.hash = (RefTree.node C bs d o).2
        ∧ (n0.length = (RefTree.node C bs d o).1 → ∀ n ∈ srest, ∃ dn on, n = nodeAt C bs dn on)) := by
  obtain ⟨root, cs1, hvt, hr⟩ := verifyProof_root_stored C bs t f pk p cs hu hauth hv
  obtain ⟨r, rfl, hsound⟩ := block_seek_section C p b s n0 srest _ root cs1 hb hs hsn hcan hvt
  exact hsound bs (hr r rfl)

/-- **hash + seek proofs**: `Collision C ∨ HSOK C bs hsec m0 hrest n0 srest`, written out; the usual shape is its
    second alternative, the hash section starting with the requested node -/
theorem hash_seek_sound (C : Crypto) (bs : Array Bytes) (t : Tree) (f : File) (pk : Bytes) (p : Proof) (hsec : DataHash) (s : DataSeek)
    (m0 : Node) (hrest : List Node) (n0 : Node) (srest : List Node) (cs : Changeset) (hb : p.block = none) (hh : p.hash = some hsec)
    (hhn : hsec.nodes = m0 :: hrest) (hs : p.seek = some s) (hsn : s.nodes = n0 :: srest) (hu : p.upgrade = none)
    (hcan : Canon n0.index) (hcanh : Canon hsec.index) (hauth : StoreAuthentic C bs t f) (hv : t.verifyProof C f p pk = .ok cs) :
    Collision C ∨ ∃ dh oh d o, hsec.index = Flat.index dh oh ∧ n0.index = Flat.index d o ∧
      ((∃ sroot : Node, sroot.index = hsec.index ∧ sroot.hash = (RefTree.node C bs dh oh).2 ∧ n0.hash = (RefTree.node C bs d o).2
          ∧ (n0.length = (RefTree.node C bs d o).1 → ∀ n ∈ srest, ∃ dn on, n = nodeAt C bs dn on))
        ∨ (m0.index = hsec.index ∧ m0.hash = (RefTree.node C bs dh oh).2
          ∧ (m0.length = (RefTree.node C bs dh oh).1 → (∀ n ∈ hrest, ∃ dn on, n = nodeAt C bs dn on)
              ∧ (Collision C ∨ (n0.hash = (RefTree.node C bs d o).2
                ∧ (n0.length = (RefTree.node C bs d o).1 → ∀ n ∈ srest, ∃ dn on, n = nodeAt C bs dn on)))))) := by
  obtain ⟨root, cs1, hvt, hr⟩ := verifyProof_root_stored C bs t f pk p cs hu hauth hv
  obtain ⟨r, rfl, hsound⟩ := hash_seek_section C p hsec s m0 hrest n0 srest _ root cs1 hb hh hhn hs hsn hcan hcanh hvt
  exact hsound bs (hr r rfl)

end HC.SeekSound
