import HC.Proofs.Codec
import HC.Model.Oplog
/-! Round trips for the oplog's header and entry encodings, with the well-formedness predicates (`Header.WF`,
    `Entry.WF`, …: every length and number fits its field) under which they hold. -/
namespace HC.Oplog
open HC.Codec

def StringsWF (l : List Bytes) : Prop := U64 l.length ∧ ∀ b ∈ l, U64 b.length

theorem decStrings_enc (l : List Bytes) (h : StringsWF l) (rest : Bytes) :
    decStrings (encStrings l ++ rest) = some (l, rest) :=
  decArr_encArr encBuf decBuf l h.1 (fun b hb r => decBuf_encBuf b (h.2 b hb) r) rest

def HeaderTree.WF (t : HeaderTree) : Prop :=
  U64 t.fork ∧ U64 t.length ∧ U64 t.rootHash.length ∧ U64 t.signature.length

theorem decHeaderTree_enc (t : HeaderTree) (h : t.WF) (rest : Bytes) :
    decHeaderTree (encHeaderTree t ++ rest) = some (t, rest) := by
  obtain ⟨h1, h2, h3, h4⟩ := h
  simp [decHeaderTree, encHeaderTree, List.append_assoc, decUint_encUint _ h1, decUint_encUint _ h2,
    decBuf_encBuf _ h3, decBuf_encBuf _ h4]

theorem decKeyPair_enc (pk : Bytes) (sk : Option Bytes) (hpk : pk.length = 32)
    (hsk : ∀ s, sk = some s → s.length = 32) (rest : Bytes) :
    decKeyPair (encKeyPair pk sk ++ rest) = some ((pk, sk), rest) := by
  have e32 : ∀ r, decUint (encUint 32 ++ r) = some (32, r) := fun r => decUint_encUint 32 (by decide) r
  cases sk with
  | none =>
    have e0 : ∀ r, decUint ((0 : UInt8) :: r) = some (0, r) := by intro r; simp [decUint]
    simp [encKeyPair, encBuf, List.append_assoc, decKeyPair, e32, hpk,
      takeN_append _ _ _ hpk, e0]
  | some s =>
    have hs := hsk s rfl
    have hl : (s ++ pk).length = 64 := by simp [hs, hpk]
    have h64 : U64 (s ++ pk).length := by rw [hl]; decide
    have e1 : ∀ r, decUint (encUint 64 ++ r) = some (64, r) := fun r => decUint_encUint 64 (by decide) r
    have e2 : ∀ r, takeN 64 (s ++ (pk ++ r)) = some (s ++ pk, r) := by
      intro r; rw [← List.append_assoc]; exact takeN_append _ _ _ hl
    simp [encKeyPair, encBuf, List.append_assoc, decKeyPair, e32, hpk, hs,
      takeN_append _ _ _ hpk, e1, e2]

theorem decManifest_enc (ns pk : Bytes) (hns : ns.length = 32) (hpk : pk.length = 32) (rest : Bytes) :
    decManifest (encManifest ns pk ++ rest) = .ok ((ns, pk), rest) := by
  simp [decManifest, encManifest, List.append_assoc, takeN_append _ _ _ hns, takeN_append _ _ _ hpk]

structure Header.WF (h : Header) : Prop where
  key : h.key.length = 32
  ns : h.manifestNamespace.length = 32
  mkey : h.manifestKey.length = 32
  pk : h.publicKey.length = 32
  sk : ∀ s, h.secret = some s → s.length = 32
  ud : StringsWF h.userData
  tree : h.tree.WF
  reorgs : StringsWF h.reorgs
  contig : U64 h.contiguous

theorem versionFlags_length : versionFlags.length = 2 := rfl

theorem decHeader_enc (h : Header) (wf : h.WF) (rest : Bytes) :
    decHeader (encHeader h ++ rest) = .ok (h, rest) := by
  simp only [encHeader, List.append_assoc, decHeader, takeN_append _ _ _ versionFlags_length, takeN_append _ _ _ wf.key,
    decManifest_enc _ _ wf.ns wf.mkey, decKeyPair_enc _ _ wf.pk wf.sk, decStrings_enc _ wf.ud,
    decHeaderTree_enc _ wf.tree, decStrings_enc _ wf.reorgs, decUint_encUint _ wf.contig]

def TreeUpgrade.WF (u : TreeUpgrade) : Prop :=
  U64 u.fork ∧ U64 u.ancestors ∧ U64 u.length ∧ U64 u.signature.length

theorem decTreeUpgrade_enc (u : TreeUpgrade) (h : u.WF) (rest : Bytes) :
    decTreeUpgrade (encTreeUpgrade u ++ rest) = some (u, rest) := by
  obtain ⟨h1, h2, h3, h4⟩ := h
  simp [decTreeUpgrade, encTreeUpgrade, List.append_assoc, decUint_encUint _ h1, decUint_encUint _ h2,
    decUint_encUint _ h3, decBuf_encBuf _ h4]

def BitfieldUpdate.WF (b : BitfieldUpdate) : Prop := U64 b.start ∧ U64 b.length

theorem decBitfieldUpdate_enc (b : BitfieldUpdate) (h : b.WF) (rest : Bytes) :
    decBitfieldUpdate (encBitfieldUpdate b ++ rest) = some (b, rest) := by
  obtain ⟨drop, start, len⟩ := b
  have hflag : decide ((if drop then 1 else 0 : UInt8).toNat % 2 = 1) = drop := by cases drop <;> rfl
  simp only [encBitfieldUpdate, List.cons_append, List.nil_append, List.append_assoc, decBitfieldUpdate,
    decUint_encUint start h.1, decUint_encUint len h.2, hflag]

structure Entry.WF (e : Entry) : Prop where
  ud : StringsWF e.userData
  nodes : NodesWF e.treeNodes
  up : ∀ u, e.treeUpgrade = some u → u.WF
  bf : ∀ b, e.bitfield = some b → b.WF

/-- the flag byte of an entry is a four-digit binary number: a table over the sixteen combinations -/
theorem flagBits (a b c d : Bool) (n : Nat)
    (hn : n = (if a then 0 else 1) + (if b then 0 else 2) + (if c then 4 else 0) + (if d then 8 else 0)) :
    n < 16 ∧ decide (n / 1 % 2 = 1) = !a ∧ decide (n / 2 % 2 = 1) = !b ∧ decide (n / 4 % 2 = 1) = c
      ∧ decide (n / 8 % 2 = 1) = d := by
  subst hn
  cases a <;> cases b <;> cases c <;> cases d <;> decide

theorem entryFlagsOf_lt (e : Entry) : entryFlagsOf e < 16 := (flagBits _ _ _ _ _ rfl).1

theorem hasFlag_userData (e : Entry) : hasFlag (entryFlagsOf e) flagUserData = !e.userData.isEmpty :=
  (flagBits _ _ _ _ _ rfl).2.1

theorem hasFlag_treeNodes (e : Entry) : hasFlag (entryFlagsOf e) flagTreeNodes = !e.treeNodes.isEmpty :=
  (flagBits _ _ _ _ _ rfl).2.2.1

theorem hasFlag_treeUpgrade (e : Entry) : hasFlag (entryFlagsOf e) flagTreeUpgrade = e.treeUpgrade.isSome :=
  (flagBits _ _ _ _ _ rfl).2.2.2.1

theorem hasFlag_bitfield (e : Entry) : hasFlag (entryFlagsOf e) flagBitfield = e.bitfield.isSome :=
  (flagBits _ _ _ _ _ rfl).2.2.2.2

/-- a list section of an entry: written, and flagged, only if the list is not empty -/
theorem decListSection {α : Type} {enc : List α → Bytes} {dec : Bytes → Option (List α × Bytes)} {l : List α}
    (h : ∀ r, dec (enc l ++ r) = some (l, r)) (rest : Bytes) :
    (if (!l.isEmpty) = true then dec ((if l.isEmpty then [] else enc l) ++ rest)
      else some ([], (if l.isEmpty then [] else enc l) ++ rest)) = some (l, rest) := by
  cases l with
  | nil => rfl
  | cons a as => exact h rest

/-- an optional section of an entry: written, and flagged, only if the value is present
    (`fun x => (some x.1, x.2)` is the form `simp` gives the pair-matching function of `decEntry`) -/
theorem decOptSection {α : Type} {enc : α → Bytes} {dec : Bytes → Option (α × Bytes)} {o : Option α}
    (h : ∀ a, o = some a → ∀ r, dec (enc a ++ r) = some (a, r)) (rest : Bytes) :
    (if o.isSome = true then (dec (o.elim [] enc ++ rest)).map fun x => (some x.1, x.2)
      else some (none, o.elim [] enc ++ rest)) = some (o, rest) := by
  cases o with
  | none => rfl
  | some a => simp only [Option.isSome_some, if_true, Option.elim_some, h a rfl, Option.map_some]

/-- `encEntry` with the optional sections written without pattern matching, so that `decOptSection` applies -/
theorem encEntry_eq (e : Entry) :
    encEntry e = UInt8.ofNat (entryFlagsOf e) :: ((if e.userData.isEmpty then [] else encStrings e.userData)
      ++ ((if e.treeNodes.isEmpty then [] else encNodes e.treeNodes)
      ++ (e.treeUpgrade.elim [] encTreeUpgrade ++ e.bitfield.elim [] encBitfieldUpdate))) := by
  unfold encEntry
  cases e.treeUpgrade <;> cases e.bitfield <;> simp only [List.append_assoc, List.cons_append, List.nil_append, Option.elim]

theorem decEntry_enc (e : Entry) (wf : e.WF) (rest : Bytes) :
    decEntry (encEntry e ++ rest) = some (e, rest) := by
  have hflags : (UInt8.ofNat (entryFlagsOf e)).toNat = entryFlagsOf e := by
    have := entryFlagsOf_lt e
    rw [UInt8.toNat_ofNat']; omega
  simp only [encEntry_eq, List.append_assoc, List.cons_append, decEntry, hflags, hasFlag_userData,
    hasFlag_treeNodes, hasFlag_treeUpgrade, hasFlag_bitfield, decListSection (decStrings_enc _ wf.ud),
    decListSection (decNodes_encNodes _ wf.nodes), decOptSection fun u hu => decTreeUpgrade_enc u (wf.up u hu),
    decOptSection fun b hb => decBitfieldUpdate_enc b (wf.bf b hb)]

end HC.Oplog
