import HC.Proofs.Codec
/-! Round trip, monotonicity and size for each of the seven wire messages (three requests, four data messages that
    carry node arrays). -/
namespace HC.Codec

theorem decRequestBlock_enc (m : RequestBlock) (h : m.WF) (rest : Bytes) :
    decRequestBlock (encRequestBlock m ++ rest) = some (m, rest) := by
  simp [decRequestBlock, encRequestBlock, List.append_assoc, decUint_encUint _ h.1, decUint_encUint _ h.2]
theorem decRequestBlock_mono : Mono decRequestBlock :=
  Mono.uint decUint_mono fun _ => Mono.uint decUint_mono fun _ => Mono.pure _
theorem encRequestBlock_length (m : RequestBlock) : (encRequestBlock m).length = sizeRequestBlock m := by
  simp [encRequestBlock, sizeRequestBlock, encUint_length]

theorem decRequestSeek_enc (m : RequestSeek) (h : m.WF) (rest : Bytes) :
    decRequestSeek (encRequestSeek m ++ rest) = some (m, rest) := by
  simp [decRequestSeek, encRequestSeek, decUint_encUint _ h]
theorem decRequestSeek_mono : Mono decRequestSeek :=
  Mono.uint decUint_mono fun _ => Mono.pure _
theorem encRequestSeek_length (m : RequestSeek) : (encRequestSeek m).length = sizeRequestSeek m := by
  simp [encRequestSeek, sizeRequestSeek, encUint_length]

theorem decRequestUpgrade_enc (m : RequestUpgrade) (h : m.WF) (rest : Bytes) :
    decRequestUpgrade (encRequestUpgrade m ++ rest) = some (m, rest) := by
  simp [decRequestUpgrade, encRequestUpgrade, List.append_assoc, decUint_encUint _ h.1, decUint_encUint _ h.2]
theorem decRequestUpgrade_mono : Mono decRequestUpgrade :=
  Mono.uint decUint_mono fun _ => Mono.uint decUint_mono fun _ => Mono.pure _
theorem encRequestUpgrade_length (m : RequestUpgrade) : (encRequestUpgrade m).length = sizeRequestUpgrade m := by
  simp [encRequestUpgrade, sizeRequestUpgrade, encUint_length]

theorem decDataBlock_enc (m : DataBlock) (h : m.WF) (rest : Bytes) :
    decDataBlock (encDataBlock m ++ rest) = some (m, rest) := by
  obtain ⟨h1, h2, h3⟩ := h
  simp [decDataBlock, encDataBlock, List.append_assoc, decUint_encUint _ h1, decBuf_encBuf _ h2,
    decNodes_encNodes _ h3]
theorem decDataBlock_mono : Mono decDataBlock :=
  Mono.uint decUint_mono fun _ => Mono.bytes decBuf_mono fun _ => Mono.nodes decNodes_mono fun _ => Mono.pure _
theorem encDataBlock_length (m : DataBlock) (h : m.WF) : (encDataBlock m).length = sizeDataBlock m := by
  simp [encDataBlock, sizeDataBlock, encUint_length, encBuf_length, encNodes_length _ h.2.2]; omega

theorem decDataHash_enc (m : DataHash) (h : m.WF) (rest : Bytes) :
    decDataHash (encDataHash m ++ rest) = some (m, rest) := by
  simp [decDataHash, encDataHash, List.append_assoc, decUint_encUint _ h.1, decNodes_encNodes _ h.2]
theorem decDataHash_mono : Mono decDataHash :=
  Mono.uint decUint_mono fun _ => Mono.nodes decNodes_mono fun _ => Mono.pure _
theorem encDataHash_length (m : DataHash) (h : m.WF) : (encDataHash m).length = sizeDataHash m := by
  simp [encDataHash, sizeDataHash, encUint_length, encNodes_length _ h.2]

theorem decDataSeek_enc (m : DataSeek) (h : m.WF) (rest : Bytes) :
    decDataSeek (encDataSeek m ++ rest) = some (m, rest) := by
  simp [decDataSeek, encDataSeek, List.append_assoc, decUint_encUint _ h.1, decNodes_encNodes _ h.2]
theorem decDataSeek_mono : Mono decDataSeek :=
  Mono.uint decUint_mono fun _ => Mono.nodes decNodes_mono fun _ => Mono.pure _
theorem encDataSeek_length (m : DataSeek) (h : m.WF) : (encDataSeek m).length = sizeDataSeek m := by
  simp [encDataSeek, sizeDataSeek, encUint_length, encNodes_length _ h.2]

theorem decDataUpgrade_enc (m : DataUpgrade) (h : m.WF) (rest : Bytes) :
    decDataUpgrade (encDataUpgrade m ++ rest) = some (m, rest) := by
  obtain ⟨h1, h2, h3, h4, h5⟩ := h
  simp [decDataUpgrade, encDataUpgrade, List.append_assoc, decUint_encUint _ h1, decUint_encUint _ h2,
    decNodes_encNodes _ h3, decNodes_encNodes _ h4, decBuf_encBuf _ h5]
theorem decDataUpgrade_mono : Mono decDataUpgrade :=
  Mono.uint decUint_mono fun _ => Mono.uint decUint_mono fun _ => Mono.nodes decNodes_mono fun _ =>
    Mono.nodes decNodes_mono fun _ => Mono.bytes decBuf_mono fun _ => Mono.pure _
theorem encDataUpgrade_length (m : DataUpgrade) (h : m.WF) : (encDataUpgrade m).length = sizeDataUpgrade m := by
  simp [encDataUpgrade, sizeDataUpgrade, encUint_length, encBuf_length, encNodes_length _ h.2.2.1,
    encNodes_length _ h.2.2.2.1]; omega

end HC.Codec
