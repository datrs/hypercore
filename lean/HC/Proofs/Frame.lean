import HC.Proofs.OplogCodec
/-! The checksummed leader: `validateLeader` recovers payload and both bits from `frame`. -/
namespace HC.Oplog
open HC.Codec

theorem le4_length (n : Nat) : (le4 n).length = 4 := leBytes_length n 4

theorem leVal_le4 (n : Nat) (h : n < 2 ^ 32) : leVal (le4 n) = n :=
  leVal_leBytes 4 n h

theorem crc_lt (bs : Bytes) : (Crc32.hash bs).toNat < 2 ^ 32 := (Crc32.hash bs).toNat_lt

-- the length word is `len`, partial bit, header bit read as binary digits

theorem two_mul_add_bit (m : Nat) (b : Bool) : (2 * m + b.toNat) % 2 = b.toNat ∧ (2 * m + b.toNat) / 2 = m :=
  ⟨by rw [Nat.mul_add_mod, Nat.mod_eq_of_lt b.toNat_lt],
   by rw [Nat.mul_add_div Nat.two_pos, Nat.div_eq_of_lt b.toNat_lt, Nat.add_zero]⟩

theorem lenWord_eq (len : Nat) (hb pb : Bool) : lenWord len hb pb = 2 * (2 * len + pb.toNat) + hb.toNat := by
  have h1 : (if hb then 1 else 0) = hb.toNat := by cases hb <;> rfl
  have h2 : (if pb then 2 else 0) = 2 * pb.toNat := by cases pb <;> rfl
  rw [lenWord, h1, h2, Nat.mul_add, ← Nat.mul_assoc, Nat.mul_comm len 4, Nat.add_right_comm]

theorem lenWord_lt (len : Nat) (hb pb : Bool) (h : len < 2 ^ 30) : lenWord len hb pb < 2 ^ 32 := by
  have h1 := hb.toNat_lt
  have h2 := pb.toNat_lt
  rw [lenWord_eq]
  omega

theorem lenWord_div (len : Nat) (hb pb : Bool) : lenWord len hb pb / 4 = len := by
  rw [lenWord_eq, show 4 = 2 * 2 from rfl, ← Nat.div_div_eq_div_mul, (two_mul_add_bit _ hb).2, (two_mul_add_bit _ pb).2]

theorem lenWord_hb (len : Nat) (hb pb : Bool) : decide (lenWord len hb pb % 2 = 1) = hb := by
  rw [lenWord_eq, (two_mul_add_bit _ hb).1]
  cases hb <;> rfl

theorem lenWord_pb (len : Nat) (hb pb : Bool) : decide (lenWord len hb pb / 2 % 2 = 1) = pb := by
  rw [lenWord_eq, (two_mul_add_bit _ hb).2, (two_mul_add_bit _ pb).1]
  cases pb <;> rfl

theorem validateLeader_words (crc lw body : Bytes) (h1 : crc.length = 4) (h2 : lw.length = 4) :
    validateLeader (crc ++ (lw ++ body)) =
      if leVal lw / 4 = 0 ∨ body.length < leVal lw / 4 then none
      else if (Crc32.hash (lw ++ body.take (leVal lw / 4))).toNat ≠ leVal crc then none
      else some ⟨leVal lw % 2 = 1, leVal lw / 2 % 2 = 1, leVal lw / 4, body⟩ := by
  have hlen : ¬ (crc ++ (lw ++ body)).length < 8 := by
    rw [List.length_append, List.length_append, h1, h2, ← Nat.add_assoc]; exact Nat.not_lt.mpr (Nat.le_add_right 8 _)
  have d8 : (crc ++ (lw ++ body)).drop 8 = body := by
    rw [show 8 = 4 + 4 from rfl, ← List.drop_drop, List.drop_left' h1, List.drop_left' h2]
  have tcrc : (lw ++ body).take (4 + leVal lw / 4) = lw ++ body.take (leVal lw / 4) := by
    rw [← h2, List.take_length_add_append]
  simp only [validateLeader, if_neg hlen, List.take_left' h1, List.drop_left' h1, List.take_left' h2, d8, tcrc]

theorem frame_eq (payload : Bytes) (hb pb : Bool) :
    frame payload hb pb = le4 (Crc32.hash (le4 (lenWord payload.length hb pb) ++ payload)).toNat
      ++ (le4 (lenWord payload.length hb pb) ++ payload) := by
  simp only [frame, List.append_assoc]

theorem frame_length (payload : Bytes) (hb pb : Bool) : (frame payload hb pb).length = 8 + payload.length := by
  rw [frame_eq, List.length_append, List.length_append, le4_length, le4_length, ← Nat.add_assoc]

/-- C06.frame — the leader round trip, for payloads of 1 … 2^30−1 bytes, whatever follows. -/
theorem validateLeader_frame (payload rest : Bytes) (hb pb : Bool)
    (h0 : 0 < payload.length) (h30 : payload.length < 2 ^ 30) :
    validateLeader (frame payload hb pb ++ rest) =
      some ⟨hb, pb, payload.length, payload ++ rest⟩ := by
  have hc : ¬ (payload.length = 0 ∨ (payload ++ rest).length < payload.length) := by
    rw [List.length_append]; exact fun c => c.elim (Nat.ne_of_gt h0) (Nat.not_lt_of_ge (Nat.le_add_right _ _))
  rw [frame_eq, List.append_assoc, List.append_assoc, validateLeader_words _ _ _ (le4_length _) (le4_length _),
    leVal_le4 _ (lenWord_lt _ hb pb h30), lenWord_div, if_neg hc, List.take_left' rfl, leVal_le4 _ (crc_lt _),
    if_neg (not_not_intro rfl), lenWord_hb, lenWord_pb]

/-- A frame cut short at the end of the file is rejected by the length check alone (no assumption on
    the checksum): every strict prefix of a frame is "no frame". -/
theorem validateLeader_strict_prefix (payload : Bytes) (hb pb : Bool) (h30 : payload.length < 2 ^ 30)
    (q s : Bytes) (hs : s ≠ []) (hq : q ++ s = frame payload hb pb) : validateLeader q = none := by
  have hlen : q.length < 8 + payload.length := by
    have := congrArg List.length hq
    rw [List.length_append, frame_length] at this
    exact this ▸ Nat.lt_add_of_pos_right (List.length_pos_iff.mpr hs)
  by_cases h8 : q.length < 8
  · rw [validateLeader, if_pos h8]
  · -- the two leader words are intact: q has at least 8 bytes, all of them from the frame
    have hq8 : q.take 8 = le4 (Crc32.hash (le4 (lenWord payload.length hb pb) ++ payload)).toNat
        ++ le4 (lenWord payload.length hb pb) := by
      rw [← List.take_append_of_le_length (l₂ := s) (Nat.le_of_not_lt h8), hq, frame_eq, ← List.append_assoc]
      exact List.take_left' (by rw [List.length_append, le4_length, le4_length])
    have hshort : (q.drop 8).length < payload.length := by
      rw [List.length_drop]; exact Nat.sub_lt_left_of_lt_add (Nat.le_of_not_lt h8) hlen
    rw [← List.take_append_drop 8 q, hq8, List.append_assoc,
      validateLeader_words _ _ _ (le4_length _) (le4_length _), leVal_le4 _ (lenWord_lt _ hb pb h30), lenWord_div,
      if_pos (Or.inr hshort)]

end HC.Oplog
