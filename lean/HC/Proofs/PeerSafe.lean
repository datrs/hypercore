import HC.Proofs.ApplyTotal
/-!
A replica stays servable whatever proofs it is sent (C09, closing the induction): the hypothesis of the
totality theorems — the tree's roots sit at the root positions of its length (`RootShape`) — is preserved by
`verify_and_apply_proof` for **every** proof, accepted or not.  A refused or failing proof leaves the tree
alone; an accepted one without upgrade leaves roots and length alone; an accepted upgrade adopts roots whose
(hash, index, size) triples are those of a prefix the writer signed (`Sound.upgrade_sound`), hence the root
positions of the adopted length — unless a collision of the root-list hash is exhibited.
-/
namespace HC.PeerSafe
open HC HC.Codec HC.Flat HC.Tree HC.CreateTotal HC.ApplyTotal

theorem verifyTree_same (C : Crypto) (block : Option DataBlock) (hash : Option DataHash) (seek : Option DataSeek) (cs : Changeset)
    (r : Option Node × Changeset) (h : verifyTree C block hash seek cs = .ok r) :
    r.2.roots = cs.roots ∧ r.2.length = cs.length ∧ r.2.upgraded = cs.upgraded ∧ r.2.fork = cs.fork := by
  obtain ⟨rn, e⟩ := verifyTree_rnodes C block hash seek cs r.1 r.2 h
  rw [e]
  exact ⟨rfl, rfl, rfl, rfl⟩

theorem verifyProof_cases (C : Crypto) (t : Tree) (f : File) (p : Proof) (pk : Bytes) (cs : Changeset)
    (h : verifyProof C t f p pk = .ok cs) :
    ∃ root cs1, verifyTree C p.block p.hash p.seek t.changeset = .ok (root, cs1)
      ∧ ((p.upgrade = none ∧ cs = cs1) ∨ ∃ u consumed, p.upgrade = some u ∧ verifyUpgrade C p.fork u root pk cs1 = .ok (consumed, cs)) := by
  obtain ⟨root, cs1, hv, hc⟩ := (verifyProof_ok_iff C t f p pk cs).mp h
  exact ⟨root, cs1, hv, hc.imp (fun ⟨h1, h2, _⟩ => ⟨h1, h2⟩) (fun ⟨u, consumed, h1, h2, _⟩ => ⟨u, consumed, h1, h2⟩)⟩

/-- what is assumed about the world outside the replica: the key verifies only what the writer signed, and the
    writer signs only heads of prefixes of its log `bs`.  `Signed`, the set of messages the writer signed, is bound
    inside: no statement about the replica mentions it. -/
structure World (C : Crypto) (bs : Array Bytes) (wfork : Nat) (pk : Bytes) : Prop where
  signed : ∃ Signed : Bytes → Prop, (∀ m sig, C.verify pk m sig = true → Signed m)
    ∧ (∀ m, Signed m → ∃ n, n ≤ bs.size ∧ m = RefTree.signableOf C (bs.extract 0 n) wfork)
  treeLen : ∀ x, (C.tree x).length = 32
  size : bs.size < 2 ^ 64
  fork : wfork < 2 ^ 64

theorem rootShape_congr {t t' : Tree} (hl : t'.length = t.length) (hr : t'.roots = t.roots) (h : RootShape t) : RootShape t' := by
  unfold RootShape
  rw [hl, hr]
  exact h

theorem commit_shape (t t' : Tree) (cs : Changeset) (h : t.commit cs = .ok t') :
    (cs.upgraded = true ∧ t'.roots = cs.roots ∧ t'.length = cs.length ∧ t'.fork = cs.fork)
      ∨ (cs.upgraded = false ∧ t'.roots = t.roots ∧ t'.length = t.length ∧ t'.fork = t.fork) := by
  cases hu : cs.upgraded with
  | true => rw [Tree.commit_upgraded h hu]; exact Or.inl ⟨rfl, rfl, rfl, rfl⟩
  | false => rw [Tree.commit_not_upgraded h hu]; exact Or.inr ⟨rfl, rfl, rfl, rfl⟩

/-- The tree that the commit of an accepted proof produces has the shape: without upgrade roots and length are
    the old ones; with one, the adopted roots carry the (hash, index, size) triples of a prefix the writer signed,
    hence sit at the root positions of the adopted length. -/
theorem commit_rootShape (C : Crypto) (bs : Array Bytes) (wfork : Nat) (t tr : Tree) (f : File) (p : Proof) (pk : Bytes) (cs : Changeset)
    (hW : World C bs wfork pk) (hT : RootShape t) (hf : t.fork < 2 ^ 64) (hfk : p.fork = t.fork)
    (hv : verifyProof C t f p pk = .ok cs) (hcl : cs.length < 2 ^ 64) (hcm : t.commit cs = .ok tr) :
    Sound.TreeCollision C ∨ (RootShape tr ∧ tr.fork < 2 ^ 64) := by
  obtain ⟨root, cs1, hvt, hcase⟩ := verifyProof_cases C t f p pk cs hv
  rcases commit_shape t tr cs hcm with ⟨hup, hr, hl, hfo⟩ | ⟨_, hr, hl, hfo⟩
  · rcases hcase with ⟨_, rfl⟩ | ⟨u, consumed, _, hvu⟩
    · rw [(verifyTree_same C _ _ _ _ _ hvt).2.2.1] at hup; cases hup
    · obtain ⟨Signed, hunf, hsig⟩ := hW.signed
      have hfork : cs.fork = p.fork := (Sound.verifyUpgrade_signed C _ _ _ _ _ _ _ hvu).2.1
      rcases Sound.upgrade_sound C bs wfork Signed p.fork u root pk cs1 cs consumed hunf hsig hW.treeLen hW.size hW.fork
        hcl (hfk ▸ hf) hvu with hcol | ⟨hle, _, hroots⟩
      · exact Or.inl hcol
      · refine Or.inr ⟨rootShape_of_roots tr cs.length hcl hl ?_, by rw [hfo, hfork, hfk]; exact hf⟩
        have hidx := congrArg (List.map (fun x : Bytes × Nat × Nat => x.2.1)) hroots
        rw [List.map_map, List.map_map] at hidx
        have hsz : (bs.extract 0 cs.length).size = cs.length := by rw [Array.size_extract, Nat.sub_zero, Nat.min_eq_left hle]
        rw [hr, ← hsz]
        exact hidx.trans (roots_index_map C _)
  · exact Or.inr ⟨rootShape_congr hl hr hT, hfo ▸ hf⟩

/-- what `verify_and_apply_proof` leaves behind: the old tree, or the tree committed for an accepted proof (up to
    the nodes that the periodic flush writes out); the key stays -/
theorem verifyAndApply_core (C : Crypto) (c : Core) (d : Disk) (p : Proof) :
    (c.verifyAndApply C d p).core.publicKey = c.publicKey
      ∧ ((c.verifyAndApply C d p).core.tree = c.tree
        ∨ ∃ cs tr, p.fork = c.tree.fork ∧ verifyProof C c.tree d.tree p c.publicKey = .ok cs ∧ c.tree.commit cs = .ok tr
            ∧ (c.verifyAndApply C d p).core.tree.roots = tr.roots ∧ (c.verifyAndApply C d p).core.tree.length = tr.length
            ∧ (c.verifyAndApply C d p).core.tree.fork = tr.fork) := by
  obtain hr | ⟨e, j, hr⟩ | ⟨cs, j0, bu, hfk, hv, _, _, _, hr⟩ := Core.verifyAndApply_cases C c d p <;> rw [hr]
  · exact ⟨rfl, Or.inl rfl⟩
  · exact ⟨rfl, Or.inl rfl⟩
  · cases hcm : c.tree.commit cs with
    | error e => unfold Core.applyVerified; rw [hcm]; exact ⟨rfl, Or.inl rfl⟩
    | ok tr =>
      rw [Core.applyVerified_commit_ok c p cs j0 bu tr hcm]
      exact ⟨Core.maybeFlush_publicKey _, Or.inr ⟨cs, tr, hfk, hv, hcm, Core.maybeFlush_roots _, Core.maybeFlush_length _,
        Core.maybeFlush_fork _⟩⟩

/-- **the shape survives every proof**: after `verify_and_apply_proof` of any proof whatsoever the tree's roots
    sit at the root positions of its length again — or a collision of the root-list hash is exhibited.
    (`hu64`: lengths are `u64` values, which the `Nat` model has to be told.) -/
theorem shape_step (C : Crypto) (bs : Array Bytes) (wfork : Nat) (c : Core) (d : Disk) (p : Proof)
    (hW : World C bs wfork c.publicKey) (hT : RootShape c.tree) (hf : c.tree.fork < 2 ^ 64)
    (hu64 : ∀ cs, verifyProof C c.tree d.tree p c.publicKey = .ok cs → cs.length < 2 ^ 64) :
    Sound.TreeCollision C ∨
      (RootShape (c.verifyAndApply C d p).core.tree ∧ (c.verifyAndApply C d p).core.publicKey = c.publicKey
        ∧ (c.verifyAndApply C d p).core.tree.fork < 2 ^ 64) := by
  obtain ⟨hpk, ht | ⟨cs, tr, hfk, hv, hcm, hr, hl, hfo⟩⟩ := verifyAndApply_core C c d p
  · exact Or.inr ⟨ht ▸ hT, hpk, ht ▸ hf⟩
  · rcases commit_rootShape C bs wfork c.tree tr d.tree p c.publicKey cs hW hT hf hfk hv (hu64 cs hv) hcm with hcol | ⟨hs, hfo'⟩
    · exact Or.inl hcol
    · exact Or.inr ⟨rootShape_congr hl hr hs, hpk, hfo ▸ hfo'⟩

/-- the replica after a list of proofs, whatever they are -/
def after (C : Crypto) : Core × Disk → List Proof → Core × Disk
  | s, [] => s
  | (c, d), p :: ps => after C ((c.verifyAndApply C d p).core, d.applyAll (c.verifyAndApply C d p).journal) ps

/-- lengths stay `u64` values along the run (automatic in the Rust; the `Nat` model has to be told) -/
def U64Run (C : Crypto) : Core × Disk → List Proof → Prop
  | _, [] => True
  | (c, d), p :: ps => (∀ cs, verifyProof C c.tree d.tree p c.publicKey = .ok cs → cs.length < 2 ^ 64)
      ∧ U64Run C ((c.verifyAndApply C d p).core, d.applyAll (c.verifyAndApply C d p).journal) ps

theorem after_append (C : Crypto) (s : Core × Disk) (ps qs : List Proof) : after C s (ps ++ qs) = after C (after C s ps) qs := by
  induction ps generalizing s with
  | nil => rfl
  | cons p ps ih => obtain ⟨c, d⟩ := s; simp only [List.cons_append, after]; exact ih _

/-- **the shape survives every sequence of proofs** -/
theorem shape_after (C : Crypto) (bs : Array Bytes) (wfork : Nat) (hnc : ¬ Sound.TreeCollision C) :
    ∀ (ps : List Proof) (c : Core) (d : Disk), World C bs wfork c.publicKey → RootShape c.tree → c.tree.fork < 2 ^ 64 →
      U64Run C (c, d) ps →
      RootShape (after C (c, d) ps).1.tree ∧ (after C (c, d) ps).1.publicKey = c.publicKey ∧ (after C (c, d) ps).1.tree.fork < 2 ^ 64 := by
  intro ps
  induction ps with
  | nil => intro c d _ hT hf _; exact ⟨hT, rfl, hf⟩
  | cons p ps ih =>
    intro c d hW hT hf hu
    rcases shape_step C bs wfork c d p hW hT hf hu.1 with hcol | ⟨h1, h2, h3⟩
    · exact absurd hcol hnc
    · obtain ⟨r1, r2, r3⟩ := ih _ (d.applyAll (c.verifyAndApply C d p).journal) (by rw [h2]; exact hW) h1 h3 hu.2
      exact ⟨r1, r2.trans h2, r3⟩

end HC.PeerSafe
