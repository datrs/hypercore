import HC.Proofs.Sound
import HC.Proofs.TreeStore
import HC.Proofs.FullRoots
/-!
What `verify_upgrade` does with the nodes it is given (C04).  It walks the full roots of the claimed length with
its own iterator, at positions that depend on the claimed length only (`fullRoot_canon`).  On a replica without
roots nothing merges while full roots are appended (`appendRoot_fit`), so **the root a tree section climbed to**,
if the upgrade takes it from the queue, is one of the roots the loop ends with (`upgradeRoots_fresh`,
`consumed_mem_roots`).  In general — the replica's last roots may be merged upwards,
additional nodes are merged in afterwards — authenticity flows backwards: if every adopted root carries the writer's
hash then, absent a collision, so did every node that was merged into one (`mergeLoop_back` … `consumed_auth`).
-/
namespace HC.UpgradeSound
open HC HC.Codec HC.Flat HC.Tree HC.RefTree HC.RefProof HC.Sound HC.TreeStore HC.Pow2 HC.FullRoots

theorem shift_extra {q : NodeQueue} {i : Nat} {n : Node} {q' : NodeQueue} {e : Node} (h : q.shift i = .ok (n, q'))
    (he : q.extra = some e) : q'.extra = some e ∨ (e = n ∧ q'.extra = none) := by
  rcases (shift_ok_iff q i n q').mp h with ⟨hn, _, rfl⟩ | ⟨_, ns, _, _, rfl⟩
  · exact Or.inr ⟨Option.some.inj (he.symm.trans hn), rfl⟩
  · exact Or.inl he

theorem appendRoot_roots (C : Crypto) (cs : Changeset) (n : Node) (it : Iter) :
    (appendRoot C cs n it).1.roots = (mergeLoop C (cs.roots.length + 1) (n :: cs.roots.reverse) (n :: cs.rnodes) it).1.reverse := rfl

theorem appendRoot_rnodes (C : Crypto) (cs : Changeset) (n : Node) (it : Iter) :
    (appendRoot C cs n it).1.rnodes = (mergeLoop C (cs.roots.length + 1) (n :: cs.roots.reverse) (n :: cs.rnodes) it).2.1 := rfl

theorem appendRoot_snd (C : Crypto) (cs : Changeset) (n : Node) (it : Iter) :
    (appendRoot C cs n it).2 = (mergeLoop C (cs.roots.length + 1) (n :: cs.roots.reverse) (n :: cs.rnodes) it).2.2 := rfl

theorem appendRoot_byteLength (C : Crypto) (cs : Changeset) (n : Node) (it : Iter) :
    (appendRoot C cs n it).1.byteLength = cs.byteLength + n.length := rfl

theorem appendRoot_nomerge (C : Crypto) (cs : Changeset) (n : Node) (it : Iter)
    (h : ∀ b, cs.roots.getLast? = some b → it.sibling.index ≠ b.index) :
    (appendRoot C cs n it).1.roots = cs.roots ++ [n]
      ∧ ((appendRoot C cs n it).2 = it ∨ (appendRoot C cs n it).2 = it.sibling.sibling)
      ∧ (appendRoot C cs n it).1.rnodes = n :: cs.rnodes := by
  rw [appendRoot_roots, appendRoot_snd, appendRoot_rnodes]
  cases hr : cs.roots.reverse with
  | nil =>
    rw [mergeLoop_single, List.reverse_eq_nil_iff.mp hr]
    exact ⟨rfl, Or.inl rfl, rfl⟩
  | cons b rest =>
    have hroots : cs.roots = (b :: rest).reverse := by rw [← hr, List.reverse_reverse]
    rw [mergeLoop_nomerge C _ n b rest _ it (h b (by rw [hroots, List.reverse_cons, List.getLast?_concat]))]
    exact ⟨by rw [List.reverse_cons, ← hroots], Or.inr rfl, rfl⟩

/-- The last root is deeper than anything that still fits below `T`: the full root at depth `J` that fits does
    not merge with it. -/
theorem appendRoot_fit (C : Crypto) (cs : Changeset) (n : Node) (J o s T : Nat)
    (hlast : ∀ b, cs.roots.getLast? = some b → ∃ m o', b.index = Flat.index m o' ∧ T < s + 2 ^ m)
    (hfit : s + 2 ^ J ≤ T) :
    (appendRoot C cs n (iat J o)).1.roots = cs.roots ++ [n] ∧ (appendRoot C cs n (iat J o)).2 = iat J o := by
  obtain ⟨hroots, hit, _⟩ := appendRoot_nomerge C cs n (iat J o) (by
    intro b hb hcon
    obtain ⟨m, o', h1, h2⟩ := hlast b hb
    rw [iat_sibling, iat_index, h1] at hcon
    rw [(index_inj _ _ _ _ hcon).1] at hfit
    exact Nat.lt_irrefl _ (Nat.lt_of_lt_of_le h2 hfit))
  refine ⟨hroots, hit.elim id fun e => ?_⟩
  rw [e, iat_sibling_sibling]

theorem depth_le_64 {s J T : Nat} (hfit : s + 2 ^ J ≤ T) (hT : T < 2 ^ 64) : J ≤ 64 :=
  Nat.le_of_lt (depth_lt_of_span (o := 0) (by rw [Nat.zero_add, Nat.one_mul]; exact Nat.le_trans (Nat.le_add_left _ _) hfit) hT)

theorem getD_of_getLast? {α : Type} {l : List α} {r d : α} {i : Nat} (hr : l.getLast? = some r) (h1 : i < l.length)
    (h2 : l.length ≤ i + 1) : l.getD i d = r := by
  rw [List.getD_eq_getElem?_getD, ← Nat.sub_eq_of_eq_add (Nat.le_antisymm h2 h1), ← List.getLast?_eq_getElem?, hr]
  rfl

/-! ### the root loop of `verify_upgrade` on a replica without roots -/

/-- the root loop on a replica that started without roots, at leaf `s` of the claimed length `T`.  `T < s + 2^m`:
    a tree as deep as the last root does not fit between `s` and `T`, so no full root still to come merges with it -/
structure Fresh (st : UpState) (s T : Nat) : Prop where
  it : st.it = iat 0 s
  al : Align s T
  grow : st.grow = false
  last : ∀ r, st.cs.roots.getLast? = some r → ∃ m o, r.index = Flat.index m o ∧ T < s + 2 ^ m ∧ m ≤ 64

theorem upgradeRoots_fresh (C : Crypto) (T : Nat) (hT : T < 2 ^ 64) : ∀ (fuel : Nat) (st st' : UpState) (s : Nat),
    Fresh st s T → upgradeRoots C (2 * T) fuel st = .ok st' →
      (∀ r ∈ st.cs.roots, r ∈ st'.cs.roots) ∧ (∀ e, st.q.extra = some e → st'.q.extra = none → e ∈ st'.cs.roots)
        ∧ (∀ r, st'.cs.roots.getLast? = some r → ∃ m o, r.index = Flat.index m o ∧ m ≤ 64) := by
  intro fuel
  induction fuel with
  | zero => intro st st' s _ h; cases h
  | succ fuel ih =>
    intro st st' s hf h
    by_cases hs : s < T
    · obtain ⟨J, hfr, hd, hfit, hal', hmax⟩ := fullRoot_canon s T hf.al hs hT
      rw [← hf.it] at hfr
      have hnext := iat_nextTree J s hd
      rcases upgradeRoots_succ_ok C _ fuel st st' _ _ hfr h with
        ⟨hc, _⟩ | ⟨_, _, h⟩ | ⟨_, _, hg, _⟩ | ⟨_, _, _, n, q1, hsh, h⟩
      · cases hc
      · -- the replica has a root at this position
        rw [hnext] at h
        refine ih { st with i := st.i + 1, it := iat 0 (s + 2 ^ J) } st' _ ⟨rfl, hal', hf.grow, fun r hr => ?_⟩ h
        obtain ⟨m, o, h1, h2, h3⟩ := hf.last r hr
        exact ⟨m, o, h1, Nat.lt_of_lt_of_le h2 (Nat.add_le_add_right (Nat.le_add_right s _) _), h3⟩
      · rw [hf.grow] at hg
        cases hg.1
      · -- the next supplied node becomes a root, and stays one
        obtain ⟨hroots, hit⟩ := appendRoot_fit C st.cs n J (s / 2 ^ J) s T
          (fun b hb => let ⟨m, o, h1, h2, _⟩ := hf.last b hb; ⟨m, o, h1, h2⟩) hfit
        rw [hit, hnext] at h
        have key := ih _ st' (s + 2 ^ J) ?_ h
        · obtain ⟨i1, i2, i3⟩ := key
          dsimp only at i1 i2
          rw [hroots] at i1
          refine ⟨fun r hr => i1 r (List.mem_append_left _ hr), fun e he hn => ?_, i3⟩
          rcases shift_extra hsh he with hx | ⟨rfl, _⟩
          · exact i2 e hx hn
          · exact i1 e (List.mem_append_right _ (List.mem_singleton_self e))
        · refine ⟨rfl, hal', rfl, fun r hr => ?_⟩
          dsimp only at hr
          rw [hroots, List.getLast?_concat] at hr
          cases hr
          exact ⟨J, s / 2 ^ J, shift_index _ _ _ _ hsh, hmax, depth_le_64 hfit hT⟩
    · have hfr := fullRoot_done s T (Nat.le_of_not_lt hs)
      rw [← hf.it] at hfr
      rw [upgradeRoots_succ_done C _ fuel st _ hfr] at h
      cases h
      refine ⟨fun r hr => hr, fun e he hn => ?_, fun r hr => ?_⟩
      · rw [he] at hn
        cases hn
      · obtain ⟨m, o, h1, _, h3⟩ := hf.last r hr
        exact ⟨m, o, h1, h3⟩

/-- first contact without additional nodes: an extra node that the upgrade reports as consumed is one of the
    adopted roots -/
theorem consumed_mem_roots (C : Crypto) (fork : Nat) (u : DataUpgrade) (root : Node) (pk : Bytes) (cs1 cs2 : Changeset)
    (hfresh : cs1.roots = []) (hadd : u.additionalNodes = []) (hT : u.start + u.length < 2 ^ 64)
    (hvu : verifyUpgrade C fork u (some root) pk cs1 = .ok (true, cs2)) : root ∈ cs2.roots := by
  obtain ⟨st, last, x, hur, _, her, _, _, hcons, rfl⟩ := (verifyUpgrade_ok_iff ..).mp hvu
  rw [hadd, extraSiblings_nil, extraRest_nil] at her
  cases her
  have hf : Fresh ⟨cs1, Iter.new 0, NodeQueue.new u.nodes (some root), 0, !cs1.roots.isEmpty⟩ 0 (u.start + u.length) :=
    ⟨new_even 0, align_zero _, by simp [hfresh], fun r hr => by rw [hfresh] at hr; cases hr⟩
  exact (upgradeRoots_fresh C _ hT _ _ st 0 hf hur).2.1 root rfl (by simpa using hcons.symm)

/-! ### authenticity flows backwards through `append_root` -/

/-- the node carries the authentic hash for its position -/
def AuthH (C : Crypto) (bs : Array Bytes) (n : Node) : Prop :=
  ∀ d o, n.index = Flat.index d o → n.hash = (RefTree.node C bs d o).2

theorem authH_at (C : Crypto) (bs : Array Bytes) (n : Node) (d o : Nat) (hi : n.index = Flat.index d o)
    (hh : n.hash = (RefTree.node C bs d o).2) : AuthH C bs n := by
  intro d' o' h'
  rw [hi] at h'
  obtain ⟨rfl, rfl⟩ := index_inj _ _ _ _ h'
  exact hh

theorem authH_nodeAt (C : Crypto) (bs : Array Bytes) (d o : Nat) : AuthH C bs (nodeAt C bs d o) :=
  authH_at C bs _ d o rfl rfl

/-- `mergeLoop`, read backwards: if every root it leaves is authentic then — absent a collision — so was every
    root it started from (in particular the node just appended); the iterator it returns is canonical and
    sits on the last root -/
theorem mergeLoop_back (C : Crypto) (bs : Array Bytes) : ∀ (fuel : Nat) (a : Node) (rest nodes : List Node) (d o : Nat),
    a.index = Flat.index d o →
      (∃ d' o', (mergeLoop C fuel (a :: rest) nodes (iat d o)).2.2 = iat d' o'
        ∧ ∃ a' rest', (mergeLoop C fuel (a :: rest) nodes (iat d o)).1 = a' :: rest' ∧ a'.index = Flat.index d' o')
      ∧ ((∀ x ∈ (mergeLoop C fuel (a :: rest) nodes (iat d o)).1, AuthH C bs x) → Collision C ∨ ∀ x ∈ a :: rest, AuthH C bs x) := by
  intro fuel
  induction fuel with
  | zero =>
    intro a rest nodes d o ha
    exact ⟨⟨d, o, rfl, a, rest, rfl, ha⟩, fun h => Or.inr h⟩
  | succ fuel ih =>
    intro a rest nodes d o ha
    cases rest with
    | nil =>
      rw [mergeLoop_single]
      exact ⟨⟨d, o, rfl, a, [], rfl, ha⟩, fun h => Or.inr h⟩
    | cons b rest =>
      by_cases hb : (iat d o).sibling.index = b.index
      · rw [mergeLoop_merge C fuel a b rest nodes _ hb, iat_sibling, iat_parent, sib_half]
        rw [iat_sibling] at hb
        generalize hn : (⟨(iat (d + 1) (o / 2)).index, a.length + b.length, parentHash C a b⟩ : Node) = n
        have hni : n.index = Flat.index (d + 1) (o / 2) := by rw [← hn]; rfl
        obtain ⟨hc, hback⟩ := ih n rest (n :: nodes) (d + 1) (o / 2) hni
        refine ⟨hc, fun hall => (hback hall).elim Or.inl fun hprev => ?_⟩
        -- the merged node is authentic, so — one level of the hash tree — are the two it was made from
        have hnh : parentHash C a b = (RefTree.node C bs (d + 1) (o / 2)).2 := by
          have := hprev n List.mem_cons_self (d + 1) (o / 2) hni
          rw [← hn] at this; exact this
        refine (parent_step C bs d o a b ha hb.symm hnh).elim Or.inl fun ⟨h1, h2, _⟩ => Or.inr fun x hx => ?_
        rcases List.mem_cons.mp hx with rfl | hx
        · exact authH_at C bs _ d o ha h1
        · rcases List.mem_cons.mp hx with rfl | hx
          · exact authH_at C bs _ d (sib o) hb.symm h2
          · exact hprev x (List.mem_cons_of_mem _ hx)
      · rw [mergeLoop_nomerge C fuel a b rest nodes _ hb, iat_sibling_sibling]
        exact ⟨⟨d, o, rfl, a, b :: rest, rfl, ha⟩, fun h => Or.inr h⟩

theorem appendRoot_back (C : Crypto) (bs : Array Bytes) (cs : Changeset) (n : Node) (d o : Nat) (hn : n.index = Flat.index d o) :
    (∃ d' o', (appendRoot C cs n (iat d o)).2 = iat d' o'
        ∧ ∃ last, (appendRoot C cs n (iat d o)).1.roots.getLast? = some last ∧ last.index = Flat.index d' o')
      ∧ ((∀ x ∈ (appendRoot C cs n (iat d o)).1.roots, AuthH C bs x) → Collision C ∨ ((∀ x ∈ cs.roots, AuthH C bs x) ∧ AuthH C bs n)) := by
  obtain ⟨⟨d', o', h1, a', rest', h2, h3⟩, hback⟩ := mergeLoop_back C bs (cs.roots.length + 1) n cs.roots.reverse (n :: cs.rnodes) d o hn
  rw [appendRoot_roots, appendRoot_snd]
  rw [h2] at hback ⊢
  refine ⟨⟨d', o', h1, a', by rw [List.getLast?_reverse]; rfl, h3⟩, fun hall => ?_⟩
  exact (hback fun x hx => hall x (List.mem_reverse.mpr hx)).imp_right fun hprev =>
    ⟨fun x hx => hprev x (List.mem_cons_of_mem _ (List.mem_reverse.mpr hx)), hprev n List.mem_cons_self⟩

theorem extraSiblings_back (C : Crypto) (bs : Array Bytes) : ∀ (fuel : Nat) (cs : Changeset) (d o : Nat) (ex : List Node),
    (∃ d' o', (extraSiblings C fuel cs (iat d o) ex).2.1 = iat d' o')
      ∧ ((∀ x ∈ (extraSiblings C fuel cs (iat d o) ex).1.roots, AuthH C bs x) → Collision C ∨ ∀ x ∈ cs.roots, AuthH C bs x) := by
  intro fuel
  induction fuel with
  | zero => intro cs d o ex; rw [extraSiblings_zero]; exact ⟨⟨d, o, rfl⟩, fun h => Or.inr h⟩
  | succ fuel ih =>
    intro cs d o ex
    cases ex with
    | nil => rw [extraSiblings_nil]; exact ⟨⟨d, o, rfl⟩, fun h => Or.inr h⟩
    | cons n ex =>
      rw [extraSiblings_cons, iat_sibling]
      by_cases hn : n.index = (iat d (sib o)).index
      · rw [if_pos hn]
        obtain ⟨⟨d', o', h1, _⟩, hback⟩ := appendRoot_back C bs cs n d (sib o) hn
        rw [h1]
        obtain ⟨hc, hb2⟩ := ih (appendRoot C cs n (iat d (sib o))).1 d' o' ex
        exact ⟨hc, fun hall => (hb2 hall).elim Or.inl fun hprev => (hback hprev).elim Or.inl fun h => Or.inr h.1⟩
      · rw [if_neg hn]
        exact ⟨⟨d, sib o, rfl⟩, fun h => Or.inr h⟩

theorem descendTo_canon (target : Nat) : ∀ (fuel d o : Nat) (it1 : Iter), descendTo target fuel (iat d o) = .ok it1 →
    ∃ d' o', it1 = iat d' o' ∧ Flat.index d' o' = target := by
  intro fuel
  induction fuel with
  | zero => intro d o it1 h; cases h
  | succ fuel ih =>
    intro d o it1 h
    unfold descendTo at h
    split at h
    · rename_i hidx
      cases h
      exact ⟨d, o, rfl, hidx⟩
    · split at h
      · cases h
      · rename_i hf2
        cases d with
        | zero => exact absurd rfl hf2
        | succ d =>
          rw [RefProof.iat_leftChild] at h
          exact ih d (2 * o) it1 h

theorem extraRest_back (C : Crypto) (bs : Array Bytes) : ∀ (ex : List Node) (cs : Changeset) (d o : Nat) (res : Changeset × Iter),
    extraRest C cs (iat d o) ex = .ok res →
      (∀ x ∈ res.1.roots, AuthH C bs x) → Collision C ∨ ∀ x ∈ cs.roots, AuthH C bs x := by
  intro ex
  induction ex with
  | nil =>
    intro cs d o res h hall
    cases h
    exact Or.inr hall
  | cons n ex ih =>
    intro cs d o res h hall
    obtain ⟨it1, hd, h⟩ := (extraRest_cons_ok ..).mp h
    obtain ⟨d1, o1, rfl, hidx⟩ := descendTo_canon n.index _ d o it1 hd
    obtain ⟨⟨d', o', h1, _⟩, hback⟩ := appendRoot_back C bs cs n d1 o1 hidx.symm
    rw [h1, iat_sibling] at h
    exact (ih _ d' (sib o') res h hall).elim Or.inl fun hprev => (hback hprev).elim Or.inl fun h => Or.inr h.1

/-- `h` is what `upgrade_sound` concludes about the adopted roots -/
theorem roots_ref (C : Crypto) (bsL : Array Bytes) (roots : List Node)
    (h : roots.map (fun n => (n.hash, n.index, n.length)) = (RefTree.roots C bsL).map (fun n => (n.hash, n.index, n.length))) :
    ∀ x ∈ roots, ∃ d o, (o + 1) * 2 ^ d ≤ bsL.size ∧ x.index = Flat.index d o ∧ x.hash = (RefTree.node C bsL d o).2 := by
  intro x hx
  have hmem : (x.hash, x.index, x.length) ∈ roots.map (fun n => (n.hash, n.index, n.length)) := List.mem_map.mpr ⟨x, hx, rfl⟩
  rw [h] at hmem
  obtain ⟨ρ, hρ, hρe⟩ := List.mem_map.mp hmem
  simp only [RefTree.roots, List.mem_map, List.mem_reverse] at hρ
  obtain ⟨pos, hpos, rfl⟩ := hρ
  simp only [Prod.mk.injEq] at hρe
  exact ⟨pos.1, pos.2, rootsStack_bound _ pos hpos, hρe.2.1.symm, hρe.1.symm⟩

/-! ### the general case: a replica that already has roots (the `grow` branch) -/

theorem growLoop_extra (C : Crypto) (rootIndex fuel : Nat) (cs : Changeset) (it : Iter) (q : NodeQueue)
    (res : Changeset × Iter × NodeQueue) (h : growLoop C rootIndex fuel cs it q = .ok res) (e : Node) (he : q.extra = some e) :
    res.2.2.extra = none ∨ res.2.2.extra = some e :=
  growLoop_inv C (fun _ q' => q'.extra = none ∨ q'.extra = some e)
    (fun _ q1 _ _ q2 _ hp hsh => by
      rcases (shift_ok_iff ..).mp hsh with ⟨_, _, rfl⟩ | ⟨_, _, _, _, rfl⟩
      · exact Or.inl rfl
      · exact hp)
    rootIndex fuel cs it q res h (Or.inr he)

theorem growLoop_back (C : Crypto) (bs : Array Bytes) (rootIndex : Nat) : ∀ (fuel : Nat) (cs : Changeset) (d o : Nat) (q : NodeQueue)
    (res : Changeset × Iter × NodeQueue),
    growLoop C rootIndex fuel cs (iat d o) q = .ok res →
    (∀ l, cs.roots.getLast? = some l → l.index = Flat.index d o) →
      (∃ d' o', res.2.1 = iat d' o' ∧ Flat.index d' o' = rootIndex)
      ∧ (∀ l, res.1.roots.getLast? = some l → l.index = rootIndex)
      ∧ ((∀ x ∈ res.1.roots, AuthH C bs x) →
          Collision C ∨ ((∀ x ∈ cs.roots, AuthH C bs x) ∧ ∀ e, q.extra = some e → res.2.2.extra = none → AuthH C bs e)) := by
  intro fuel
  induction fuel with
  | zero => intro cs d o q res h; cases h
  | succ fuel ih =>
    intro cs d o q res h hlast
    rcases (growLoop_succ_ok ..).mp h with ⟨hidx, rfl⟩ | ⟨_, n, q1, hsh, h⟩
    · refine ⟨⟨d, o, rfl, hidx⟩, fun l hl => (hlast l hl).trans hidx, fun hall => Or.inr ⟨hall, fun e he hn => ?_⟩⟩
      rw [he] at hn
      cases hn
    · rw [iat_sibling] at hsh h
      obtain ⟨⟨d1, o1, h1, l1, hl1, hl1i⟩, hback⟩ := appendRoot_back C bs cs n d (sib o) (shift_index _ _ _ _ hsh)
      rw [h1] at h
      obtain ⟨hc, hl, hb2⟩ := ih _ d1 o1 q1 res h (fun l hl => by rw [hl1] at hl; cases hl; exact hl1i)
      refine ⟨hc, hl, fun hall => (hb2 hall).elim Or.inl fun ⟨hA1, hE1⟩ => (hback hA1).elim Or.inl fun ⟨hA0, hAn⟩ =>
        Or.inr ⟨hA0, fun e he hn => ?_⟩⟩
      rcases shift_extra hsh he with hx | ⟨rfl, _⟩
      · exact hE1 e hx hn
      · exact hAn

/-- the invariant of `verify_upgrade`'s root loop on an honest replica: aligned leaf iterator; until the first
    node is consumed the roots are the replica's own; once all of them are matched, or a node was consumed, the
    last root is deep enough that the next full root cannot merge with it -/
structure Grown (cs0 : Changeset) (st : UpState) (s T : Nat) : Prop where
  it : st.it = iat 0 s
  al : Align s T
  own : st.grow = true → st.cs = cs0
  last : (st.grow = false ∨ st.cs.roots.length ≤ st.i) → ∀ r, st.cs.roots.getLast? = some r → ∃ m o, r.index = Flat.index m o ∧ T < s + 2 ^ m ∧ m ≤ 64

theorem grown_init (cs : Changeset) (q : NodeQueue) (T : Nat) : Grown cs ⟨cs, Iter.new 0, q, 0, !cs.roots.isEmpty⟩ 0 T := by
  refine ⟨new_even 0, align_zero T, fun _ => rfl, fun hc r hr => ?_⟩
  have hne : cs.roots ≠ [] := fun e => by rw [e] at hr; cases hr
  rcases hc with hc | hc
  · exact absurd (by simpa using hc) hne
  · exact absurd (List.eq_nil_of_length_eq_zero (Nat.le_zero.mp hc)) hne

theorem upgradeRoots_back (C : Crypto) (bs : Array Bytes) (T : Nat) (hT : T < 2 ^ 64) (cs0 : Changeset)
    (hcanon : ∀ l, cs0.roots.getLast? = some l → ∃ d o, l.index = Flat.index d o ∧ d ≤ 64) :
    ∀ (fuel : Nat) (st st' : UpState) (s : Nat), Grown cs0 st s T → upgradeRoots C (2 * T) fuel st = .ok st' →
      (∀ r, st'.cs.roots.getLast? = some r → ∃ m o, r.index = Flat.index m o ∧ m ≤ 64)
      ∧ ((∀ x ∈ st'.cs.roots, AuthH C bs x) →
        Collision C ∨ ((∀ x ∈ st.cs.roots, AuthH C bs x) ∧ ∀ e, st.q.extra = some e → st'.q.extra = none → AuthH C bs e)) := by
  intro fuel
  induction fuel with
  | zero => intro st st' s _ h; cases h
  | succ fuel ih =>
    intro st st' s hg h
    by_cases hs : s < T
    · obtain ⟨J, hfr, hd, hfit, hal', hmax⟩ := fullRoot_canon s T hg.al hs hT
      rw [← hg.it] at hfr
      have hnext := iat_nextTree J s hd
      have hJ64 : J ≤ 64 := depth_le_64 hfit hT
      rcases upgradeRoots_succ_ok C _ fuel st st' _ _ hfr h with
        ⟨hc, _⟩ | ⟨_, hmatch, h⟩ | ⟨_, _, hgrow, cs1, it1, q1, hgl, h⟩ | ⟨_, _, hnogrow, n, q1, hsh, h⟩
      · cases hc
      · -- the replica has a root at this position
        rw [hnext] at h
        refine ih { st with i := st.i + 1, it := iat 0 (s + 2 ^ J) } st' _ ⟨rfl, hal', hg.own, fun hc r hr => ?_⟩ h
        rcases hc with hc | hc
        · obtain ⟨m, o, h1, h2, h3⟩ := hg.last (Or.inl hc) r hr
          exact ⟨m, o, h1, Nat.lt_of_lt_of_le h2 (Nat.add_le_add_right (Nat.le_add_right s _) _), h3⟩
        · -- all roots matched now: the one just matched is the last
          exact ⟨J, s / 2 ^ J, getD_of_getLast? hr hmatch.1 hc ▸ hmatch.2, hmax, hJ64⟩
      · -- grow: the replica's last roots are merged upwards into this full root
        have hown := hg.own hgrow.1
        obtain ⟨l, hl⟩ : ∃ l, st.cs.roots.getLast? = some l := by
          cases hq : st.cs.roots.getLast? with
          | some l => exact ⟨l, rfl⟩
          | none => rw [List.getLast?_eq_none_iff.mp hq] at hgrow; exact absurd hgrow.2 (Nat.not_lt_zero _)
        -- the grow loop starts on the replica's last root, which sits at a tree position, and ends on `(J, s / 2^J)`
        obtain ⟨dl, ol, hli, hdl⟩ := hcanon l (by rw [← hown]; exact hl)
        rw [hl, Option.getD_some, hli, RefProof.new_index dl ol hdl] at hgl
        obtain ⟨⟨d1, o1, hit1, hidx1⟩, hl1, hbackG⟩ := growLoop_back C bs _ _ st.cs dl ol st.q (cs1, it1, q1) hgl
          (fun l' hl' => by rw [hl] at hl'; cases hl'; exact hli)
        obtain ⟨rfl, rfl⟩ := index_inj _ _ _ _ hidx1.symm
        dsimp only at hit1 hl1 hbackG
        rw [hit1, hnext] at h
        have key := ih _ st' (s + 2 ^ J) ?_ h
        · refine key.imp id fun ihb hall => (ihb hall).elim Or.inl fun ⟨hA1, hE1⟩ => (hbackG hA1).elim Or.inl fun ⟨hA0, hE0⟩ =>
            Or.inr ⟨hA0, fun e he hn => ?_⟩
          -- the extra node was consumed while growing, or later
          rcases growLoop_extra C _ _ _ _ _ _ hgl e he with hq1 | hq1
          · exact hE0 e he hq1
          · exact hE1 e hq1 hn
        · exact ⟨rfl, hal', nofun, fun _ r hr => ⟨J, s / 2 ^ J, hl1 r hr, hmax, hJ64⟩⟩
      · -- the next supplied node becomes a root
        have hcond : st.grow = false ∨ st.cs.roots.length ≤ st.i := by
          cases hgv : st.grow with
          | false => exact Or.inl rfl
          | true => exact Or.inr (Nat.le_of_not_lt fun hlt => hnogrow ⟨hgv, hlt⟩)
        obtain ⟨hroots, hit⟩ := appendRoot_fit C st.cs n J (s / 2 ^ J) s T
          (fun b hb => let ⟨m, o, h1, h2, _⟩ := hg.last hcond b hb; ⟨m, o, h1, h2⟩) hfit
        rw [hit, hnext] at h
        have key := ih _ st' (s + 2 ^ J) ?_ h
        · refine key.imp id fun ihb hall => (ihb hall).elim Or.inl fun ⟨hA1, hE1⟩ => ?_
          dsimp only at hA1 hE1
          rw [hroots] at hA1
          refine Or.inr ⟨fun x hx => hA1 x (List.mem_append_left _ hx), fun e he hn => ?_⟩
          rcases shift_extra hsh he with hx | ⟨rfl, _⟩
          · exact hE1 e hx hn
          · exact hA1 e (List.mem_append_right _ (List.mem_singleton_self e))
        · refine ⟨rfl, hal', nofun, fun _ r hr => ?_⟩
          dsimp only at hr
          rw [hroots, List.getLast?_concat] at hr
          cases hr
          exact ⟨J, s / 2 ^ J, shift_index _ _ _ _ hsh, hmax, hJ64⟩
    · have hfr := fullRoot_done s T (Nat.le_of_not_lt hs)
      rw [← hg.it] at hfr
      rw [upgradeRoots_succ_done C _ fuel st _ hfr] at h
      cases h
      refine ⟨fun r hr => ?_, fun hall => Or.inr ⟨hall, fun e he hn => ?_⟩⟩
      · by_cases hcond : st.grow = false ∨ st.cs.roots.length ≤ st.i
        · obtain ⟨m, o, h1, _, h3⟩ := hg.last hcond r hr
          exact ⟨m, o, h1, h3⟩
        · -- nothing was consumed: the roots are still the replica's own
          cases hgv : st.grow with
          | false => exact absurd (Or.inl hgv) hcond
          | true => exact hcanon r (by rw [← hg.own hgv]; exact hr)
      · rw [he] at hn
        cases hn

/-- an extra node that `verify_upgrade` reports as consumed was merged into the roots it ends with: if those are
    authentic then — absent a collision — so is the node -/
theorem consumed_auth (C : Crypto) (B : Array Bytes) (fork : Nat) (u : DataUpgrade) (root : Node) (pk : Bytes) (cs1 cs2 : Changeset)
    (hcanon : ∀ l, cs1.roots.getLast? = some l → ∃ d o, l.index = Flat.index d o ∧ d ≤ 64)
    (hT : u.start + u.length < 2 ^ 64) (hvu : verifyUpgrade C fork u (some root) pk cs1 = .ok (true, cs2))
    (hA2 : ∀ x ∈ cs2.roots, AuthH C B x) : Collision C ∨ AuthH C B root := by
  obtain ⟨st, last, x, hur, hlast, her, _, _, hcons, hcs2⟩ := (verifyUpgrade_ok_iff ..).mp hvu
  obtain ⟨hlastpos, hbackU⟩ := upgradeRoots_back C B (u.start + u.length) hT cs1 hcanon _ _ st 0 (grown_init ..) hur
  obtain ⟨m, o, hli, hm64⟩ := hlastpos last hlast
  rw [hli, RefProof.new_index m o hm64] at her
  obtain ⟨⟨d', o', hcan⟩, hbackS⟩ := extraSiblings_back C B (u.additionalNodes.length + 1) st.cs m o u.additionalNodes
  rw [hcan] at her
  have hAx : ∀ y ∈ x.1.roots, AuthH C B y := fun y hy => hA2 y (by rw [hcs2]; exact hy)
  exact (extraRest_back C B _ _ d' o' x her hAx).elim Or.inl fun hAS => (hbackS hAS).elim Or.inl fun hAst =>
    (hbackU hAst).elim Or.inl fun h => Or.inr (h.2 root rfl (by simpa using hcons.symm))

end HC.UpgradeSound
