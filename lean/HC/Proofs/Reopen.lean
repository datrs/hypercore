import HC.Proofs.LiveRefine
import HC.Proofs.FullRoots
import HC.Proofs.BitfieldPages
import HC.Proofs.Touch
/-!
Reopen: replaying the logged entries over the flushed stores re-establishes the representation
invariant `Rep` for the same abstract log.

`LiveRefine.EntryStep` says what one logged entry is, relative to the abstract log before and after it (an
append entry carries exactly the reference nodes created by the batch, the upgrade to the new length
and the have-range; a clear entry carries the dropped range).  `replay_ok`: replaying a trace of such
entries from a state that satisfies `RInv` for the log at the last flush reaches a state that satisfies
it for the current log.  `reopen_refines`: hence `Hypercore::new` yields a core satisfying `Rep`.

`truncate_of`, `load_of` and `openTree_of` are about the model alone: they ask only that the tree can look up the
reference roots of the length in question, which a sparse replica can supply as well as a writer.
-/
namespace HC.Reopen
open HC HC.Codec HC.Flat HC.Tree HC.RefTree HC.RefProof HC.Offsets HC.TreeStore HC.LogSpec HC.Core HC.Oplog HC.LiveRefine
  HC.FullRoots HC.BitfieldPages HC.FormatLimits HC.OplogBytes HC.Touch

/-- every element is a reference node of `bs` -/
def AllRef (C : Crypto) (bs : Array Bytes) (l : List Node) : Prop := ∀ n ∈ l, ∃ d o, n = nodeAt C bs d o

/-- two reference nodes with the same index are the same node -/
theorem allRef_index_inj (C : Crypto) (bs : Array Bytes) (x y : Node) (hx : ∃ d o, x = nodeAt C bs d o)
    (hy : ∃ d o, y = nodeAt C bs d o) (h : x.index = y.index) : x = y := by
  obtain ⟨d, o, rfl⟩ := hx
  obtain ⟨d', o', rfl⟩ := hy
  obtain ⟨rfl, rfl⟩ := index_inj d o d' o' h
  rfl

/-- the loop of `truncate` over the indices of reference nodes `S` that the tree can look up, with the accumulator
    holding `P` in front: it ends with `P ++ S` in front -/
theorem truncate_go_of (C : Crypto) (bs : Array Bytes) (t : Tree) (f : File) (S : List Node)
    (hS : ∀ n ∈ S, (∃ d o, n = nodeAt C bs d o) ∧ t.requiredNode f n.index = .ok n) :
    ∀ (P acc : List Node), AllRef C bs acc → acc.take P.length = P →
      ∃ acc', Tree.truncate.go t f (S.map (·.index)) P.length acc = .ok acc' ∧ acc'.take (P ++ S).length = P ++ S := by
  induction S with
  | nil => intro P acc _ hp; exact ⟨acc, rfl, by rw [List.append_nil]; exact hp⟩
  | cons x S ih =>
    intro P acc ha hp
    have ih := ih (fun n hn => hS n (List.mem_cons_of_mem _ hn))
    obtain ⟨hx, hreq⟩ := hS x List.mem_cons_self
    have hlen : (P ++ [x]).length = P.length + 1 := by rw [List.length_append, List.length_singleton]
    have hassoc : P ++ x :: S = (P ++ [x]) ++ S := by rw [List.append_assoc]; rfl
    rw [List.map_cons, Tree.truncate.go, hassoc, ← hlen]
    split
    · -- the accumulator already has a root with this index behind `P`: it is `x`
      rename_i hc
      have hy : acc[P.length]? = some (acc.getD P.length default) := by
        rw [List.getD_eq_getElem?_getD, List.getElem?_eq_getElem hc.1]; rfl
      have hyx : acc.getD P.length default = x :=
        allRef_index_inj C bs _ _ (ha _ (List.mem_of_getElem? hy)) hx hc.2
      exact ih (P ++ [x]) acc ha (by rw [hlen, List.take_add_one, hp, hy, hyx]; rfl)
    · rw [hreq, hp]
      refine ih (P ++ [x]) (P ++ [x]) (fun n hn => ?_) (List.take_length)
      rcases List.mem_append.mp hn with hn | hn
      · exact ha n (List.mem_of_mem_take (hp.symm ▸ hn))
      · rw [List.mem_singleton.mp hn]; exact hx

/-- `truncate` to length `n` on a tree whose current roots are reference nodes of `bs` and whose lookup
    finds the reference roots of the first `n` blocks -/
theorem truncate_of (C : Crypto) (bs : Array Bytes) (t : Tree) (f : File) (n fork : Nat) (hs : n < 2 ^ 64)
    (hR : ∀ p ∈ rootsStack n, t.node? f (Flat.index p.1 p.2) = some (nodeAt C bs p.1 p.2))
    (hroots : AllRef C bs t.roots) :
    t.truncate f n fork = .ok { t.changeset with roots := (rootsStack n).reverse.map fun p => nodeAt C bs p.1 p.2, fork := fork,
                                                 length := n, ancestors := n, byteLength := psum bs n, upgraded := true } := by
  generalize hRdef : ((rootsStack n).reverse.map fun p => nodeAt C bs p.1 p.2) = R
  have hfull : fullRoots (n * 2) = R.map (·.index) := by
    rw [Nat.mul_comm, fullRoots_eq n hs, ← hRdef, List.map_map]; rfl
  obtain ⟨acc', h1, h2⟩ := truncate_go_of C bs t f R (fun x hx => by
      rw [← hRdef] at hx
      obtain ⟨p, hp, rfl⟩ := List.mem_map.mp hx
      exact ⟨⟨p.1, p.2, rfl⟩, (requiredNode_eq_ok_iff _ _ _ _).mpr (hR p (List.mem_reverse.mp hp))⟩)
    [] t.roots hroots rfl
  replace h1 : Tree.truncate.go t f (R.map (·.index)) 0 t.roots = .ok acc' := h1
  replace h2 : acc'.take R.length = R := h2
  have hsum : (R.map (·.length)).sum = psum bs n := hRdef ▸ rootsAt_sum C bs n
  simp only [Tree.truncate, hfull, h1, List.length_map, h2, hsum]

/-! ### the replay invariant -/

/-- What the replay maintains: `Rep` without the parts that live outside (secret, data store), stated so
    that it tolerates a bitfield store that is *ahead* of the header: `rest` are the entries still to be
    replayed, `N` the final length.  A bit equals the abstract one unless a remaining entry touches it;
    everything below the hint is held unless a remaining entry drops it (`contJ`); the hint is never stuck on a
    held bit (`contK`: it stands on a missing bit, or at or beyond the length, where the next append's range
    picks it up and rescans).  `hdrSig`, `shape` and `forkU` say that the header can be written back: the
    reopened core flushes like any other. -/
structure RInv (C : Crypto) (t : Tree) (b : Bitfield) (h : Header) (f fb : File) (a : Abs) (rest : List Entry) (N : Nat) : Prop where
  tree : RootsOK C a.blocks t.changeset
  nodes : NodesOK C a.blocks t f
  mapwf : MapWF t.unflushed
  bitsB : ∀ i, (∀ e ∈ rest, ¬ Touches e i) → b.get i = a.held i
  heldLt : ∀ i, a.held i = true → i < a.blocks.size
  contJ : ∀ i, i < h.contiguous → b.get i = true ∨ ∃ e ∈ rest, Clears e i
  contK : a.blocks.size ≤ h.contiguous ∨ b.get h.contiguous = false
  bitsN : ∀ i, b.get i = true → i < N
  contN : h.contiguous ≤ N
  hdrLen : h.tree.length = a.blocks.size
  hdrSig : h.tree.signature = [] ∨ h.tree.signature.length = 64
  shape : HdrShape h
  forkU : U64 t.fork
  dirty : ∀ i, b.get i ≠ (Bitfield.ofFile fb).get i → i / Spec.pageBits ∈ b.dirty

/-- with nothing left to replay the bitfield is exact and the hint is the first missing index -/
theorem rinv_final (C : Crypto) (t : Tree) (b : Bitfield) (h : Header) (f fb : File) (a : Abs) (N : Nat)
    (hinv : RInv C t b h f fb a [] N) : (∀ i, b.get i = a.held i) ∧ FirstMissing b h.contiguous := by
  have hb : ∀ i, b.get i = a.held i := fun i => hinv.bitsB i (fun e he => by cases he)
  refine ⟨hb, fun i hi => ?_, ?_⟩
  · rcases hinv.contJ i hi with h1 | ⟨e, he, _⟩
    · exact h1
    · cases he
  · rcases hinv.contK with h1 | h1
    · cases hc : b.get h.contiguous with
      | false => rfl
      | true => exact absurd (hinv.heldLt _ (hb _ ▸ hc)) (Nat.not_lt_of_ge h1)
    · exact h1

/-- … so a core made of the replayed tree, bitfield and header represents the log -/
theorem rep_of_rinv {C : Crypto} {c : Core} {d : Disk} {fb : File} {a : Abs} {N : Nat}
    (hinv : RInv C c.tree c.bitfield c.header d.tree fb a [] N) (hw : c.secret.isSome = a.writable)
    (hdata : DataOK a.blocks a.held d.data) (hsmall : Small a) : Rep C c d a :=
  { writer := hw
    tree := hinv.tree
    nodes := hinv.nodes
    mapwf := hinv.mapwf
    bits := (rinv_final C _ _ _ _ _ a N hinv).1
    heldLt := hinv.heldLt
    contig := (rinv_final C _ _ _ _ _ a N hinv).2
    data := hdata
    small := hsmall }

theorem prefix_le (p : Nat → Bool) (c n : Nat) (h : ∀ i, i < c → p i = true) (hlt : ∀ i, p i = true → i < n) : c ≤ n :=
  Nat.le_of_not_lt fun hn => Nat.lt_irrefl n (hlt n (h n hn))

theorem contig_le_of (b : Bitfield) (c n : Nat) (h : FirstMissing b c) (hlt : ∀ i, b.get i = true → i < n) : c ≤ n :=
  prefix_le b.get c n h.1 hlt

theorem foldl_addNode (nodes : List Node) (t : Tree) :
    nodes.foldl Tree.addNode t = { t with unflushed := insertAll t.unflushed nodes } := by
  induction nodes generalizing t with
  | nil => rfl
  | cons n ns ih => simp only [List.foldl_cons, ih, Tree.addNode, insertAll]

theorem replayEntry_bits (C : Crypto) (d : Disk) (ol : Oplog.State) (h : Header) (t : Tree) (b : Bitfield) (e : Entry)
    (u : BitfieldUpdate) (hb : e.bitfield = some u) (hu : e.treeUpgrade = none) :
    Core.replayEntry C d (ol, h, t, b) e =
      .ok (ol, updateContiguous h (b.setRange u.start u.length (!u.drop)) u, e.treeNodes.foldl Tree.addNode t,
           b.setRange u.start u.length (!u.drop)) := by
  simp only [Core.replayEntry, hb, hu]

theorem replayEntry_upgrade (C : Crypto) (d : Disk) (ol : Oplog.State) (h : Header) (t : Tree) (b : Bitfield) (e : Entry)
    (u : BitfieldUpdate) (up : TreeUpgrade) (cs : Changeset) (t2 : Tree) (hb : e.bitfield = some u) (hu : e.treeUpgrade = some up)
    (htr : (e.treeNodes.foldl Tree.addNode t).truncate d.tree up.length up.fork = .ok cs) (hsig : up.signature.length = 64)
    (hcommit : (e.treeNodes.foldl Tree.addNode t).commit
      { cs with ancestors := up.ancestors, hash := some (Tree.rootsHash C cs.roots), signature := some up.signature } = .ok t2) :
    Core.replayEntry C d (ol, h, t, b) e =
      .ok (ol, (entryOf { cs with ancestors := up.ancestors, hash := some (Tree.rootsHash C cs.roots), signature := some up.signature }
                  none (updateContiguous h (b.setRange u.start u.length (!u.drop)) u)).2,
           t2, b.setRange u.start u.length (!u.drop)) := by
  simp only [Core.replayEntry, hb, hu, htr, hsig, ne_eq, not_true_eq_false, ite_false, hcommit]

theorem not_touches_of {e : Entry} {u : BitfieldUpdate} (he : e.bitfield = some u) {i : Nat}
    (h : ¬ (u.start ≤ i ∧ i < u.start + u.length)) : ¬ Touches e i := by
  rintro ⟨u', h1, h2⟩
  cases he.symm.trans h1
  exact h h2

theorem not_clears_of {e : Entry} {u : BitfieldUpdate} (he : e.bitfield = some u) (hd : u.drop = false) (i : Nat) : ¬ Clears e i := by
  rintro ⟨u', h1, h2, _⟩
  cases he.symm.trans h1
  rw [hd] at h2; cases h2

/-- the bits stay exact wherever no later entry touches them, and below `N` -/
theorem bits_step (b : Bitfield) (held held' : Nat → Bool) (e : Entry) (rest : List Entry) (u : BitfieldUpdate) (N : Nat)
    (he : e.bitfield = some u) (hb : ∀ i, (∀ x ∈ e :: rest, ¬ Touches x i) → b.get i = held i)
    (hh : ∀ i, held' i = if u.start ≤ i ∧ i < u.start + u.length then !u.drop else held i)
    (hN : ∀ i, b.get i = true → i < N) (hset : u.drop = false → u.start + u.length ≤ N) :
    (∀ i, (∀ x ∈ rest, ¬ Touches x i) → (b.setRange u.start u.length (!u.drop)).get i = held' i)
      ∧ ∀ i, (b.setRange u.start u.length (!u.drop)).get i = true → i < N := by
  refine ⟨fun i hu => ?_, fun i hi => ?_⟩
  · rw [Bitfield.get_setRange, hh]
    split
    · rfl
    · rename_i hin
      exact hb i fun x hx => by
        rcases List.mem_cons.mp hx with rfl | hx
        · exact not_touches_of he hin
        · exact hu x hx
  · rw [Bitfield.get_setRange] at hi
    split at hi
    · rename_i hin
      cases hd : u.drop with
      | true => rw [hd] at hi; cases hi
      | false => exact Nat.lt_of_lt_of_le hin.2 (hset hd)
    · exact hN i hi

/-- what the replay knows of a hint `c` while `rest` is still to be replayed, for a log of `n` blocks that will have `N`:
    everything below the hint is held or dropped later, the hint is not stuck on a held bit, and it stays below `N`
    (`contJ`, `contK`, `contN` of `RInv`) -/
def HintOK (b : Bitfield) (c n N : Nat) (rest : List Entry) : Prop :=
  (∀ i, i < c → b.get i = true ∨ ∃ x ∈ rest, Clears x i) ∧ (n ≤ c ∨ b.get c = false) ∧ c ≤ N

/-- a dropping update lowers the hint to the start of the range if that lies below it -/
theorem hint_drop (b : Bitfield) (c : Nat) (e : Entry) (rest : List Entry) (s len n N : Nat) (hlen : 0 < len)
    (he : e.bitfield = some ⟨true, s, len⟩) (h : HintOK b c n N (e :: rest)) :
    HintOK (b.setRange s len false) (if s < c then s else c) n N rest := by
  obtain ⟨hJ, hK, hN⟩ := h
  have hle : (if s < c then s else c) ≤ c ∧ (if s < c then s else c) ≤ s := by
    split
    · rename_i hlt; exact ⟨Nat.le_of_lt hlt, Nat.le_refl s⟩
    · rename_i hge; exact ⟨Nat.le_refl c, Nat.le_of_not_lt hge⟩
  refine ⟨fun i hi => ?_, ?_, Nat.le_trans hle.1 hN⟩
  · -- below the new hint means below the old one and below the dropped range
    have hic : i < c ∧ i < s := ⟨Nat.lt_of_lt_of_le hi hle.1, Nat.lt_of_lt_of_le hi hle.2⟩
    have hout : ¬ (s ≤ i ∧ i < s + len) := fun h => Nat.not_le_of_lt hic.2 h.1
    rcases hJ i hic.1 with h1 | ⟨x, hx, hcl⟩
    · exact Or.inl ((Bitfield.get_setRange_out b false hout).trans h1)
    · rcases List.mem_cons.mp hx with rfl | hx
      · exact absurd hcl.touches (not_touches_of he hout)
      · exact Or.inr ⟨x, hx, hcl⟩
  · split
    · exact Or.inr (Bitfield.get_setRange_in b false (Nat.le_refl s) (Nat.lt_add_of_pos_right hlen))
    · rcases hK with h1 | h1
      · exact Or.inl h1
      · right; rw [Bitfield.get_setRange]; split
        · rfl
        · exact h1

/-- a setting update at `[n, n + k)`, `n` the old length: a hint in `[n, n + k]` moves to where the scan from `n + k` stops -/
theorem hint_set (b : Bitfield) (c : Nat) (e : Entry) (rest : List Entry) (n k N : Nat) (hncl : ∀ i, ¬ Clears e i)
    (h : HintOK b c n N (e :: rest)) (hbN : ∀ i, (b.setRange n k true).get i = true → i < N) (hnk : n + k ≤ N) :
    HintOK (b.setRange n k true)
      (if c ≤ n + k ∧ c ≥ n then updateContiguous.scan (b.setRange n k true) ((b.setRange n k true).bits.size + 1) (n + k) else c)
      (n + k) N rest := by
  obtain ⟨hJ, hK, hN⟩ := h
  have hold : ∀ i, i < c → (b.setRange n k true).get i = true ∨ ∃ x ∈ rest, Clears x i := by
    intro i hic
    rcases hJ i hic with h1 | ⟨x, hx, hcl⟩
    · left; rw [Bitfield.get_setRange]; split
      · rfl
      · exact h1
    · rcases List.mem_cons.mp hx with rfl | hx
      · exact absurd hcl (hncl i)
      · exact Or.inr ⟨x, hx, hcl⟩
  split
  · rename_i hin
    obtain ⟨s1, s2, s3⟩ := scan_spec (b.setRange n k true) ((b.setRange n k true).bits.size + 1) (n + k)
      (Nat.lt_of_lt_of_le (Nat.lt_succ_self _) (Nat.le_add_left _ _))
    generalize updateContiguous.scan (b.setRange n k true) ((b.setRange n k true).bits.size + 1) (n + k) = c' at s1 s2 s3
    refine ⟨fun i hi => ?_, Or.inl s3, ?_⟩
    · rcases Nat.lt_or_ge i (n + k) with h1 | h1
      · rcases Nat.lt_or_ge i n with h2 | h2
        · exact hold i (Nat.lt_of_lt_of_le h2 hin.2)
        · exact Or.inl (Bitfield.get_setRange_in b true h2 h1)
      · exact Or.inl (s1 i h1 hi)
    · -- a scan that ran past `N` would have found bit `N` set
      exact Nat.le_of_not_lt fun hlt => Nat.lt_irrefl N (hbN N (s1 N hnk hlt))
  · rename_i hout
    refine ⟨hold, ?_, hN⟩
    rcases Nat.lt_or_ge c (n + k) with hlt | hge
    · right
      rcases hK with h2 | h2
      · exact absurd ⟨Nat.le_of_lt hlt, h2⟩ hout
      · exact (Bitfield.get_setRange_out b true fun h => hout ⟨Nat.le_of_lt hlt, h.1⟩).trans h2
    · exact Or.inl hge

/-- the entry's nodes enter the map, `truncate` to the new length then finds the new reference roots, and the commit
    makes them the tree's -/
theorem replay_upgrade (C : Crypto) (hC : HashWF C) (bs : Array Bytes) (more : List Bytes) (t : Tree) (f : File) (nodes : List Node)
    (fk : Nat) (sig : Bytes) (hT : RootsOK C bs t.changeset) (hN : NodesOK C bs t f) (hwf : MapWF t.unflushed)
    (sound : ∀ n ∈ nodes, ∃ d o, n = nodeAt C (bs ++ more.toArray) d o ∧ (o + 1) * 2 ^ d ≤ bs.size + more.length)
    (compl : ∀ d o, bs.size < (o + 1) * 2 ^ d → (o + 1) * 2 ^ d ≤ bs.size + more.length → nodeAt C (bs ++ more.toArray) d o ∈ nodes)
    (hs : bs.size + more.length < 2 ^ 64) (hsmall : totalBytes (bs ++ more.toArray) < 2 ^ 64) :
    ∃ cs t2, (nodes.foldl Tree.addNode t).truncate f (bs.size + more.length) fk = .ok cs
      ∧ (nodes.foldl Tree.addNode t).commit
          { cs with ancestors := bs.size, hash := some (Tree.rootsHash C cs.roots), signature := some sig } = .ok t2
      ∧ cs.upgraded = true ∧ cs.length = bs.size + more.length
      ∧ RootsOK C (bs ++ more.toArray) t2.changeset ∧ NodesOK C (bs ++ more.toArray) t2 f ∧ MapWF t2.unflushed ∧ t2.fork = fk := by
  have hsz := size_append_list bs more
  rw [foldl_addNode]
  generalize ht1 : ({ t with unflushed := insertAll t.unflushed nodes } : Tree) = t1
  have hN1 : NodesOK C (bs ++ more.toArray) t1 f :=
    nodesOK_insert_gen C hC bs more t t1 f nodes (by rw [← ht1]) sound compl hN
  -- the old roots are reference nodes of the extended log as well
  have hroots1 : AllRef C (bs ++ more.toArray) t1.roots := by
    have hr : t1.roots = Growth.rootsAt C bs bs.size := by rw [← ht1]; exact hT.roots_eq
    intro n hn
    obtain ⟨dd, o, rfl, hb⟩ := Growth.rootsAt_inside C bs _ n (hr ▸ hn)
    exact ⟨dd, o, (nodeAt_append C bs more dd o hb).symm⟩
  have hlen1 : t1.length = bs.size := by rw [← ht1]; exact hT.length
  refine ⟨_, _, truncate_of C (bs ++ more.toArray) t1 f (bs.size + more.length) fk hs
      (fun p hp => hN1 p.1 p.2 (by rw [hsz]; exact rootsStack_bound _ p hp)) hroots1,
    (Tree.commit_ok_iff _ _ _).mpr ⟨?_, ?_, rfl⟩, rfl, rfl, ⟨hsz.symm, ?_, ?_⟩, ?_, ?_, rfl⟩
  · simp [Tree.commitable, Tree.changeset]
  · exact fun hh => absurd hh.2 (by show ¬ bs.size < t1.length; rw [hlen1]; exact Nat.lt_irrefl _)
  · show (List.map _ (rootsStack (bs.size + more.length)).reverse).reverse = _
    rw [hsz, List.map_reverse, List.reverse_reverse]
  · show psum _ (bs.size + more.length) = _
    rw [← hsz]; exact psum_total _
  · exact fun dd o hb => (node?_congr t1 _ f _ rfl).trans (hN1 dd o hb)
  · show MapWF t1.unflushed
    rw [← ht1]; exact mapWF_insertAll_ref C hC bs more _ _ hwf hsmall sound

/-- one step of the replay keeps `RInv`: `bits_step` for the bits, `hint_drop` / `hint_set` for the hint, and for an
    append entry `replay_upgrade` for the tree; the header's other fields follow `entryOf` and `updateContiguous` -/
theorem replayEntry_ok (C : Crypto) (hC : HashWF C) (d : Disk) (ol : Oplog.State) (h : Header) (t : Tree) (b : Bitfield)
    (a a' : Abs) (e : Entry) (rest : List Entry) (N : Nat) (hTw : TreeWF C)
    (hinv : RInv C t b h d.tree d.bitfield a (e :: rest) N) (hstep : EntryStep C a e a')
    (hsmall : Small a') (hok : EntryOK e) (hN : a'.blocks.size ≤ N) (hN64 : N < 2 ^ 64) :
    ∃ h' t' b', Core.replayEntry C d (ol, h, t, b) e = .ok (ol, h', t', b') ∧ RInv C t' b' h' d.tree d.bitfield a' rest N
      ∧ h'.secret = h.secret ∧ h'.publicKey = h.publicKey := by
  have hlt' := step_heldLt C a a' e hstep hinv.heldLt
  cases hstep with
  | clear s e hse =>
    rw [step_clear a s e hse] at hlt' ⊢
    obtain ⟨hB, hbN⟩ := bits_step b a.held _ _ rest ⟨true, s, e - s⟩ N rfl hinv.bitsB (fun i => and_not_range (a.held i) s e i)
      hinv.bitsN (fun hd => nomatch hd)
    obtain ⟨hJ, hK, hcN⟩ := hint_drop b h.contiguous _ rest s (e - s) a.blocks.size N (Nat.sub_pos_of_lt hse) rfl
      ⟨hinv.contJ, hinv.contK, hinv.contN⟩
    rw [← updateContiguous_drop h (b.setRange s (e - s) false) s (e - s)] at hJ hK hcN
    refine ⟨_, _, _, replayEntry_bits C d ol h t b _ ⟨true, s, e - s⟩ rfl rfl, ?_, updateContiguous_secret _ _ _,
      updateContiguous_publicKey _ _ _⟩
    exact { hinv with
      bitsB := hB
      heldLt := hlt'
      contJ := hJ
      contK := hK
      bitsN := hbN
      contN := hcN
      hdrLen := by rw [updateContiguous_tree_eq]; exact hinv.hdrLen
      hdrSig := by rw [updateContiguous_tree_eq]; exact hinv.hdrSig
      shape := by rw [updateContiguous_only]; exact hdrShape_contig _ hinv.shape _ (Nat.lt_of_le_of_lt hcN hN64)
      dirty := dirty_setRange _ _ _ _ _ hinv.dirty }
  | append batch nodes sig fk hne hw hsig sound compl _ =>
    rw [step_append a batch hw hne] at hsmall hN hlt' ⊢
    have hsz := size_append_list a.blocks batch
    have hN' : a.blocks.size + batch.length ≤ N := by rw [← hsz]; exact hN
    obtain ⟨hB, hbN⟩ := bits_step b a.held _ _ rest ⟨false, a.blocks.size, batch.length⟩ N rfl hinv.bitsB
      (fun i => or_range (a.held i) _ _ i) hinv.bitsN (fun _ => hN')
    obtain ⟨hJ, hK, hcN⟩ := hint_set b h.contiguous _ rest a.blocks.size batch.length N (not_clears_of rfl rfl)
      ⟨hinv.contJ, hinv.contK, hinv.contN⟩ hbN hN'
    rw [← updateContiguous_set h (b.setRange a.blocks.size batch.length true) a.blocks.size batch.length] at hJ hK hcN
    obtain ⟨cs, t2, htr, hcommit, hup, hcslen, hT2, hN2, hwf2, hfork2⟩ := replay_upgrade C hC a.blocks batch t d.tree nodes fk sig
      hinv.tree hinv.nodes hinv.mapwf sound compl (Nat.lt_of_le_of_lt hN' hN64) hsmall.2
    generalize hh1 : updateContiguous h (b.setRange a.blocks.size batch.length true) ⟨false, a.blocks.size, batch.length⟩ = h1
      at hJ hK hcN
    have hshape1 : HdrShape h1 := by
      rw [← hh1, updateContiguous_only, hh1]; exact hdrShape_contig _ hinv.shape _ (Nat.lt_of_le_of_lt hcN hN64)
    -- the header takes root hash, signature and length from the changeset
    have hh2 : (entryOf { cs with ancestors := a.blocks.size, hash := some (Tree.rootsHash C cs.roots), signature := some sig } none h1).2
        = { h1 with tree := { h1.tree with rootHash := Tree.rootsHash C cs.roots, signature := sig, length := cs.length } } := by
      exact congrArg Prod.snd (entryOf_upgraded
        { cs with ancestors := a.blocks.size, hash := some (Tree.rootsHash C cs.roots), signature := some sig } none h1 hup)
    refine ⟨(entryOf { cs with ancestors := a.blocks.size, hash := some (Tree.rootsHash C cs.roots), signature := some sig } none h1).2,
      t2, b.setRange a.blocks.size batch.length true, ?_, ?_, ?_, ?_⟩
    · rw [← hh1]
      exact replayEntry_upgrade C d ol h t b _ ⟨false, a.blocks.size, batch.length⟩
        ⟨fk, a.blocks.size, a.blocks.size + batch.length, sig⟩ cs t2 rfl rfl htr hsig hcommit
    · rw [hh2]
      exact {
        tree := hT2
        nodes := hN2
        mapwf := hwf2
        bitsB := hB
        heldLt := hlt'
        contJ := hJ
        contK := by rw [hsz]; exact hK
        bitsN := hbN
        contN := hcN
        hdrLen := hcslen.trans hsz.symm
        hdrSig := Or.inr hsig
        shape := hdrShape_set h1 hshape1 _ sig cs.length h1.contiguous (Nat.le_of_eq (hTw _)) (Nat.le_of_eq hsig)
          (by rw [hcslen]; exact Nat.lt_of_le_of_lt hN' hN64) hshape1.contig
        forkU := by rw [hfork2]; exact (hok.1.up ⟨fk, a.blocks.size, a.blocks.size + batch.length, sig⟩ rfl).1
        dirty := dirty_setRange _ _ _ _ _ hinv.dirty }
    · rw [entryOf_secret, ← hh1, updateContiguous_secret]
    · rw [entryOf_publicKey, ← hh1, updateContiguous_publicKey]

theorem replay_ok (C : Crypto) (hC : HashWF C) (hTw : TreeWF C) (d : Disk) (ol : Oplog.State) (N : Nat) (hN64 : N < 2 ^ 64)
    (es : List Entry) :
    ∀ (h : Header) (t : Tree) (b : Bitfield) (a a' : Abs), RInv C t b h d.tree d.bitfield a es N → Trace C a es a' →
      (∀ e ∈ es, EntryOK e) → a'.blocks.size ≤ N →
      ∃ h' t' b', Core.openCore.replay C d es (ol, h, t, b) = .ok (ol, h', t', b') ∧ RInv C t' b' h' d.tree d.bitfield a' [] N
        ∧ h'.secret = h.secret ∧ h'.publicKey = h.publicKey := by
  induction es with
  | nil =>
    intro h t b a a' hinv htr _ _
    cases htr
    exact ⟨h, t, b, rfl, hinv, rfl, rfl⟩
  | cons e es ih =>
    intro h t b a a' hinv htr hoks hN
    cases htr with
    | cons _ a1 _ _ _ hstep hsm hrest =>
      have hN1 : a1.blocks.size ≤ N := Nat.le_trans (trace_size_le C a1 a' es hrest) hN
      obtain ⟨h1, t1, b1, r1, r2, r3, r4⟩ := replayEntry_ok C hC d ol h t b a a1 e es N hTw hinv hstep hsm (hoks e List.mem_cons_self) hN1 hN64
      obtain ⟨h2, t2, b2, s1, s2, s3, s4⟩ := ih h1 t1 b1 a1 a' r2 hrest (fun x hx => hoks x (List.mem_cons_of_mem _ hx)) hN
      refine ⟨h2, t2, b2, ?_, s2, by rw [s3, r3], by rw [s4, r4]⟩
      simp only [Core.openCore.replay, r1, s1]

theorem load_of (C : Crypto) (bs : Array Bytes) (f : File) :
    ∀ (l : List (Nat × Nat)), (∀ p ∈ l, ({} : Tree).node? f (Flat.index p.1 p.2) = some (nodeAt C bs p.1 p.2)) →
      Tree.openTree.load f (l.map fun p => Flat.index p.1 p.2) = .ok (l.map fun p => nodeAt C bs p.1 p.2) := by
  intro l
  induction l with
  | nil => intro _; rfl
  | cons p ps ih =>
    intro hb
    obtain ⟨bytes, hr, hn⟩ := node?_empty f _ _ (hb p List.mem_cons_self)
    simp only [List.map_cons, Tree.openTree.load, hr, ih (fun q hq => hb q (List.mem_cons_of_mem _ hq)), hn]

theorem cover_fold (C : Crypto) (bs : Array Bytes) (l : List (Nat × Nat)) (a b : Nat) (h : Cover l a b) :
    (l.map fun p => nodeAt C bs p.1 p.2).foldl (fun l n => l + 2 * ((n.index - l) + 1)) (2 * a) = 2 * b := by
  induction h with
  | nil a => rfl
  | cons d o a b rest ha _ ih =>
    rw [List.map_cons, List.foldl_cons, ha, nodeAt_index, index_head]
    exact ih

/-- `MerkleTree::open` on a store that holds the reference roots of the header's length -/
theorem openTree_of (C : Crypto) (bs : Array Bytes) (ht : HeaderTree) (f : File) (m : Nat) (hlen : ht.length = m) (hs : m < 2 ^ 64)
    (hR : ∀ p ∈ rootsStack m, ({} : Tree).node? f (Flat.index p.1 p.2) = some (nodeAt C bs p.1 p.2))
    (hsig : ht.signature = [] ∨ ht.signature.length = 64) :
    Tree.openTree ht f = .ok { roots := (rootsStack m).reverse.map fun p => nodeAt C bs p.1 p.2, length := m, byteLength := psum bs m,
                               fork := ht.fork, signature := if ht.signature.isEmpty then none else some ht.signature } := by
  have hidx : fullRoots (ht.length * 2) = (rootsStack m).reverse.map fun p => Flat.index p.1 p.2 := by
    rw [hlen, Nat.mul_comm]; exact fullRoots_eq m hs
  have hload := load_of C bs f (rootsStack m).reverse (fun p hp => hR p (List.mem_reverse.mp hp))
  have hfold := cover_fold C bs _ 0 m (cover_roots m)
  have hsigc : (!ht.signature.isEmpty && decide (ht.signature.length ≠ 64)) = false := by
    rcases hsig with h | h
    · rw [h]; rfl
    · rw [h, decide_not, decide_eq_true rfl, Bool.not_true, Bool.and_false]
  have hsum := rootsAt_sum C bs m
  rw [Growth.rootsAt] at hsum
  simp only [Tree.openTree, hidx, hload, hsigc, Bool.false_eq_true, ite_false, hfold, Nat.mul_div_cancel_left m (Nat.zero_lt_two), hsum]

theorem openTree_ok (C : Crypto) (bs : Array Bytes) (ht : HeaderTree) (f : File) (hN : NodesOK C bs {} f)
    (hlen : ht.length = bs.size) (hs : bs.size < 2 ^ 64) (hsig : ht.signature = [] ∨ ht.signature.length = 64) :
    ∃ t, Tree.openTree ht f = .ok t ∧ RootsOK C bs t.changeset ∧ t.unflushed = {} ∧ t.fork = ht.fork :=
  ⟨_, openTree_of C bs ht f bs.size hlen hs (fun p hp => hN p.1 p.2 (rootsStack_bound _ p hp)) hsig,
    ⟨rfl, by show (List.map _ (rootsStack bs.size).reverse).reverse = _; rw [List.map_reverse, List.reverse_reverse], psum_total bs⟩,
    rfl, rfl⟩

/-! ### `Hypercore::new` on existing storage -/

/-- If the oplog opens to the header of the last flush and the entries logged since, the tree store holds
    the nodes of that flush, the entries lead from that state to the log `a`, and the bitfield store holds
    the state of that flush **or anything a partial flush of a later state may have left** (a bit no
    entry touches is as at the flush; a bit held at the flush is still set unless an entry drops it; a bit
    missing below the flushed length is clear; no bit at or beyond the final length is set), then opening
    succeeds and the opened state satisfies the replay invariant for `a` — bitfield exact, hint exact. -/
theorem reopen_full (C : Crypto) (hC : HashWF C) (hTw : TreeWF C) (d : Disk) (ost : Oplog.State) (hf : Header) (es : List Entry)
    (a0 a : Abs) (ops : List SOp) (hops : ∀ op ∈ ops, op.store = .oplog)
    (hlog : Oplog.openLog none d.oplog.toList = .ok ⟨ost, hf, ops, es⟩)
    (hlen : hf.tree.length = a0.blocks.size) (hsig : hf.tree.signature = [] ∨ hf.tree.signature.length = 64)
    (hshape : HdrShape hf) (hoks : ∀ e ∈ es, EntryOK e)
    (hN : NodesOK C a0.blocks {} d.tree)
    (hstable : ∀ i, (∀ e ∈ es, ¬ Touches e i) → (Bitfield.ofFile d.bitfield).get i = a0.held i)
    (hkept : ∀ i, a0.held i = true → (Bitfield.ofFile d.bitfield).get i = true ∨ ∃ e ∈ es, Clears e i)
    (hlow : ∀ i, i < a0.blocks.size → a0.held i = false → (Bitfield.ofFile d.bitfield).get i = false)
    (hbN : ∀ i, (Bitfield.ofFile d.bitfield).get i = true → i < a.blocks.size)
    (hlt : ∀ i, a0.held i = true → i < a0.blocks.size)
    (hcontig : (∀ i, i < hf.contiguous → a0.held i = true) ∧ a0.held hf.contiguous = false)
    (hsmall0 : Small a0) (htrace : Trace C a0 es a) :
    ∃ h' t' b', Core.openCore C none d = .ok ({ publicKey := h'.publicKey, secret := h'.secret, oplog := ost, header := h', tree := t', bitfield := b', skipFlush := 0 }, ops)
      ∧ RInv C t' b' h' d.tree d.bitfield a [] a.blocks.size ∧ h'.secret = hf.secret := by
  -- the stores after the operations `Oplog::open` issues (a truncate of the oplog at most)
  have hd1t : (d.applyAll ops).tree = d.tree := Journal.applyAll_tree hops
  have hd1b : (d.applyAll ops).bitfield = d.bitfield := Journal.applyAll_bitfield hops
  obtain ⟨t0, ht0, hroots0, hunf0, hfork0⟩ := openTree_ok C a0.blocks hf.tree d.tree hN hlen hsmall0.1 hsig
  have hN0 : NodesOK C a0.blocks t0 d.tree := fun dd o hb => (node?_congr {} t0 d.tree _ (by rw [hunf0])).trans (hN dd o hb)
  have hsz := trace_size_le C a0 a es htrace
  have hsmall := trace_small C a0 a es htrace hsmall0
  have hc0 : hf.contiguous ≤ a0.blocks.size := prefix_le a0.held _ _ hcontig.1 hlt
  have hinv0 : RInv C t0 (Bitfield.ofFile d.bitfield) hf d.tree d.bitfield a0 es a.blocks.size := {
    tree := hroots0
    nodes := hN0
    mapwf := by rw [hunf0]; exact fun k n hk => by rw [Std.HashMap.getElem?_empty] at hk; cases hk
    bitsB := hstable
    heldLt := hlt
    contJ := fun i hi => hkept i (hcontig.1 i hi)
    contK := by
      by_cases hlt' : hf.contiguous < a0.blocks.size
      · exact Or.inr (hlow _ hlt' hcontig.2)
      · exact Or.inl (Nat.le_of_not_lt hlt')
    bitsN := hbN
    contN := Nat.le_trans hc0 hsz
    hdrLen := hlen
    hdrSig := hsig
    shape := hshape
    forkU := by rw [hfork0]; exact hshape.fork
    dirty := fun i hne => absurd rfl hne }
  rw [← hd1t, ← hd1b] at hinv0
  obtain ⟨h', t', b', hrep, hinv', hs', _⟩ := replay_ok C hC hTw (d.applyAll ops) ost a.blocks.size hsmall.1 es hf t0
    (Bitfield.ofFile (d.applyAll ops).bitfield) a0 a hinv0 htrace hoks (Nat.le_refl _)
  rw [hd1t, hd1b] at hinv'
  refine ⟨h', t', b', ?_, hinv', hs'⟩
  rw [← hd1t] at ht0
  simp only [Core.openCore, hlog, ht0, hrep]

/-- … hence a core that represents `a`, given that the data store holds `a`'s held blocks -/
theorem reopen_refines (C : Crypto) (hC : HashWF C) (hTw : TreeWF C) (d : Disk) (ost : Oplog.State) (hf : Header) (es : List Entry)
    (a0 a : Abs) (ops : List SOp) (hops : ∀ op ∈ ops, op.store = .oplog)
    (hlog : Oplog.openLog none d.oplog.toList = .ok ⟨ost, hf, ops, es⟩)
    (hlen : hf.tree.length = a0.blocks.size) (hsig : hf.tree.signature = [] ∨ hf.tree.signature.length = 64)
    (hsec : hf.secret.isSome = a.writable) (hshape : HdrShape hf) (hoks : ∀ e ∈ es, EntryOK e)
    (hN : NodesOK C a0.blocks {} d.tree)
    (hstable : ∀ i, (∀ e ∈ es, ¬ Touches e i) → (Bitfield.ofFile d.bitfield).get i = a0.held i)
    (hkept : ∀ i, a0.held i = true → (Bitfield.ofFile d.bitfield).get i = true ∨ ∃ e ∈ es, Clears e i)
    (hlow : ∀ i, i < a0.blocks.size → a0.held i = false → (Bitfield.ofFile d.bitfield).get i = false)
    (hbN : ∀ i, (Bitfield.ofFile d.bitfield).get i = true → i < a.blocks.size)
    (hlt : ∀ i, a0.held i = true → i < a0.blocks.size)
    (hcontig : (∀ i, i < hf.contiguous → a0.held i = true) ∧ a0.held hf.contiguous = false)
    (hsmall0 : Small a0) (htrace : Trace C a0 es a)
    (hdata : ∀ i, a.held i = true → ∀ k, k < sz a.blocks i →
      psum a.blocks i + k < d.data.size ∧ d.data.byte (psum a.blocks i + k) = (a.blocks.getD i []).getD k 0) :
    ∃ c', Core.openCore C none d = .ok (c', ops) ∧ Rep C c' (d.applyAll ops) a := by
  obtain ⟨h', t', b', hopen, hinv', hs'⟩ := reopen_full C hC hTw d ost hf es a0 a ops hops hlog hlen hsig hshape hoks hN hstable hkept hlow
    hbN hlt hcontig hsmall0 htrace
  refine ⟨_, hopen, rep_of_rinv (fb := d.bitfield) (N := a.blocks.size) ?_ (hs' ▸ hsec) ?_ (trace_small C a0 a es htrace hsmall0)⟩
  · rw [Journal.applyAll_tree hops]; exact hinv'
  · rw [Journal.applyAll_data hops]; exact hdata

end HC.Reopen
