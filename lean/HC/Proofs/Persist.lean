import HC.Proofs.Reopen
import HC.Proofs.BitfieldPages
import HC.Proofs.FormatLimits
import HC.Proofs.Flush
/-!
What the stores hold between flushes.  `Persist` is a ghost-state invariant carried along every live
history: `hf` is the header written by the last flush, `a0` the abstract log at that flush, `es` the
entries logged since.  It says that the tree store holds the nodes of `a0`, that the bitfield store holds the bits
of `a0` wherever no entry of `es` touches them (a flush that was cut short may have run ahead elsewhere), that `es`
leads from `a0` to the current log, and that every bit that differs from the bitfield store lies on a dirty
page — which is exactly what `Reopen.reopen_refines` needs, apart from the byte-level statement that the
oplog store opens to `(hf, es)`.
-/
namespace HC.Persist
open HC HC.Codec HC.Flat HC.Tree HC.RefTree HC.RefProof HC.Offsets HC.TreeStore HC.LogSpec HC.Core HC.Oplog HC.LiveRefine
  HC.BitfieldPages HC.OplogBytes HC.FormatLimits HC.Crash

structure Persist (C : Crypto) (c : Core) (d : Disk) (hf : Header) (a0 : Abs) (es : List Entry) (a : Abs) : Prop where
  trace : Trace C a0 es a
  small0 : Small a0
  fileNodes : NodesOK C a0.blocks {} d.tree
  /-- the bitfield store holds `a0`'s bits, or whatever a flush that was cut short may have left -/
  stable : ∀ i, (∀ e ∈ es, ¬ Touch.Touches e i) → (Bitfield.ofFile d.bitfield).get i = a0.held i
  kept : ∀ i, a0.held i = true → (Bitfield.ofFile d.bitfield).get i = true ∨ ∃ e ∈ es, Touch.Clears e i
  low : ∀ i, i < a0.blocks.size → a0.held i = false → (Bitfield.ofFile d.bitfield).get i = false
  below : ∀ i, (Bitfield.ofFile d.bitfield).get i = true → i < a.blocks.size
  fileSize : d.bitfield.size % Spec.pageBytes = 0
  held0Lt : ∀ i, a0.held i = true → i < a0.blocks.size
  hfLen : hf.tree.length = a0.blocks.size
  hfSig : hf.tree.signature = [] ∨ hf.tree.signature.length = 64
  hfSecret : hf.secret = c.secret
  hfContig : (∀ i, i < hf.contiguous → a0.held i = true) ∧ a0.held hf.contiguous = false
  dirty : ∀ i, c.bitfield.get i ≠ (Bitfield.ofFile d.bitfield).get i → i / Spec.pageBits ∈ c.bitfield.dirty
  hdrLen : c.header.tree.length = a.blocks.size
  hdrSig : c.header.tree.signature = [] ∨ c.header.tree.signature.length = 64
  hdrSecret : c.header.secret = c.secret
  /-- the oplog store abstracts to a log that satisfies the commit protocol's invariant -/
  oplog : OpInv c.oplog d.oplog.toList hf es
  shape : HdrShape c.header
  forkU : U64 c.tree.fork
  hfShape : HdrShape hf

/-- size limits of a call beyond `Valid`: what the on-disk formats can represent.  An append logs nodes whose flat
    indices are below twice the new length and must be 64-bit numbers (`2^62` is a round bound with room to spare), in
    an entry frame shorter than `2^30` bytes (hence `2^20` blocks, see `FormatLimits.appendEntry_ok`); a clear logs
    `e - s` as a 64-bit number. -/
def Limits (a : Abs) : Op → Prop
  | .append batch => a.blocks.size + batch.length < 2 ^ 62 ∧ batch.length < 2 ^ 20
  | .clear _ e => e < 2 ^ 64
  | _ => True

theorem contig_le (C : Crypto) (c : Core) (d : Disk) (a : Abs) (h : Rep C c d a) : c.header.contiguous ≤ a.blocks.size :=
  Reopen.contig_le_of c.bitfield _ _ h.contig fun i hi => h.heldLt i ((h.bits i).symm.trans hi)

theorem trace_snoc (C : Crypto) (a0 a a' : Abs) (es : List Entry) (e : Entry) (ht : Trace C a0 es a)
    (hs : EntryStep C a e a') (hsm : Small a') : Trace C a0 (es ++ [e]) a' := by
  induction ht with
  | nil a => exact Trace.cons a a' a' e [] hs hsm (Trace.nil a')
  | cons a a1 a2 e0 es0 h1 h2 _ ih => exact Trace.cons a a1 a' e0 (es0 ++ [e]) h1 h2 (ih hs)

/-- logging an entry: the stores a flush writes are untouched, the entry joins the trace and the oplog image -/
theorem persist_entry_pre (C : Crypto) (c c1 : Core) (d d1 : Disk) (hf : Header) (a0 a a' : Abs) (es : List Entry)
    (entry : Entry) (st len : Nat) (v : Bool) (hp : Persist C c d hf a0 es a) (hrep : Rep C c1 d1 a')
    (hentry : EntryStep C a entry a') (htree : d1.tree = d.tree) (hbf : d1.bitfield = d.bitfield)
    (hbits : c1.bitfield = c.bitfield.setRange st len v) (hlen : c1.header.tree.length = a'.blocks.size)
    (hsig : c1.header.tree.signature = [] ∨ c1.header.tree.signature.length = 64)
    (hsec : c1.header.secret = c.header.secret) (hsec2 : c1.secret = c.secret)
    (hop : c1.oplog = (Oplog.appendEntry c.oplog entry).1)
    (hdop : d1.oplog = d.oplog.write (Spec.entriesOffset + c.oplog.entriesByteLength) (frame (encEntry entry) c.oplog.currentBit false))
    (hok : EntryOK entry) (hshape : HdrShape c1.header) (hfork : c1.tree.fork = c.tree.fork) :
    Persist C c1 d1 hf a0 (es ++ [entry]) a' :=
  { hp with
    trace := trace_snoc C a0 a _ es entry hp.trace hentry hrep.small
    fileNodes := by rw [htree]; exact hp.fileNodes
    stable := by rw [hbf]; exact fun i hu => hp.stable i (fun e he => hu e (List.mem_append_left _ he))
    kept := by
      rw [hbf]
      exact fun i hh => (hp.kept i hh).imp_right fun ⟨e, he, hc⟩ => ⟨e, List.mem_append_left _ he, hc⟩
    low := by rw [hbf]; exact hp.low
    below := by rw [hbf]; exact fun i hi => Nat.lt_of_lt_of_le (hp.below i hi) (Touch.step_size_le C a a' entry hentry)
    fileSize := by rw [hbf]; exact hp.fileSize
    hfSecret := by rw [hsec2]; exact hp.hfSecret
    dirty := by rw [hbf, hbits]; exact dirty_setRange _ _ _ _ _ hp.dirty
    hdrLen := hlen
    hdrSig := hsig
    hdrSecret := by rw [hsec, hsec2]; exact hp.hdrSecret
    oplog := by rw [hop, hdop]; exact opinv_append c.oplog d.oplog hf es entry hp.oplog hok
    shape := hshape
    forkU := by rw [hfork]; exact hp.forkU }

theorem firstMissing_congr (b b' : Bitfield) (c : Nat) (h : ∀ i, b'.get i = b.get i) (hc : FirstMissing b c) : FirstMissing b' c :=
  ⟨fun i hi => by rw [h]; exact hc.1 i hi, by rw [h]; exact hc.2⟩

/-- a flush of either kind makes the stores hold the current state: `Persist` for the new ghosts -/
theorem flushAll_persist (C : Crypto) (hC : HashWF C) (c : Core) (d : Disk) (hf : Header) (a : Abs) (es : List Entry) (ct : Bool)
    (hrep : Rep C c d a) (hop : OpInv c.oplog d.oplog.toList hf es) (hfs : d.bitfield.size % Spec.pageBytes = 0)
    (hdirty : ∀ i, c.bitfield.get i ≠ (Bitfield.ofFile d.bitfield).get i → i / Spec.pageBits ∈ c.bitfield.dirty)
    (hshape : HdrShape c.header) (hlen : c.header.tree.length = a.blocks.size)
    (hsig : c.header.tree.signature = [] ∨ c.header.tree.signature.length = 64) (hsec : c.header.secret = c.secret)
    (hfork : U64 c.tree.fork) :
    Persist C (c.flushAll ct).1 (d.applyAll (c.flushAll ct).2) c.header a [] a := by
  have f1 : NodesOK C a.blocks {} (writeSlots d.tree (flushList c.tree)) := by
    have := (nodesOK_flush C hC a.blocks c.tree d hrep.mapwf hrep.nodes).1
    rw [flush_journal, applyAll_tree_writes] at this
    exact this
  obtain ⟨g1, g2⟩ := flush_bits c.bitfield d.bitfield hfs hdirty
  have hbits : ∀ i, (Bitfield.ofFile (writePages c.bitfield d.bitfield c.bitfield.dirty)).get i = a.held i :=
    fun i => (g1 i).trans (hrep.bits i)
  obtain ⟨htree, hbfile, hofile⟩ := flushAll_stores c d ct
  exact {
    trace := Trace.nil a
    small0 := hrep.small
    -- the flushed tree has an empty map: its lookup is the store's
    fileNodes := by rw [htree]; exact f1
    stable := by rw [hbfile]; exact fun i _ => hbits i
    kept := by rw [hbfile]; exact fun i hh => Or.inl ((hbits i).trans hh)
    low := by rw [hbfile]; exact fun i _ hh => (hbits i).trans hh
    below := by rw [hbfile]; exact fun i hi => hrep.heldLt i ((hbits i).symm.trans hi)
    fileSize := by rw [hbfile]; exact g2
    held0Lt := hrep.heldLt
    hfLen := hlen
    hfSig := hsig
    hfSecret := hsec
    hfContig := ⟨fun i hi => (hrep.bits i).symm.trans (hrep.contig.1 i hi), (hrep.bits _).symm.trans hrep.contig.2⟩
    dirty := by rw [hbfile]; exact fun i hne => absurd (g1 i).symm hne
    hdrLen := hlen
    hdrSig := hsig
    hdrSecret := hsec
    oplog := by
      rw [hofile]
      cases ct with
      | false => exact opinv_flush c.oplog d.oplog hf es c.header hop (headerOK_of_shape _ hshape)
      | true => exact opinv_flush_traces c.oplog d.oplog hf es c.header hop (headerOK_of_shape _ hshape)
    shape := hshape
    forkU := hfork
    hfShape := hshape }

/-- the flush decision keeps `Persist`: on a flush the ghosts become the current header and log with nothing logged
    since, otherwise they stay -/
theorem maybeFlush_persist (C : Crypto) (hC : HashWF C) (c : Core) (d : Disk) (hf : Header) (a0 a : Abs) (es : List Entry)
    (hrep : Rep C c d a) (hp : Persist C c d hf a0 es a) :
    ∃ hf' a0' es', Persist C c.maybeFlush.1 (d.applyAll c.maybeFlush.2) hf' a0' es' a := by
  by_cases hfl : c.skipFlush = 0 ∨ c.oplog.entriesByteLength ≥ Spec.maxEntriesBytes
  · rw [maybeFlush_flush c hfl]
    exact ⟨_, _, _, flushAll_persist C hC { c with skipFlush := Spec.flushEvery - 1 } d hf a es false (hrep.of_core _ rfl rfl rfl rfl)
      hp.oplog hp.fileSize hp.dirty hp.shape hp.hdrLen hp.hdrSig hp.hdrSecret hp.forkU⟩
  · rw [maybeFlush_skip c hfl]
    exact ⟨hf, a0, es, { hp with }⟩

theorem contig_U64 (C : Crypto) (c : Core) (d : Disk) (a : Abs) (h : Rep C c d a) : U64 c.header.contiguous :=
  Nat.lt_of_le_of_lt (contig_le C c d a h) h.small.1

/-- What the cut lemmas need of a call that logs one entry.  Its journal is `pre ++ ow :: post ++ c1.maybeFlush.2`:
    operations `pre` on the data store, the write `ow` of the entry, operations `post` on the data store, then the flush
    decision of the core `c1`.  The data store holds the blocks of the log `a` before the call all along `pre`, and those
    of the log `a'` after it all along `post`, which writes nothing (`pre` does: there, also with the operation in progress
    cut short); after `post` both invariants hold for `c1` and `a'`. -/
structure Logged (C : Crypto) (c : Core) (d : Disk) (hf : Header) (a0 : Abs) (es : List Entry) (a a' : Abs)
    (pre : List SOp) (ow : SOp) (entry : Entry) (post : List SOp) (c1 : Core) : Prop where
  entryWrite : ow = SOp.write .oplog (Spec.entriesOffset + c.oplog.entriesByteLength) (frame (encEntry entry) c.oplog.currentBit false)
  entryOK : EntryOK entry
  preData : ∀ op ∈ pre, op.store = .data
  postData : ∀ op ∈ post, op.store = .data
  preOK : ∀ k, DataOK a.blocks a.held (d.applyAll (pre.take k)).data
  preTorn : ∀ k t, DataOK a.blocks a.held (tornApply d pre k t).data
  postOK : ∀ k, DataOK a'.blocks a'.held ((d.applyAll (pre ++ [ow])).applyAll (post.take k)).data
  postNoWrite : ∀ op ∈ post, ∀ st off bs, op ≠ SOp.write st off bs
  rep : Rep C c1 (d.applyAll (pre ++ ow :: post)) a'
  persist : Persist C c1 (d.applyAll (pre ++ ow :: post)) hf a0 (es ++ [entry]) a'

theorem append_logged (C : Crypto) (hC : HashWF C) (hS : SignWF C) (hTw : TreeWF C) (c : Core) (d : Disk) (hf : Header) (a0 a : Abs)
    (es : List Entry) (hrep : Rep C c d a) (hp : Persist C c d hf a0 es a) (batch : List Bytes) (hne : batch ≠ [])
    (hv : Valid a (.append batch)) (hl : Limits a (.append batch)) (hw : a.writable = true) :
    ∃ (ow : SOp) (entry : Entry) (c1 : Core),
      (c.appendBatch C batch).journal = [SOp.write .data (totalBytes a.blocks) batch.flatten] ++ ow :: [] ++ c1.maybeFlush.2
      ∧ (stepC C (c, d) (.append batch)).1.1 = c1.maybeFlush.1
      ∧ Logged C c d hf a0 es a (a.step (.append batch)).1 [SOp.write .data (totalBytes a.blocks) batch.flatten] ow entry [] c1 := by
  obtain ⟨c1, j01, entry, hstep, hrep1, ht, hb, hbits, hentry, hlen, hsig, hsec, hsec2, hop, hdop, hfork,
      ⟨rh, sg, cc, hhdr, ⟨l, hrh⟩, hsg⟩, hentOK, hjournal, rfl⟩ :=
    append_shape C hC c d a hrep batch hne hv hw
  have hcc : c1.header.contiguous = cc := by rw [hhdr]
  have hshape : HdrShape c1.header := by
    rw [hhdr]
    exact hdrShape_set _ hp.shape rh sg _ cc (by rw [hrh, hTw l]) (by rw [hsg hS]) (Nat.lt_trans hl.1 (by decide))
      (hcc ▸ contig_U64 C c1 _ _ hrep1)
  have hok := hentOK hS hl.1 hl.2 hp.forkU
  have hp1 := persist_entry_pre C c c1 d _ hf a0 a _ es entry _ _ _ hp hrep1 (hentry hS) ht hb hbits
    (by rw [hlen, step_append a batch hw hne]; exact (size_append_list a.blocks batch).symm) (Or.inr (hsig hS)) hsec hsec2 hop hdop hok
    hshape hfork
  -- the data store after the data write, whole or cut short
  have hdata : ∀ bs, DataOK a.blocks a.held (d.apply (SOp.write .data (totalBytes a.blocks) bs)).data := fun bs => by
    rw [Disk.apply_write]
    exact dataOK_write_behind a.blocks a.held d.data bs hrep.data hrep.heldLt
  refine ⟨_, entry, c1, hjournal, by rw [hstep], rfl, hok, ?_, fun _ h => absurd h List.not_mem_nil, ?_, ?_, ?_,
    fun _ h => absurd h List.not_mem_nil, hrep1, hp1⟩
  · intro op h; rw [List.mem_singleton.mp h]; rfl
  · intro k
    cases k with
    | zero => exact hrep.data
    | succ k => rw [List.take_of_length_le (Nat.le_add_left 1 k)]; exact hdata _
  · intro k t
    cases k with
    | zero => exact hdata _
    | succ k => rw [tornApply_cons_succ, tornApply_nil]; exact hdata _
  · intro k; rw [List.take_nil, Disk.applyAll_nil]; exact hrep1.data

theorem clear_logged (C : Crypto) (c : Core) (d : Disk) (hf : Header) (a0 a : Abs)
    (es : List Entry) (hrep : Rep C c d a) (hp : Persist C c d hf a0 es a) (s e : Nat) (hse : s < e)
    (hv : Valid a (.clear s e)) (hl : Limits a (.clear s e)) :
    ∃ (ow : SOp) (j2 : List SOp) (c1 : Core),
      (c.clear d s e).journal = [] ++ ow :: j2 ++ c1.maybeFlush.2
      ∧ (stepC C (c, d) (.clear s e)).1.1 = c1.maybeFlush.1
      ∧ Logged C c d hf a0 es a (a.step (.clear s e)).1 [] ow { bitfield := some ⟨true, s, e - s⟩ } j2 c1 := by
  obtain ⟨c1, j01, hstep, hrep1, ht, hb, hbits, hhdr, hsec, hsec2, hop, hdop, hctree, ⟨cc, hcc⟩, hjournal, ⟨j2, rfl, hj2s, hj2l, hj2w⟩⟩ :=
    clear_shape C c d a hrep s e hse hv
  have hc2 : c1.header.contiguous = cc := by rw [hcc]
  have hshape : HdrShape c1.header := by
    rw [hcc]; exact hdrShape_contig _ hp.shape _ (hc2 ▸ contig_U64 C c1 _ _ hrep1)
  have hok := clearEntry_ok s (e - s) (Nat.lt_trans (hv hse) hrep.small.1) (Nat.lt_of_le_of_lt (Nat.sub_le e s) hl)
  have hp1 := persist_entry_pre C c c1 d _ hf a0 a _ es _ _ _ _ hp hrep1 (EntryStep.clear a s e hse) ht hb hbits
    (by rw [hhdr, step_clear a s e hse]; exact hp.hdrLen) (by rw [hhdr]; exact hp.hdrSig) hsec hsec2 hop hdop hok hshape (by rw [hctree])
  -- before the deletion the data store is untouched, and the log after the call holds no more than the log before
  have hd0 : DataOK (a.step (.clear s e)).1.blocks (a.step (.clear s e)).1.held d.data := by
    rw [step_clear a s e hse]
    exact fun i hi => hrep.data i (Bool.and_eq_true _ _ ▸ hi).1
  refine ⟨_, j2, c1, hjournal, by rw [hstep], rfl, hok, fun _ h => absurd h List.not_mem_nil, hj2s, ?_, ?_, ?_, hj2w, hrep1, hp1⟩
  · intro k; rw [List.take_nil]; exact hrep.data
  · intro k t; rw [tornApply_nil]; exact hrep.data
  · intro k
    cases k with
    | zero => rw [List.take_zero, Disk.applyAll_nil, List.nil_append, Disk.applyAll_one, (apply_oplog_write d _ _).2.2.1]; exact hd0
    | succ k =>
      rw [List.take_of_length_le (Nat.le_trans hj2l (Nat.le_add_left 1 k)), List.nil_append, ← Journal.applyAll_append]
      exact hrep1.data

theorem step_makeReadOnly (a : Abs) (hw : a.writable = true) : (a.step .makeReadOnly).1 = { a with writable := false } := by
  simp only [Abs.step, hw, ite_true]

/-- a call changes nothing, or logs one entry and then decides on a flush, or is the `make_read_only` of a writer -/
theorem call_cases (C : Crypto) (hC : HashWF C) (hS : SignWF C) (hTw : TreeWF C) (c : Core) (d : Disk) (hf : Header) (a0 a : Abs)
    (es : List Entry) (hrep : Rep C c d a) (hp : Persist C c d hf a0 es a) (op : Op) (hv : Valid a op) (hl : Limits a op) :
    ((stepC C (c, d) op).1 = (c, d) ∧ (a.step op).1 = a ∧ journalC C (c, d) op = [])
      ∨ (∃ pre ow entry post c1, journalC C (c, d) op = pre ++ ow :: post ++ c1.maybeFlush.2
          ∧ (stepC C (c, d) op).1.1 = c1.maybeFlush.1
          ∧ Logged C c d hf a0 es a (a.step op).1 pre ow entry post c1)
      ∨ (op = .makeReadOnly ∧ a.writable = true) := by
  by_cases hi : Idle a op
  · obtain ⟨e1, e2, e3⟩ := idle_step C c d a hrep op hi
    exact Or.inl ⟨by rw [e1], e2, e3⟩
  cases op with
  | has i => exact absurd trivial hi
  | info => exact absurd trivial hi
  | get i => exact absurd trivial hi
  | makeReadOnly => exact Or.inr (Or.inr ⟨rfl, (Bool.not_eq_false _).mp hi⟩)
  | append batch =>
    obtain ⟨hw, hne⟩ := not_idle_append hi
    obtain ⟨ow, entry, c1, hj, hc, L⟩ := append_logged C hC hS hTw c d hf a0 a es hrep hp batch hne hv hl hw
    exact Or.inr (Or.inl ⟨_, ow, entry, [], c1, hj, hc, L⟩)
  | clear s e =>
    obtain ⟨ow, j2, c1, hj, hc, L⟩ := clear_logged C c d hf a0 a es hrep hp s e (Nat.lt_of_not_le hi) hv hl
    exact Or.inr (Or.inl ⟨[], ow, _, j2, c1, hj, hc, L⟩)

theorem stepC_disk (C : Crypto) (s : Core × Disk) (op : Op) : (stepC C s op).1.2 = s.2.applyAll (journalC C s op) := by
  cases op <;> rfl

/-- every valid call within the limits keeps `Persist` (for new ghosts when it flushes) -/
theorem persist_step (C : Crypto) (hC : HashWF C) (hS : SignWF C) (hTw : TreeWF C) (c : Core) (d : Disk) (hf : Header) (a0 a : Abs)
    (es : List Entry) (hrep : Rep C c d a) (hp : Persist C c d hf a0 es a) (op : Op) (hv : Valid a op) (hl : Limits a op) :
    ∃ hf' a0' es', Persist C (stepC C (c, d) op).1.1 (stepC C (c, d) op).1.2 hf' a0' es' (a.step op).1 := by
  rcases call_cases C hC hS hTw c d hf a0 a es hrep hp op hv hl with ⟨e1, e2, _⟩ | ⟨pre, ow, entry, post, c1, hj, hc, L⟩ | ⟨rfl, hw⟩
  · rw [e1, e2]; exact ⟨hf, a0, es, hp⟩
  · rw [stepC_disk, hj, hc, Journal.applyAll_append]
    exact maybeFlush_persist C hC c1 _ hf a0 _ _ L.rep L.persist
  · have hstep : (stepC C (c, d) .makeReadOnly).1 = (c.makeReadOnly.core, d.applyAll c.makeReadOnly.journal) := rfl
    rw [hstep, step_makeReadOnly a hw, makeReadOnly_writer c (hrep.writer.trans hw)]
    exact ⟨_, _, [], flushAll_persist C hC _ d hf _ es true (rep_drop_secret C c d a hrep) hp.oplog hp.fileSize hp.dirty
      (hdrShape_nosecret _ hp.shape) hp.hdrLen hp.hdrSig rfl hp.forkU⟩

/-- `Hypercore::new` on the stores of a live core: the reopened core represents the same log and
    satisfies the ghost invariant again (same ghosts) — so it can be used, closed and reopened again. -/
theorem reopen_persist (C : Crypto) (hC : HashWF C) (hTw : TreeWF C) (c : Core) (d : Disk) (hf : Header) (a0 a : Abs)
    (es : List Entry) (hrep : Rep C c d a) (hp : Persist C c d hf a0 es a) :
    ∃ c', Core.openCore C none d = .ok (c', []) ∧ Rep C c' d a ∧ Persist C c' d hf a0 es a := by
  obtain ⟨ost, hlog, hb, hebl⟩ := opinv_open c.oplog _ hf es hp.oplog
  obtain ⟨h', t', b', hopen, hinv, hs'⟩ := Reopen.reopen_full C hC hTw d ost hf es a0 a [] (fun op hop => by cases hop) hlog hp.hfLen hp.hfSig
    hp.hfShape hp.oplog.entryOK hp.fileNodes hp.stable hp.kept hp.low hp.below hp.held0Lt hp.hfContig hp.small0 hp.trace
  refine ⟨_, hopen, Reopen.rep_of_rinv hinv ?_ hrep.data hrep.small, ?_⟩
  · show h'.secret.isSome = a.writable
    rw [hs', hp.hfSecret]; exact hrep.writer
  · exact { hp with
      hfSecret := hs'.symm
      dirty := hinv.dirty
      hdrLen := hinv.hdrLen
      hdrSig := hinv.hdrSig
      hdrSecret := rfl
      oplog := opinv_congr c.oplog ost _ hf es hp.oplog hb hebl
      shape := hinv.shape
      forkU := hinv.forkU }

theorem hdrShape_new (pk : Bytes) (sec : Option Bytes) (hpk : pk.length = 32) (hsec : ∀ s, sec = some s → s.length = 32) :
    HdrShape (Header.new pk sec) := by
  have hns : defaultNamespace.length = 32 := by decide
  have hu : U64 0 := Nat.two_pow_pos 64
  exact ⟨hpk, hns, hpk, hpk, hsec, rfl, rfl, hu, hu, Nat.zero_le _, Nat.zero_le _, hu⟩

/-- the stores `Hypercore::new` leaves when it creates them: only the oplog is written, and it holds the new header
    with no entries -/
theorem create_stores (pk : Bytes) (sec : Option Bytes) (hpk : pk.length = 32) (hsec : ∀ s, sec = some s → s.length = 32) :
    (({} : Disk).applyAll (Oplog.insertHeader (Header.new pk sec) 0 Spec.initialBits false).2).tree = File.empty
      ∧ (({} : Disk).applyAll (Oplog.insertHeader (Header.new pk sec) 0 Spec.initialBits false).2).bitfield = File.empty
      ∧ OpInv { bits := (Oplog.insertHeader (Header.new pk sec) 0 Spec.initialBits false).1 }
          (({} : Disk).applyAll (Oplog.insertHeader (Header.new pk sec) 0 Spec.initialBits false).2).oplog.toList (Header.new pk sec) [] := by
  have hops := Journal.insertHeader_store (Header.new pk sec) 0 Spec.initialBits false
  refine ⟨Journal.applyAll_tree hops, Journal.applyAll_bitfield hops, ?_⟩
  rw [Journal.applyAll_on_oplog hops]
  exact opinv_create _ (headerOK_of_shape _ (hdrShape_new pk sec hpk hsec))

theorem init_both (C : Crypto) (pk sk : Bytes) (hpk : pk.length = 32) (hsk : sk.length = 32) :
    ∃ c j, Core.openCore C (some (pk, some sk)) {} = .ok (c, j) ∧ Rep C c (({} : Disk).applyAll j) {}
      ∧ Persist C c (({} : Disk).applyAll j) (Header.new pk (some sk)) {} [] {} := by
  have hshape := hdrShape_new pk (some sk) hpk (fun s hs => by cases hs; exact hsk)
  obtain ⟨htree, hbf, hop⟩ := create_stores pk (some sk) hpk (fun s hs => by cases hs; exact hsk)
  have hbits := Bitfield.ofFile_empty
  refine ⟨_, _, openCore_create C pk (some sk), rep_empty C _ _ rfl rfl rfl rfl, ?_⟩
  exact {
    trace := Trace.nil _
    small0 := ⟨Nat.two_pow_pos 64, Nat.two_pow_pos 64⟩
    fileNodes := fun dd o hb => absurd hb (Nat.not_le.mpr (Nat.mul_pos (Nat.succ_pos o) (pow_pos' dd)))
    stable := by rw [hbf, hbits]; exact fun _ _ => rfl
    kept := fun i hi => nomatch hi
    low := fun i hi => absurd hi (Nat.not_lt_zero i)
    below := by rw [hbf, hbits]; exact fun i hi => nomatch hi
    fileSize := by rw [hbf]; rfl
    held0Lt := fun i hi => nomatch hi
    hfLen := rfl
    hfSig := Or.inl rfl
    hfSecret := rfl
    hfContig := ⟨fun i hi => absurd hi (Nat.not_lt_zero i), rfl⟩
    dirty := by rw [hbf, hbits]; exact fun i hne => absurd rfl hne
    hdrLen := rfl
    hdrSig := Or.inl rfl
    hdrSecret := rfl
    oplog := hop
    shape := hshape
    forkU := Nat.two_pow_pos 64
    hfShape := hshape }

end HC.Persist
