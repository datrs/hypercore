import HC.Proofs.ReplicaTree
/-!
Growth rounds (C03): a replica that represents the first `m` blocks of the writer's log applies the writer's
answer to "upgrade me from `m` to `n`" and then represents the first `n` blocks — its held blocks untouched.

The nodes of such an upgrade are the greedy decomposition of `[m, n)` into aligned dyadic blocks (`Up`).  Inside the
first new root the replica's `verify_upgrade` runs its `grow` loop: every block appended there is the right
sibling of the current last root and merges upwards like a binary counter (`RefProof.mergeLoop_ref_eq`); after
it, the remaining roots are appended without merging.  The invariant `Inv … cs L` says that committing the
changeset now would give a `ClosedAt … L` replica; one dyadic append takes it from `L` to `L + 2^J`
(`dyadic_append_closed`, `step_inv`).  The blocks of the grow phase are the right siblings on the way from the replica's last
leaf up to the first new root (`rightSibs`, `grow_rightSibs`), at most one per level (`up_length`).  `BlockNew.up_cover` (the
position list covers `[m, n)`) is at the end.
-/
namespace HC.Growth
open HC HC.Codec HC.Flat HC.Tree HC.RefTree HC.RefProof HC.Sound HC.Offsets HC.TreeStore HC.Complete HC.UpgradeSound HC.CreateTotal HC.Replica HC.FullRoots HC.Pow2

/-! ### one dyadic append

The tree grows from `L` to `L + 2^J` leaves, `2^J ∣ L`.  Where the roots of the longer tree and the parents of
stored nodes lie is arithmetic of multiples of `2^J` (`mult_gap`). -/

/-- no root of the longer tree lies below depth `J`; a root either ends at the new length or was a root before -/
theorem root_of_append {L J d o : Nat} (hdvd : 2 ^ J ∣ L) (h : (d, o) ∈ rootsStack (L + 2 ^ J)) :
    J ≤ d ∧ ((o + 1) * 2 ^ d = L + 2 ^ J ∨ (d, o) ∈ rootsStack L) := by
  obtain ⟨h0, h1, h2⟩ := (mem_rootsStack_span _ d o).mp h
  have hN : 2 ^ J ∣ L + 2 ^ J := Nat.dvd_add hdvd (Nat.dvd_refl _)
  have hdJ : J ≤ d := by
    by_contra hlt
    -- a root is a left child: it starts at a multiple of `2^(d+1)`, which divides the new length, so its parent fits too
    have hp := pow_pos' d
    have hstart : 2 ^ (d + 1) ∣ o * 2 ^ d := by
      rw [pow_succ2]; exact Nat.mul_dvd_mul (Nat.dvd_of_mod_eq_zero h0) (Nat.dvd_refl _)
    rw [succ_mul_pow] at h1
    have hgap := mult_gap (2 ^ (d + 1)) _ _ hstart (Nat.dvd_trans (Nat.pow_dvd_pow 2 (Nat.lt_of_not_le hlt)) hN)
      (Nat.lt_of_lt_of_le (Nat.lt_add_of_pos_right hp) h1)
    rw [pow_succ2] at hgap
    rw [Nat.add_mul] at h2
    omega
  refine ⟨hdJ, ?_⟩
  rcases Nat.lt_or_eq_of_le h1 with hlt | heq
  · have hgap := mult_gap (2 ^ J) _ _ (Nat.dvd_trans (Nat.pow_dvd_pow 2 hdJ) (Nat.dvd_mul_left _ _)) hN hlt
    exact Or.inr ((mem_rootsStack_span L d o).mpr ⟨h0, by omega, by omega⟩)
  · exact Or.inl heq

/-- a left child of depth at least `J` whose parent ends at the new length was a root before -/
theorem root_before_append {L J d q : Nat} (hd : J ≤ d) (he : (q + 2) * 2 ^ d = L + 2 ^ J) (hq : q % 2 = 0) :
    (d, q) ∈ rootsStack L := by
  have h2 : 2 ^ J ≤ 2 ^ d := Nat.pow_le_pow_right (by decide) hd
  have hpJ := pow_pos' J
  refine (mem_rootsStack_span L d q).mpr ⟨hq, ?_, by omega⟩
  rw [Nat.add_mul] at he ⊢
  omega

theorem parent_end_le (d o : Nat) : (o / 2 + 1) * 2 ^ (d + 1) ≤ (o + 2) * 2 ^ d := by
  rw [parent_end]; exact Nat.mul_le_mul_right _ (Nat.add_le_add_right (Nat.mul_div_le o 2) 2)

/-- a node that is new (depth at least `J`, ends at the new length) or old (ends inside the old length) and whose parent
    reaches beyond the old length but not beyond the new one: the node has depth at least `J` and its parent ends at the
    new length -/
theorem parent_ends_at_append {L J d o : Nat} (hdvd : 2 ^ J ∣ L) (hgt : L < (o / 2 + 1) * 2 ^ (d + 1))
    (hle : (o / 2 + 1) * 2 ^ (d + 1) ≤ L + 2 ^ J) (hnode : J ≤ d ∨ (o + 1) * 2 ^ d ≤ L) :
    J ≤ d ∧ (o / 2 + 1) * 2 ^ (d + 1) = L + 2 ^ J := by
  have hdJ : J ≤ d := by
    by_contra hlt
    -- the parent is shorter than the new block and lies inside it, so the node lies behind the old length
    have hp := pow_pos' d
    have hgap := mult_gap (2 ^ (d + 1)) L _ (Nat.dvd_trans (Nat.pow_dvd_pow 2 (Nat.lt_of_not_le hlt)) hdvd) (Nat.dvd_mul_left _ _) hgt
    have hpe := parent_end_le d o
    have h2 := pow_succ2 d
    rw [Nat.add_mul o 2] at hpe
    rw [succ_mul_pow] at hnode
    omega
  have hgap := mult_gap (2 ^ J) L _ hdvd (Nat.dvd_trans (Nat.pow_dvd_pow 2 (Nat.le_succ_of_le hdJ)) (Nat.dvd_mul_left _ _)) hgt
  exact ⟨hdJ, Nat.le_antisymm hle hgap⟩

/-- **binary-counter step of the replica's tree**: appending the aligned block `[L, L + 2^J)` — its node and all
    the parents that end at the new length — takes a closed replica of the first `L` blocks to a closed replica of
    the first `L + 2^J` blocks -/
theorem dyadic_append_closed (C : Crypto) (hC : HashWF C) (bs : Array Bytes) (L J : Nat) (hdvd : 2 ^ J ∣ L)
    (t t' : Tree) (f : File) (h : ClosedAt C bs L t f) (added : List Node)
    (hadd : ∀ n ∈ added, ∃ d o, n = nodeAt C bs d o ∧ (o + 1) * 2 ^ d = L + 2 ^ J ∧ J < d)
    (hcomp : ∀ d o, J < d → (o + 1) * 2 ^ d = L + 2 ^ J → nodeAt C bs d o ∈ added)
    (l : List Node) (hl : ∀ n, n ∈ l ↔ n = nodeAt C bs J (L / 2 ^ J) ∨ n ∈ added)
    (hu : t'.unflushed = insertAll t.unflushed l) (hlen : t'.length = L + 2 ^ J) :
    ClosedAt C bs (L + 2 ^ J) t' f := by
  have hXend : (L / 2 ^ J + 1) * 2 ^ J = L + 2 ^ J := by rw [Nat.add_mul, Nat.div_mul_cancel hdvd, Nat.one_mul]
  -- the inserted nodes are the reference nodes of depth at least `J` that end at the new length
  have hnewEnd : ∀ n ∈ l, ∃ d o, n = nodeAt C bs d o ∧ (o + 1) * 2 ^ d = L + 2 ^ J ∧ J ≤ d := by
    intro n hn
    rcases (hl n).mp hn with rfl | hn
    · exact ⟨J, L / 2 ^ J, rfl, hXend, Nat.le_refl _⟩
    · obtain ⟨d, o, e, h1, h2⟩ := hadd n hn; exact ⟨d, o, e, h1, Nat.le_of_lt h2⟩
  have hins : ∀ d o, J ≤ d → (o + 1) * 2 ^ d = L + 2 ^ J → nodeAt C bs d o ∈ l := by
    intro d o hd he
    rcases Nat.eq_or_lt_of_le hd with rfl | hlt
    · rw [← hXend] at he
      rw [Nat.succ_injective (Nat.eq_of_mul_eq_mul_right (pow_pos' J) he)]
      exact (hl _).mpr (Or.inl rfl)
    · exact (hl _).mpr (Or.inr (hcomp d o hlt he))
  obtain ⟨hnew, hold, honly⟩ := insert_lookup C hC bs t t' f l (fun n hn => by obtain ⟨d, o, e, _⟩ := hnewEnd n hn; exact ⟨d, o, e⟩) hu
  refine ⟨?_, ?_⟩
  · refine Sync.sparse_insert C hC bs L (L + 2 ^ J) t t' f h.sparse (Nat.le_add_right _ _) l
      (fun n hn => by obtain ⟨d, o, e, h1, _⟩ := hnewEnd n hn; exact ⟨d, o, e, Nat.le_of_eq h1⟩) hu hlen ?_
    rintro ⟨d, o⟩ hp
    obtain ⟨hdJ, hend | hroot⟩ := root_of_append hdvd hp
    · exact Or.inl ⟨nodeAt C bs d o, hins d o hdJ hend, rfl⟩
    · exact Or.inr (h.sparse.roots (d, o) hroot)
  · intro d o hst hpar
    -- the node is a new one, or an old one that ends inside the old length
    have hnode : (J ≤ d ∧ (o + 1) * 2 ^ d = L + 2 ^ J) ∨ ((o + 1) * 2 ^ d ≤ L ∧ t.node? f (Flat.index d o) = some (nodeAt C bs d o)) := by
      rcases honly d o hst with hin | hwas
      · obtain ⟨d', o', e, he, hd'⟩ := hnewEnd _ hin
        obtain ⟨rfl, rfl⟩ := nodeAt_inj C bs _ _ _ _ e
        exact Or.inl ⟨hd', he⟩
      · obtain ⟨d', o', hidx, _, hb⟩ := h.sparse.sound _ _ hwas
        obtain ⟨rfl, rfl⟩ := index_inj d o d' o' hidx
        exact Or.inr ⟨hb, hwas⟩
    by_cases hPL : (o / 2 + 1) * 2 ^ (d + 1) ≤ L
    · -- the parent lay inside the old tree already: the node is an old one
      rcases hnode with ⟨_, he⟩ | ⟨_, hwas⟩
      · exact absurd (he ▸ Nat.le_trans (child_span_le d o) hPL) (Nat.not_le_of_gt (Nat.lt_add_of_pos_right (pow_pos' J)))
      · obtain ⟨c1, c2⟩ := h.closed d o hwas hPL
        exact ⟨hold _ _ c1, hold _ _ c2⟩
    · -- the parent ends at the new length
      obtain ⟨hdJ, hPend⟩ := parent_ends_at_append hdvd (Nat.lt_of_not_le hPL) hpar (hnode.imp And.left And.left)
      refine ⟨?_, hnew _ _ (hins (d + 1) (o / 2) (Nat.le_succ_of_le hdJ) hPend)⟩
      rcases Nat.mod_two_eq_zero_or_one o with ho | ho
      · -- left child: the right sibling ends at the new length
        rw [sib_even ho]
        exact hnew _ _ (hins d (o + 1) hdJ (by rw [← hPend, parent_end_even d o ho]))
      · -- right child: the left sibling was a root of the old tree
        obtain ⟨q, rfl⟩ := Nat.exists_eq_succ_of_ne_zero (fun h0 : o = 0 => by rw [h0] at ho; cases ho)
        rw [sib_odd ho]
        refine hold _ _ (h.sparse.roots (d, q) (root_before_append hdJ ?_ (Nat.succ_mod_two_eq_one_iff.mp ho)))
        rw [← hPend, parent_end_odd d _ ho]

theorem rootsStack_mul_pow (M : Nat) : ∀ J, rootsStack (M * 2 ^ J) = (rootsStack M).map (liftN J) := by
  intro J
  induction J with
  | zero => rw [Nat.pow_zero, Nat.mul_one, liftN_zero]
  | succ J ih =>
    by_cases hM : M = 0
    · subst hM; rw [Nat.zero_mul, rootsStack_zero]; rfl
    · rw [mul_pow_succ, rootsStack_double _ (Nat.mul_ne_zero hM (Nat.ne_of_gt (pow_pos' J))), ih, List.map_map]
      rfl

theorem appendRoot_dyadic (C : Crypto) (bs : Array Bytes) (cs : Changeset) (M J : Nat)
    (hroots : cs.roots.reverse = (rootsStack (M * 2 ^ J)).map (fun p => nodeAt C bs p.1 p.2)) :
    ∃ (added : List Node) (top : Nat × Nat),
      (appendRoot C cs (nodeAt C bs J M) (iat J M)).1.roots.reverse = (rootsStack (M * 2 ^ J + 2 ^ J)).map (fun p => nodeAt C bs p.1 p.2)
      ∧ (appendRoot C cs (nodeAt C bs J M) (iat J M)).1.rnodes = added ++ (nodeAt C bs J M :: cs.rnodes)
      ∧ (appendRoot C cs (nodeAt C bs J M) (iat J M)).2 = iat top.1 top.2
      ∧ (rootsStack (M * 2 ^ J + 2 ^ J)).head? = some top
      ∧ (∀ n ∈ added, ∃ d o, n = nodeAt C bs d o ∧ (o + 1) * 2 ^ d = M * 2 ^ J + 2 ^ J ∧ J < d)
      ∧ (∀ d o, J < d → (o + 1) * 2 ^ d = M * 2 ^ J + 2 ^ J → nodeAt C bs d o ∈ added)
      ∧ (appendRoot C cs (nodeAt C bs J M) (iat J M)).1.length = cs.length + 2 ^ J
      ∧ (appendRoot C cs (nodeAt C bs J M) (iat J M)).1.byteLength = cs.byteLength + (nodeAt C bs J M).length
      ∧ (∀ (a b : List Node) (x : Node), added = a ++ x :: b → ∀ y ∈ a, ∃ dx ox dy oy, x = nodeAt C bs dx ox ∧ y = nodeAt C bs dy oy ∧ dx < dy) := by
  have hE : M * 2 ^ J + 2 ^ J = (M + 1) * 2 ^ J := (succ_mul_pow M J).symm
  have hlen : cs.roots.length = (rootsStack M).length := by
    have := congrArg List.length hroots
    simpa [rootsStack_mul_pow] using this
  obtain ⟨added, top, h1, h2, h3, h4, h5⟩ := mergeLoop_ref_eq C bs M J (cs.roots.length + 1) (nodeAt C bs J M :: cs.rnodes) (by rw [hlen]; exact Nat.lt_succ_self _)
  have hstack : (nodeAt C bs J M :: cs.roots.reverse) = nodeAt C bs J M :: ((rootsStack M).map (liftN J)).map (fun p => nodeAt C bs p.1 p.2) := by
    rw [hroots, rootsStack_mul_pow]
  refine ⟨added, top, ?_, ?_, ?_, ?_, ?_, ?_, ?_, ?_, h5⟩
  · simp only [appendRoot, hstack, h1, List.reverse_reverse]
    rw [hE, rootsStack_mul_pow]
  · simp only [appendRoot, hstack, h1]
  · simp only [appendRoot, hstack, h1]
  · rw [hE, rootsStack_mul_pow]; exact h3
  · intro n hn
    obtain ⟨d, o, e, hb, hd⟩ := h2 n hn
    exact ⟨d, o, e, by rw [hb, hE], hd⟩
  · intro d o hd he
    exact h4 d o hd (by rw [he, hE])
  · simp only [appendRoot, iat, pow_succ2]
    have := pow_pos' J
    omega
  · simp only [appendRoot]

/-! ### the invariant carried through `verify_upgrade` -/

/-- the virtual tree: what the changeset would give if it were committed now -/
def vt (t : Tree) (cs : Changeset) : Tree := { t with unflushed := insertAll t.unflushed cs.nodes, length := cs.length }

/-- the changeset's node list (newest first) holds every node once, and a parent is newer than its children: the
    order in which `byte_offset_in_changeset` can follow a block's ancestors -/
structure Ordered (C : Crypto) (bs : Array Bytes) (rn : List Node) : Prop where
  distinct : ∀ (a b : List Node) (x : Node), rn = a ++ x :: b → ∀ y ∈ a, y.index ≠ x.index
  parentsNewer : ∀ (a b : List Node) (d o : Nat), rn = a ++ nodeAt C bs (d + 1) o :: b →
    ∀ o', o' / 2 = o → nodeAt C bs d o' ∈ rn → nodeAt C bs d o' ∈ b

theorem ordered_nil (C : Crypto) (bs : Array Bytes) : Ordered C bs [] :=
  ⟨fun a b x h => by simp at h, fun a b d o h => by simp at h⟩

theorem pairwise_iff_split {α : Type} {R : α → α → Prop} {l : List α} :
    l.Pairwise R ↔ ∀ (a b : List α) (x : α), l = a ++ x :: b → ∀ y ∈ a, R y x := by
  constructor
  · rintro h a b x rfl y hy
    exact (List.pairwise_append.mp h).2.2 y hy x List.mem_cons_self
  · intro h
    induction l with
    | nil => exact List.Pairwise.nil
    | cons z t ih =>
      refine List.pairwise_cons.mpr ⟨fun x hx => ?_, ih fun a b x e y hy => h (z :: a) b x (by rw [e]; rfl) y (List.mem_cons_of_mem z hy)⟩
      obtain ⟨a, b, rfl⟩ := List.append_of_mem hx
      exact h (z :: a) b x rfl z List.mem_cons_self

/-- `Ordered` as two relations between a node and every older one: another index, and not its child's parent -/
theorem ordered_iff (C : Crypto) (bs : Array Bytes) (rn : List Node) :
    Ordered C bs rn ↔ rn.Pairwise (fun y x => y.index ≠ x.index)
      ∧ rn.Pairwise (fun y x => ∀ d o o', x = nodeAt C bs (d + 1) o → y = nodeAt C bs d o' → o' / 2 ≠ o) := by
  constructor
  · intro h
    refine ⟨pairwise_iff_split.mpr h.distinct, pairwise_iff_split.mpr ?_⟩
    rintro a b x hs y hy d o o' rfl rfl ho
    -- the child would stand behind its parent as well as before it
    obtain ⟨b1, b2, rfl⟩ := List.append_of_mem (h.parentsNewer a b d o hs o' ho (by rw [hs]; exact List.mem_append_left _ hy))
    exact h.distinct (a ++ nodeAt C bs (d + 1) o :: b1) b2 _ (by rw [hs, List.append_assoc]; rfl) _ (List.mem_append_left _ hy) rfl
  · rintro ⟨h1, h2⟩
    refine ⟨pairwise_iff_split.mp h1, fun a b d o hs o' ho hmem => ?_⟩
    rw [hs] at hmem
    rcases List.mem_append.mp hmem with hm | hm
    · exact absurd ho (pairwise_iff_split.mp h2 a b _ hs _ hm d o o' rfl rfl)
    · rcases List.mem_cons.mp hm with e | hm
      · exact absurd (nodeAt_inj C bs _ _ _ _ e).1 (Nat.ne_of_lt (Nat.lt_succ_self d))
      · exact hm

theorem ordered_step (C : Crypto) (bs : Array Bytes) (rn added : List Node) (J M : Nat) (hold : Ordered C bs rn)
    (href : ∀ x ∈ rn, ∃ d o, x = nodeAt C bs d o ∧ (o + 1) * 2 ^ d ≤ M * 2 ^ J)
    (hadd : ∀ n ∈ added, ∃ d o, n = nodeAt C bs d o ∧ (o + 1) * 2 ^ d = M * 2 ^ J + 2 ^ J ∧ J < d)
    (hdeeper : ∀ (a b : List Node) (x : Node), added = a ++ x :: b → ∀ y ∈ a, ∃ dx ox dy oy, x = nodeAt C bs dx ox ∧ y = nodeAt C bs dy oy ∧ dx < dy) :
    Ordered C bs (added ++ nodeAt C bs J M :: rn) := by
  obtain ⟨o1, o2⟩ := (ordered_iff C bs rn).mp hold
  have hp := pow_pos' J
  -- the appended node and the merged parents end at the new length, behind every old node
  have hnew : ∀ y, y ∈ added ∨ y = nodeAt C bs J M → ∃ d o, y = nodeAt C bs d o ∧ (o + 1) * 2 ^ d = M * 2 ^ J + 2 ^ J := by
    rintro y (hy | rfl)
    · obtain ⟨d, o, e, he, _⟩ := hadd y hy; exact ⟨d, o, e, he⟩
    · exact ⟨J, M, rfl, succ_mul_pow M J⟩
  have hidx : ∀ y, y ∈ added ∨ y = nodeAt C bs J M → ∀ x ∈ rn, y.index ≠ x.index := by
    intro y hy x hx e
    obtain ⟨dy, oy, rfl, hey⟩ := hnew y hy
    obtain ⟨dx, ox, rfl, hbx⟩ := href x hx
    obtain ⟨rfl, rfl⟩ := index_inj _ _ _ _ e
    omega
  have hpar : ∀ y, y ∈ added ∨ y = nodeAt C bs J M → ∀ x ∈ rn, ∀ d o o', x = nodeAt C bs (d + 1) o → y = nodeAt C bs d o' → o' / 2 ≠ o := by
    rintro y hy x hx d o o' rfl rfl ho
    obtain ⟨dy, oy, e, hey⟩ := hnew _ hy
    obtain ⟨rfl, rfl⟩ := nodeAt_inj C bs _ _ _ _ e
    obtain ⟨dx, ox, e, hbx⟩ := href _ hx
    obtain ⟨rfl, rfl⟩ := nodeAt_inj C bs _ _ _ _ e
    have := end_child_le d _ o' ho
    omega
  -- among the new nodes a later one is shallower
  have hdepth : (added ++ [nodeAt C bs J M]).Pairwise (fun y x => ∃ dx ox dy oy, x = nodeAt C bs dx ox ∧ y = nodeAt C bs dy oy ∧ dx < dy) := by
    refine List.pairwise_append.mpr ⟨pairwise_iff_split.mpr hdeeper, List.pairwise_singleton _ _, fun y hy x hx => ?_⟩
    obtain ⟨dy, oy, ey, _, hd⟩ := hadd y hy
    exact ⟨J, M, dy, oy, List.mem_singleton.mp hx, ey, hd⟩
  rw [show added ++ nodeAt C bs J M :: rn = (added ++ [nodeAt C bs J M]) ++ rn by rw [List.append_assoc]; rfl]
  have hor : ∀ y ∈ added ++ [nodeAt C bs J M], y ∈ added ∨ y = nodeAt C bs J M := fun y hy =>
    (List.mem_append.mp hy).imp id List.mem_singleton.mp
  refine (ordered_iff C bs _).mpr ⟨List.pairwise_append.mpr ⟨hdepth.imp ?_, o1, fun y hy => hidx y (hor y hy)⟩,
    List.pairwise_append.mpr ⟨hdepth.imp ?_, o2, fun y hy => hpar y (hor y hy)⟩⟩
  · rintro y x ⟨dx, ox, dy, oy, rfl, rfl, hlt⟩ e
    exact Nat.ne_of_lt hlt (index_inj _ _ _ _ e).1.symm
  · rintro y x ⟨dx, ox, dy, oy, ex, ey, hlt⟩ d o o' rfl rfl _
    obtain ⟨rfl, _⟩ := nodeAt_inj C bs _ _ _ _ ex
    obtain ⟨rfl, _⟩ := nodeAt_inj C bs _ _ _ _ ey
    exact absurd hlt (Nat.not_lt_of_gt (Nat.lt_succ_self _))

/-- the changeset holds the reference roots of the first `L` blocks, and committing it would give a closed replica
    of those blocks -/
structure Inv (C : Crypto) (bs : Array Bytes) (t : Tree) (f : File) (cs : Changeset) (L : Nat) : Prop where
  roots : cs.roots.reverse = (rootsStack L).map (fun p => nodeAt C bs p.1 p.2)
  length : cs.length = L
  bytes : cs.byteLength = psum bs L
  closed : ClosedAt C bs L (vt t cs) f
  nodesRef : ∀ x ∈ cs.rnodes, ∃ d o, x = nodeAt C bs d o ∧ (o + 1) * 2 ^ d ≤ L
  order : Ordered C bs cs.rnodes

theorem inv_nodes_bound {C : Crypto} {bs : Array Bytes} {t : Tree} {f : File} {cs : Changeset} {L : Nat} (h : Inv C bs t f cs L) :
    ∀ x ∈ cs.nodes, ∃ d o, x = nodeAt C bs d o ∧ (o + 1) * 2 ^ d ≤ L :=
  fun x hx => h.nodesRef x (List.mem_reverse.mp hx)

theorem inv_nodes_ref {C : Crypto} {bs : Array Bytes} {t : Tree} {f : File} {cs : Changeset} {L : Nat} (h : Inv C bs t f cs L) :
    ∀ x ∈ cs.nodes, ∃ d o, x = nodeAt C bs d o :=
  refs_of_inside (inv_nodes_bound h)

theorem insertAll_append (m : NMap) (a b : List Node) : insertAll m (a ++ b) = insertAll (insertAll m a) b := by
  simp [insertAll, List.foldl_append]

/-- one aligned block appended: the invariant moves from `M·2^J` to `(M+1)·2^J` -/
theorem step_inv (C : Crypto) (hC : HashWF C) (bs : Array Bytes) (t : Tree) (f : File) (cs : Changeset) (M J : Nat)
    (h : Inv C bs t f cs (M * 2 ^ J)) :
    Inv C bs t f (appendRoot C cs (nodeAt C bs J M) (iat J M)).1 (M * 2 ^ J + 2 ^ J)
      ∧ ∃ top, (appendRoot C cs (nodeAt C bs J M) (iat J M)).2 = iat top.1 top.2 ∧ (rootsStack (M * 2 ^ J + 2 ^ J)).head? = some top := by
  obtain ⟨added, top, hroots, hrn, hit, htop, hadd, hcomp, hlen, hbytes, hdeeper⟩ := appendRoot_dyadic C bs cs M J h.roots
  have hnr : ∀ x ∈ (appendRoot C cs (nodeAt C bs J M) (iat J M)).1.rnodes, ∃ d o, x = nodeAt C bs d o ∧ (o + 1) * 2 ^ d ≤ M * 2 ^ J + 2 ^ J := by
    intro x hx
    rw [hrn] at hx
    rcases List.mem_append.mp hx with hx | hx
    · obtain ⟨d, o, e, hb, _⟩ := hadd x hx
      exact ⟨d, o, e, Nat.le_of_eq hb⟩
    · rcases List.mem_cons.mp hx with rfl | hx
      · exact ⟨J, M, rfl, Nat.le_of_eq (succ_mul_pow M J)⟩
      · exact inside_mono (Nat.le_add_right _ _) h.nodesRef x hx
  refine ⟨⟨hroots, by rw [hlen, h.length], ?_, ?_, hnr, by rw [hrn]; exact ordered_step C bs cs.rnodes added J M h.order h.nodesRef hadd hdeeper⟩, top, hit, htop⟩
  · rw [hbytes, h.bytes, ← succ_mul_pow, nodeAt_len]
  · apply dyadic_append_closed C hC bs (M * 2 ^ J) J (Nat.dvd_mul_left _ _) (vt t cs) _ f h.closed added hadd hcomp
      (nodeAt C bs J M :: added.reverse)
    · intro n; rw [Nat.mul_div_cancel _ (pow_pos' J)]; simp
    · show insertAll t.unflushed (appendRoot C cs (nodeAt C bs J M) (iat J M)).1.nodes = insertAll (insertAll t.unflushed cs.nodes) _
      rw [← insertAll_append]
      congr 1
      simp [Changeset.nodes, hrn]
    · show (appendRoot C cs (nodeAt C bs J M) (iat J M)).1.length = _
      rw [hlen, h.length]

/-! ### the `grow` loop -/

/-- `Grow gs L E`: from length `L`, appending the blocks `gs` (depth, offset) in turn stays within `E` and ends at
    length `E`; each block is the right sibling of the current last root (the `grow` loop inside the first new root) -/
inductive Grow : List (Nat × Nat) → Nat → Nat → Prop
  | nil (E : Nat) : Grow [] E E
  | cons (J M E : Nat) (rest : List (Nat × Nat)) : M % 2 = 1 → M * 2 ^ J + 2 ^ J ≤ E → Grow rest (M * 2 ^ J + 2 ^ J) E →
      Grow ((J, M) :: rest) (M * 2 ^ J) E

theorem head_rootsStack_odd (M J : Nat) (hM : M % 2 = 1) : (rootsStack (M * 2 ^ J)).head? = some (J, M - 1) := by
  rw [rootsStack_mul_pow, rootsStack_odd M hM]
  simp [liftN]

/-- what an upgrade leaves of a changeset: the fields other than roots, sizes and flags, and the old node list
    as a suffix of the new one -/
def SameMeta (a b : Changeset) : Prop :=
  b.fork = a.fork ∧ b.origLength = a.origLength ∧ b.origFork = a.origFork ∧ b.ancestors = a.ancestors ∧ b.signature = a.signature
    ∧ ∃ U, b.rnodes = U ++ a.rnodes

theorem SameMeta.refl (a : Changeset) : SameMeta a a := ⟨rfl, rfl, rfl, rfl, rfl, [], rfl⟩
theorem SameMeta.trans {a b c : Changeset} (h1 : SameMeta a b) (h2 : SameMeta b c) : SameMeta a c := by
  obtain ⟨a1, a2, a3, a4, a5, U1, a6⟩ := h1
  obtain ⟨b1, b2, b3, b4, b5, U2, b6⟩ := h2
  exact ⟨b1.trans a1, b2.trans a2, b3.trans a3, b4.trans a4, b5.trans a5, U2 ++ U1, by rw [b6, a6, List.append_assoc]⟩

/-- `mergeLoop` only puts nodes in front of the node list: what is behind stays behind and is not looked at -/
theorem mergeLoop_addOld (C : Crypto) (r : List Node) : ∀ (fuel : Nat) (rr nodes : List Node) (it : Iter),
    mergeLoop C fuel rr (nodes ++ r) it = ((mergeLoop C fuel rr nodes it).1, (mergeLoop C fuel rr nodes it).2.1 ++ r, (mergeLoop C fuel rr nodes it).2.2) := by
  intro fuel
  induction fuel with
  | zero => intro rr nodes it; simp [mergeLoop]
  | succ fuel ih =>
    intro rr nodes it
    match rr with
    | [] => simp [mergeLoop]
    | [a] => simp [mergeLoop]
    | a :: b :: rest =>
      simp only [mergeLoop]
      split
      · rfl
      · rw [← List.cons_append, ih]

theorem appendRoot_pushes (C : Crypto) (cs : Changeset) (n : Node) (it : Iter) :
    ∃ U, (appendRoot C cs n it).1.rnodes = U ++ n :: cs.rnodes :=
  ⟨_, congrArg (·.2.1) (mergeLoop_addOld C (n :: cs.rnodes) (cs.roots.length + 1) (n :: cs.roots.reverse) [] it)⟩

theorem appendRoot_meta (C : Crypto) (cs : Changeset) (n : Node) (it : Iter) : SameMeta cs (appendRoot C cs n it).1 := by
  obtain ⟨U, hU⟩ := appendRoot_pushes C cs n it
  exact ⟨rfl, rfl, rfl, rfl, rfl, U ++ [n], by rw [hU, List.append_assoc]; rfl⟩

/-- the `grow` loop on the blocks `gs` that fill the first new root `(D, O)` from length `L`: it stops with the
    iterator on `(D, O)` and the invariant at that root's end; `tail`, the rest of the queue, is not touched -/
theorem growLoop_honest (C : Crypto) (hC : HashWF C) (bs : Array Bytes) (t : Tree) (f : File) (D O : Nat) (hO : O % 2 = 0) :
    ∀ (gs : List (Nat × Nat)) (L : Nat) (cs : Changeset) (q : NodeQueue) (tail : List Node) (fuel : Nat) (top : Nat × Nat),
      Grow gs L ((O + 1) * 2 ^ D) → Inv C bs t f cs L → (rootsStack L).head? = some top →
      q.nodes = gs.map (fun p => nodeAt C bs p.1 p.2) ++ tail → q.extra = none → gs.length < fuel →
      ∃ cs' q', growLoop C (Flat.index D O) fuel cs (iat top.1 top.2) q = .ok (cs', iat D O, q')
        ∧ Inv C bs t f cs' ((O + 1) * 2 ^ D) ∧ q'.nodes = tail ∧ q'.extra = none ∧ SameMeta cs cs'
        ∧ (gs ≠ [] → cs'.upgraded = true) ∧ (gs = [] → cs' = cs) := by
  intro gs
  induction gs with
  | nil =>
    intro L cs q tail fuel top hg hinv htop hq hex hfuel
    cases hg
    obtain ⟨fuel, rfl⟩ := Nat.exists_eq_add_of_lt hfuel
    -- the last root is the wanted one
    rw [head_rootsStack_odd (O + 1) D (Nat.succ_mod_two_eq_one_iff.mpr hO)] at htop
    obtain rfl : (D, O) = top := Option.some.inj htop
    exact ⟨cs, q, growLoop_done C _ _ cs _ q rfl, hinv, hq, hex, SameMeta.refl _, fun h => absurd rfl h, fun _ => rfl⟩
  | cons g gs ih =>
    intro L cs q tail fuel top hg hinv htop hq hex hfuel
    obtain ⟨fuel, rfl⟩ := Nat.exists_eq_succ_of_ne_zero (Nat.ne_of_gt (Nat.zero_lt_of_lt hfuel))
    cases hg with
    | cons J M _ _ hM hfit hrest =>
      obtain ⟨M, rfl⟩ := Nat.exists_eq_succ_of_ne_zero (fun h0 : M = 0 => by rw [h0] at hM; cases hM)
      rw [head_rootsStack_odd (M + 1) J hM] at htop
      obtain rfl : (J, M) = top := Option.some.inj htop
      -- the last root `(J, M)` ends before the wanted root does
      have hne : (iat J M).index ≠ Flat.index D O := by
        intro e
        obtain ⟨rfl, rfl⟩ := index_inj J M D O e
        exact absurd hfit (Nat.not_le_of_gt (Nat.lt_add_of_pos_right (pow_pos' J)))
      have hsib : (iat J M).sibling = iat J (M + 1) := iat_sibling_even J M (Nat.succ_mod_two_eq_one_iff.mp hM)
      obtain ⟨hinv', top', hit', htop'⟩ := step_inv C hC bs t f cs (M + 1) J hinv
      have hs : q.shift (iat J M).sibling.index
          = .ok (nodeAt C bs J (M + 1), { q with nodes := gs.map (fun p => nodeAt C bs p.1 p.2) ++ tail, length := q.length - 1 }) := by
        rw [hsib]; exact shift_of_nodes hex hq
      obtain ⟨cs', q', r1, r2, r3, r4, r5, _, _⟩ := ih ((M + 1) * 2 ^ J + 2 ^ J) _
        { q with nodes := gs.map (fun p => nodeAt C bs p.1 p.2) ++ tail, length := q.length - 1 }
        tail fuel top' hrest hinv' htop' rfl hex (Nat.lt_of_succ_lt_succ hfuel)
      refine ⟨cs', q', ?_, r2, r3, r4, (appendRoot_meta C cs _ _).trans r5, fun _ => ?_, fun h => by cases h⟩
      · rw [growLoop_step C _ fuel cs _ q _ _ hne hs, hsib, hit']
        exact r1
      · -- `append_root` marks the changeset as upgraded, and the rest of the loop only appends
        exact growLoop_inv C (fun c _ => c.upgraded = true) (fun _ _ _ _ _ _ _ _ => rfl) _ _ _ _ _ _ r1 rfl

/-! ### the loop over the new roots -/

theorem cover_getLast {l : List (Nat × Nat)} {a b : Nat} (h : Cover l a b) (d o : Nat) (hl : l.getLast? = some (d, o)) :
    (o + 1) * 2 ^ d = b := by
  induction h with
  | nil a => cases hl
  | cons d' o' a b rest ha hrest ih =>
    cases rest with
    | nil =>
      obtain ⟨rfl, rfl⟩ := Prod.mk.inj (Option.some.inj hl)
      exact cover_nil_iff.mp hrest
    | cons x r => exact ih (by rw [← hl, List.getLast?_cons_cons])

theorem head_rootsStack_end (n : Nat) : ∀ d o, (rootsStack n).head? = some (d, o) → (o + 1) * 2 ^ d = n :=
  fun d o h => cover_getLast (cover_roots n) d o (by rw [List.getLast?_reverse]; exact h)

theorem iat_top_nextTree (n : Nat) (top : Nat × Nat) (h : (rootsStack n).head? = some top) : (iat top.1 top.2).nextTree = iat 0 n := by
  rw [nextTree_iat, head_rootsStack_end n top.1 top.2 h]

theorem inv_root_index (C : Crypto) (bs : Array Bytes) (t : Tree) (f : File) (cs : Changeset) (L : Nat) (h : Inv C bs t f cs L)
    (i : Nat) (hi : i < cs.roots.length) : (cs.roots.getD i default).index < 2 * L := by
  have hmem : cs.roots.getD i default ∈ cs.roots := by
    rw [List.getD_eq_getElem?_getD, List.getElem?_eq_getElem hi]
    exact List.getElem_mem hi
  have : cs.roots.getD i default ∈ cs.roots.reverse := List.mem_reverse.mpr hmem
  rw [h.roots] at this
  obtain ⟨p, hp, e⟩ := List.mem_map.mp this
  rw [← e]
  exact UpgradeComplete.pos_index_lt p.1 p.2 L (rootsStack_bound L p hp)

/-- one aligned block appended, as the root loop sees it: the invariant moves on to the end of the block and the
    iterator `append_root` returns leads to the leaf behind it -/
theorem step_inv_next (C : Crypto) (hC : HashWF C) (bs : Array Bytes) (t : Tree) (f : File) (cs : Changeset) (o d : Nat)
    (h : Inv C bs t f cs (o * 2 ^ d)) :
    Inv C bs t f (appendRoot C cs (nodeAt C bs d o) (iat d o)).1 ((o + 1) * 2 ^ d)
      ∧ (appendRoot C cs (nodeAt C bs d o) (iat d o)).2.nextTree = iat 0 ((o + 1) * 2 ^ d) := by
  obtain ⟨hinv', top', hit', htop'⟩ := step_inv C hC bs t f cs o d h
  rw [succ_mul_pow]
  exact ⟨hinv', by rw [hit']; exact iat_top_nextTree _ top' htop'⟩

/-- the appending phase: from leaf `s` on, one root of the target per round, no root of the replica left to match -/
theorem upgradeRoots_append (C : Crypto) (hC : HashWF C) (bs : Array Bytes) (t : Tree) (f : File) (n : Nat) (hN : n < 2 ^ 64) :
    ∀ (ln : List (Nat × Nat)) (fuel s : Nat) (st : UpState), Cover ln s n → DecDepth ln → Align s n → st.it = iat 0 s →
      (st.grow = true → st.cs.roots.length ≤ st.i) → Inv C bs t f st.cs s → st.q.nodes = ln.map (fun p => nodeAt C bs p.1 p.2) → st.q.extra = none →
      ln.length < fuel →
      ∃ st', upgradeRoots C (2 * n) fuel st = .ok st' ∧ Inv C bs t f st'.cs n ∧ st'.q.extra = none ∧ SameMeta st.cs st'.cs
        ∧ (ln ≠ [] → st'.cs.upgraded = true) ∧ (ln = [] → st'.cs = st.cs) ∧ st'.q.nodes = [] := by
  intro ln
  induction ln with
  | nil =>
    intro fuel s st hc _ _ hit _ hinv hq0 hex hfuel
    obtain rfl := cover_nil_iff.mp hc
    obtain ⟨fuel, rfl⟩ := Nat.exists_eq_add_of_lt hfuel
    exact ⟨{ st with it := iat 0 s }, upgradeRoots_succ_done C _ _ st _ (by rw [hit]; exact fullRoot_done s s (Nat.le_refl _)),
      hinv, hex, SameMeta.refl _, fun h => absurd rfl h, fun _ => rfl, hq0⟩
  | cons p ln ih =>
    intro fuel s st hc hdec hal hit hgrow hinv hq hex hfuel
    obtain ⟨d, o⟩ := p
    obtain ⟨fuel, rfl⟩ := Nat.exists_eq_succ_of_ne_zero (Nat.ne_of_gt (Nat.zero_lt_of_lt hfuel))
    obtain ⟨hfr, -, rfl, -, hrest, hdec', hal'⟩ := fullRoot_cover hc hdec hal hN
    rw [← hit] at hfr
    -- no root of the changeset sits here, and the replica's roots are used up: the node comes from the queue
    have hno : ¬ (st.i < st.cs.roots.length ∧ (st.cs.roots.getD st.i default).index = (iat d o).index) := by
      rintro ⟨h1, h2⟩
      have h3 := inv_root_index C bs t f st.cs _ hinv st.i h1
      rw [h2, iat_index] at h3
      exact Nat.lt_irrefl _ (Nat.lt_of_lt_of_le h3 (index_ge_start d o))
    have hng : ¬ (st.grow = true ∧ st.i < st.cs.roots.length) := fun ⟨g1, g2⟩ => Nat.not_lt_of_le (hgrow g1) g2
    obtain ⟨hinv', hnext⟩ := step_inv_next C hC bs t f st.cs o d hinv
    obtain ⟨st', r1, r2, r3, r4, _, _, r7⟩ := ih fuel ((o + 1) * 2 ^ d)
      { st with cs := (appendRoot C st.cs (nodeAt C bs d o) (iat d o)).1, it := (appendRoot C st.cs (nodeAt C bs d o) (iat d o)).2.nextTree,
                q := { st.q with nodes := ln.map (fun p => nodeAt C bs p.1 p.2), length := st.q.length - 1 }, grow := false }
      hrest hdec' hal' hnext (fun h => by cases h) hinv' rfl hex (Nat.lt_of_succ_lt_succ hfuel)
    refine ⟨st', ?_, r2, r3, (appendRoot_meta C st.cs _ _).trans r4, fun _ => ?_, (fun h => by cases h), r7⟩
    · rw [upgradeRoots_succ_shift C _ fuel st _ hfr hno hng _ _ (shift_of_nodes hex hq)]
      exact r1
    · exact upgradeRoots_inv C (fun c _ => c.upgraded = true) (fun _ _ _ _ _ _ _ _ => rfl) _ _ _ _ r1 rfl

/-! ### matching the roots both sides share, then growing -/

/-- the position list the honest upgrade sends, relative to the remaining roots `ln` of the target from leaf `s` -/
inductive Up (m : Nat) : Nat → List (Nat × Nat) → List (Nat × Nat) → Prop
  | skip (d o : Nat) (ln us : List (Nat × Nat)) : (o + 1) * 2 ^ d ≤ m → Up m ((o + 1) * 2 ^ d) ln us → Up m (o * 2 ^ d) ((d, o) :: ln) us
  | plain (ln : List (Nat × Nat)) : Up m m ln ln
  | grow (d o : Nat) (ln gs : List (Nat × Nat)) : o * 2 ^ d < m → m < (o + 1) * 2 ^ d → Grow gs m ((o + 1) * 2 ^ d) →
      Up m (o * 2 ^ d) ((d, o) :: ln) (gs ++ ln)

theorem cover_same_nil {l : List (Nat × Nat)} {a : Nat} (h : Cover l a a) : l = [] :=
  List.eq_nil_of_length_eq_zero (Nat.le_zero.mp (Nat.sub_self a ▸ UpgradeComplete.cover_length_le l a a h))

/-- a root of the target that ends inside the replica's length is the replica's root at that position too -/
theorem common_root (m n s d o : Nat) (ln' lm : List (Nat × Nat)) (hcn : Cover ((d, o) :: ln') s n) (hdn : DecDepth ((d, o) :: ln'))
    (hcm : Cover lm s m) (hdm : DecDepth lm) (hmn : m ≤ n) (hend : (o + 1) * 2 ^ d ≤ m) : ∃ lm', lm = (d, o) :: lm' := by
  obtain ⟨_, c2, c3⟩ := cover_lt _ s n d o ln' rfl hcn hdn
  rw [succ_mul_pow, ← c3] at hend
  have hfit : 2 ^ d ≤ m - s := Nat.le_sub_of_add_le' hend
  cases lm with
  | nil =>
    obtain rfl := cover_nil_iff.mp hcm
    exact absurd hend (Nat.not_le_of_gt (Nat.lt_add_of_pos_right (pow_pos' d)))
  | cons q lm' =>
    obtain ⟨d', o'⟩ := q
    obtain ⟨e1, e2, e3⟩ := cover_lt _ s m d' o' lm' rfl hcm hdm
    -- both first roots are the largest aligned tree that fits, and `[s, m)` is at least `2^d` and at most `n - s` long
    have h1 : d < d' + 1 := lt_of_pow_lt (Nat.lt_of_le_of_lt hfit e2)
    have h2 : d' < d + 1 := lt_of_pow_lt (Nat.lt_of_le_of_lt (Nat.le_trans e1 (Nat.sub_le_sub_right hmn s)) c2)
    obtain rfl : d' = d := Nat.le_antisymm (Nat.le_of_lt_succ h2) (Nat.le_of_lt_succ h1)
    obtain rfl : o' = o := Nat.eq_of_mul_eq_mul_right (pow_pos' d') (e3.symm.trans c3)
    exact ⟨lm', rfl⟩

/-- under `Align`, the largest aligned tree that fits at `s` is a left child -/
theorem align_even {s T d o : Nat} (hal : Align s T) (hs : s = o * 2 ^ d) (hfit : (o + 1) * 2 ^ d ≤ T) : o % 2 = 0 := by
  obtain ⟨k, hk1, hk2⟩ := hal
  rw [succ_mul_pow, ← hs] at hfit
  have hk : d < k := lt_of_pow_lt (by omega)
  have hdv : 2 ^ (d + 1) ∣ o * 2 ^ d := hs ▸ Nat.dvd_trans (Nat.pow_dvd_pow 2 hk) hk1
  rw [pow_succ2] at hdv
  exact Nat.mod_eq_zero_of_dvd (Nat.dvd_of_mul_dvd_mul_right (pow_pos' d) hdv)

/-- the last root the changeset holds is the lowest root of the `L`-leaf tree, and `Iter.new` finds it -/
theorem Inv.last_root {C : Crypto} {bs : Array Bytes} {t : Tree} {f : File} {cs : Changeset} {L : Nat} (h : Inv C bs t f cs L)
    (h0 : 0 < L) (hL : L < 2 ^ 64) :
    ∃ top, (rootsStack L).head? = some top ∧ Iter.new (cs.roots.getLast?.getD default).index = iat top.1 top.2 := by
  obtain ⟨top, rest, hr⟩ := List.exists_cons_of_ne_nil (rootsStack_ne_nil L h0)
  have hlast : cs.roots.getLast? = some (nodeAt C bs top.1 top.2) := by rw [← List.head?_reverse, h.roots, hr]; rfl
  refine ⟨top, by rw [hr]; rfl, ?_⟩
  rw [hlast]
  exact new_index_of_span (rootsStack_bound L top (by rw [hr]; exact List.mem_cons_self)) hL

theorem getD_map_mid {α β : Type} (f : α → β) (a : List α) (x : α) (b : List α) (dflt : β) :
    ((a ++ x :: b).map f).getD a.length dflt = f x := by
  simp [List.getD_eq_getElem?_getD]

/-- the root loop from leaf `s` on a replica at length `m` (`cs0`, the changeset it started with): `ln` are the
    target's roots still to come, `dn` the replica's roots already matched and `lm` those still to match, `us` the
    positions of the queued nodes.  Shared roots are skipped, the first new root is grown into, the rest appended. -/
theorem upgradeRoots_match (C : Crypto) (hC : HashWF C) (bs : Array Bytes) (t : Tree) (f : File) (m n : Nat) (hN : n < 2 ^ 64)
    (hm0 : 0 < m) (hmn : m < n) (cs0 : Changeset) (hinv : Inv C bs t f cs0 m) :
    ∀ (ln : List (Nat × Nat)) (fuel s : Nat) (st : UpState) (dn lm us : List (Nat × Nat)),
      Cover ln s n → DecDepth ln → Align s n → st.it = iat 0 s → st.grow = true → st.cs = cs0 →
      cs0.roots = (dn ++ lm).map (fun p => nodeAt C bs p.1 p.2) → Cover lm s m → DecDepth lm → st.i = dn.length →
      Up m s ln us → st.q.nodes = us.map (fun p => nodeAt C bs p.1 p.2) → st.q.extra = none → ln.length < fuel →
      ∃ st', upgradeRoots C (2 * n) fuel st = .ok st' ∧ Inv C bs t f st'.cs n ∧ st'.q.extra = none ∧ SameMeta cs0 st'.cs
        ∧ st'.cs.upgraded = true ∧ st'.q.nodes = [] := by
  intro ln fuel s st dn lm us hc hdec hal hit hgrow hcs hroots hcm hdm hi hup hq hex hfuel
  induction hup generalizing fuel st dn lm with
  | skip d o ln us hend _ ih =>
    -- a shared root: the replica's next root sits here
    have hrlen : st.cs.roots.length = dn.length + lm.length := by rw [hcs, hroots, List.length_map, List.length_append]
    obtain ⟨fuel, rfl⟩ := Nat.exists_eq_succ_of_ne_zero (Nat.ne_of_gt (Nat.zero_lt_of_lt hfuel))
    obtain ⟨hfr, hnext, -, -, hrest, hdec', hal'⟩ := fullRoot_cover hc hdec hal hN
    rw [← hit] at hfr
    obtain ⟨lm', rfl⟩ := common_root m n _ d o ln lm hc hdec hcm hdm (Nat.le_of_lt hmn) hend
    have hget : st.cs.roots.getD st.i default = nodeAt C bs d o := by
      rw [hcs, hroots, hi]; exact getD_map_mid _ dn (d, o) lm' default
    have hc1 : st.i < st.cs.roots.length ∧ (st.cs.roots.getD st.i default).index = (iat d o).index :=
      ⟨by rw [hrlen, hi]; exact Nat.lt_add_of_pos_right (Nat.succ_pos _), by rw [hget]; rfl⟩
    rw [upgradeRoots_succ_skip C _ fuel st _ hfr hc1, hnext]
    exact ih fuel { st with i := st.i + 1, it := iat 0 ((o + 1) * 2 ^ d) } (dn ++ [(d, o)]) lm' hrest
      hdec' hal' rfl hgrow hcs (by rw [hroots, List.append_assoc]; rfl) hcm.tail (List.pairwise_cons.mp hdm).2
      (by rw [List.length_append, ← hi]; rfl) hq hex (Nat.lt_of_succ_lt_succ hfuel)
  | plain ln =>
    -- the replica's roots are used up: the rest is appended; the target is longer than the replica, so there is a rest
    have hrlen : st.cs.roots.length = dn.length + lm.length := by rw [hcs, hroots, List.length_map, List.length_append]
    obtain rfl := cover_same_nil hcm
    have hne : ln ≠ [] := by rintro rfl; exact Nat.ne_of_lt hmn (cover_nil_iff.mp hc)
    obtain ⟨st', r1, r2, r3, r4, r5, _, r7⟩ := upgradeRoots_append C hC bs t f n hN ln fuel m st hc hdec hal hit
      (fun _ => by rw [hrlen, hi]; exact Nat.le_refl _) (hcs ▸ hinv) hq hex hfuel
    exact ⟨st', r1, r2, r3, by rw [← hcs]; exact r4, r5 hne, r7⟩
  | grow d o ln gs hlt hgt hg =>
    -- the first new root: the replica's remaining roots are merged upwards into it
    have hrlen : st.cs.roots.length = dn.length + lm.length := by rw [hcs, hroots, List.length_map, List.length_append]
    have hinv' : Inv C bs t f st.cs m := hcs ▸ hinv
    obtain ⟨fuel, rfl⟩ := Nat.exists_eq_succ_of_ne_zero (Nat.ne_of_gt (Nat.zero_lt_of_lt hfuel))
    have hfuel := Nat.lt_of_succ_lt_succ hfuel
    obtain ⟨hfr, hnext, hs, hfit, hrest, hdec', hal'⟩ := fullRoot_cover hc hdec hal hN
    rw [← hit] at hfr
    have hgne : gs ≠ [] := by
      rintro rfl
      cases hg
      exact Nat.lt_irrefl _ hgt
    obtain ⟨⟨d', o'⟩, lm', rfl⟩ := List.exists_cons_of_ne_nil (l := lm) (by
      rintro rfl
      rw [cover_nil_iff.mp hcm] at hlt
      exact Nat.lt_irrefl _ hlt)
    obtain ⟨e1, _, _⟩ := cover_lt _ _ m d' o' lm' rfl hcm hdm
    have hdlt : d' < d :=
      lt_of_pow_lt (Nat.lt_of_le_of_lt e1 (Nat.sub_lt_left_of_lt_add (Nat.le_of_lt hlt) (succ_mul_pow o d ▸ hgt)))
    have hget : st.cs.roots.getD st.i default = nodeAt C bs d' o' := by
      rw [hcs, hroots, hi]; exact getD_map_mid _ dn (d', o') lm' default
    have hc1 : ¬ (st.i < st.cs.roots.length ∧ (st.cs.roots.getD st.i default).index = (iat d o).index) := by
      rintro ⟨_, h2⟩
      rw [hget] at h2
      exact absurd (index_inj d' o' d o h2).1 (Nat.ne_of_lt hdlt)
    have hc2 : st.grow = true ∧ st.i < st.cs.roots.length :=
      ⟨hgrow, by rw [hrlen, hi]; exact Nat.lt_add_of_pos_right (Nat.succ_pos _)⟩
    obtain ⟨top, htop, hnewlast⟩ := hinv'.last_root hm0 (Nat.lt_trans hmn hN)
    -- `nodes.length + 3` is the model's fuel for the grow loop, which runs once per queued node of `gs`
    obtain ⟨cs', q', g1, g2, g3, g4, g5, g6, _⟩ := growLoop_honest C hC bs t f d o (align_even hal hs hfit) gs m st.cs st.q
      (ln.map (fun p => nodeAt C bs p.1 p.2)) (st.q.nodes.length + 3) top hg hinv' htop (by rw [hq, List.map_append]) hex
      (by rw [hq, List.length_map, List.length_append]
          exact Nat.lt_of_le_of_lt (Nat.le_add_right _ _) (Nat.lt_add_of_pos_right (by decide)))
    obtain ⟨st', r1, r2, r3, r4, _, _, r7⟩ := upgradeRoots_append C hC bs t f n hN ln fuel ((o + 1) * 2 ^ d)
      { st with cs := cs', it := iat 0 ((o + 1) * 2 ^ d), q := q', grow := false } hrest hdec' hal' rfl
      (fun h => by cases h) g2 g3 g4 hfuel
    refine ⟨st', ?_, r2, r3, by rw [← hcs]; exact g5.trans r4, ?_, r7⟩
    · rw [upgradeRoots_succ_grow C _ fuel st _ hfr hc1 hc2 cs' (iat d o) q' (by rw [iat_index, hnewlast]; exact g1), hnext]
      exact r1
    · -- the grow loop has appended at least one node, and the rest of the root loop only appends
      exact upgradeRoots_inv C (fun c _ => c.upgraded = true) (fun _ _ _ _ _ _ _ _ => rfl) _ _ _ _ r1 (g6 hgne)

/-- right siblings along the path from `(j, q)` upwards, `gap` levels -/
def rightSibs : Nat → Nat → Nat → List (Nat × Nat)
  | 0, _, _ => []
  | g+1, j, q => (if q % 2 = 0 then [(j, q + 1)] else []) ++ rightSibs g (j + 1) (q / 2)

/-- below a multiple of `2^k` the path has `k` right children: no right sibling on these levels -/
theorem rightSibs_skip : ∀ (k g j X q : Nat), X + 1 = (q + 1) * 2 ^ k → rightSibs (k + g) j X = rightSibs g (j + k) q := by
  intro k
  induction k with
  | zero =>
    intro g j X q h
    rw [Nat.pow_zero, Nat.mul_one] at h
    rw [Nat.zero_add, Nat.add_zero, Nat.succ.inj h]
  | succ k ih =>
    intro g j X q h
    rw [Pow2.succ_mul_pow_succ] at h
    have hodd : ¬ X % 2 = 0 := by omega
    rw [Nat.add_right_comm k 1 g, rightSibs, if_neg hodd, List.nil_append, ih g (j + 1) (X / 2) q (by omega),
      Nat.add_assoc j 1 k, Nat.add_comm 1 k]

/-- the path from the last leaf `x` before a block `(J, 2c+1)`: nothing on the levels below `J`, the block on level `J`, and
    above it what the path from the block's last leaf meets -/
theorem rightSibs_block (J g c x : Nat) (hx : x + 1 = (2 * c + 1) * 2 ^ J) :
    rightSibs (J + g + 1) 0 x = (J, 2 * c + 1) :: rightSibs (J + g + 1) 0 (x + 2 ^ J) := by
  have hx' : x + 2 ^ J + 1 = (c + 1) * 2 ^ (J + 1) := by
    rw [Nat.add_right_comm, hx, Pow2.parent_end, ← Pow2.succ_mul_pow]
  rw [Nat.add_assoc J g 1, rightSibs_skip J (g + 1) 0 x (2 * c) hx, rightSibs, if_pos (Nat.mul_mod_right 2 c), Nat.mul_div_cancel_left c (by decide),
    Nat.add_comm g 1, ← Nat.add_assoc J 1 g, rightSibs_skip (J + 1) g 0 (x + 2 ^ J) c hx', Nat.zero_add, Nat.zero_add]
  rfl

/-- `Grow gs L E`: `gs` are the blocks appended while the length grows from `L` to the end `E` of the first new root `(D, O)`;
    they are the right siblings met on the way from the last leaf `L − 1` up to that root -/
theorem grow_rightSibs (D O : Nat) : ∀ (gs : List (Nat × Nat)) (L E : Nat), Grow gs L E → E = (O + 1) * 2 ^ D → O * 2 ^ D < L →
    gs = rightSibs D 0 (L - 1) := by
  intro gs L E hg
  induction hg with
  | nil E =>
    intro hE hlt
    obtain ⟨x, rfl⟩ := Nat.exists_eq_add_one_of_ne_zero (Nat.ne_of_gt (Nat.zero_lt_of_lt hlt))
    rw [Nat.add_sub_cancel, ← Nat.add_zero D, rightSibs_skip D 0 0 x O hE]
    rfl
  | cons J M E rest hM hfit _ ih =>
    intro hE hlt
    have hpJ := pow_pos' J
    have hJD : J < D := by
      refine Nat.lt_of_not_le fun hge => ?_
      have hdv : 2 ^ D ∣ M * 2 ^ J := Nat.dvd_trans (Nat.pow_dvd_pow 2 hge) (Nat.dvd_mul_left _ _)
      have g1 := mult_gap (2 ^ D) (O * 2 ^ D) _ (Nat.dvd_mul_left _ _) hdv hlt
      rw [hE, Pow2.succ_mul_pow] at hfit
      exact Nat.lt_irrefl _ (Nat.lt_of_lt_of_le (Nat.lt_add_of_pos_right hpJ) (Nat.le_trans hfit g1))
    obtain ⟨g, rfl⟩ := Nat.exists_eq_add_of_lt hJD
    obtain ⟨c, rfl⟩ : ∃ c, M = 2 * c + 1 := ⟨M / 2, by rw [← hM]; exact (Nat.div_add_mod M 2).symm⟩
    -- with `x` the last leaf before the block, the rest starts after leaf `x + 2^J`
    obtain ⟨x, hx⟩ := Nat.exists_eq_add_one_of_ne_zero (Nat.ne_of_gt (Nat.zero_lt_of_lt hlt))
    have hrest := ih hE (Nat.lt_trans hlt (Nat.lt_add_of_pos_right hpJ))
    rw [hx, Nat.add_right_comm x 1, Nat.add_sub_cancel] at hrest
    rw [hx, Nat.add_sub_cancel, rightSibs_block J g c x hx.symm, hrest]

theorem rightSibs_length_le : ∀ (g j q : Nat), (rightSibs g j q).length ≤ g := by
  intro g
  induction g with
  | zero => intro j q; exact Nat.le_refl 0
  | succ g ih =>
    intro j q
    have h1 : (if q % 2 = 0 then [(j, q + 1)] else []).length ≤ 1 := by split <;> simp
    have := ih (j + 1) (q / 2)
    rw [rightSibs, List.length_append]
    omega

theorem up_length (m n : Nat) (hn : n < 2 ^ 64) : ∀ (ln : List (Nat × Nat)) (s : Nat) (us : List (Nat × Nat)), Cover ln s n → Up m s ln us →
    us.length ≤ 64 + ln.length := by
  intro ln s us hc hup
  induction hup with
  | skip d o ln us _ _ ih => exact Nat.le_trans (ih hc.tail) (Nat.add_le_add_left (Nat.le_succ _) 64)
  | plain ln => exact Nat.le_add_left _ _
  | grow d o ln gs hlt _ hg =>
    -- the grow phase has at most one block per level below the first new root, whose depth is below 64
    rw [List.length_append, grow_rightSibs d o gs m _ hg rfl hlt]
    exact Nat.add_le_add (Nat.le_trans (rightSibs_length_le d 0 _) (Nat.le_of_lt (depth_lt_of_span hc.tail.le hn))) (Nat.le_succ _)

/-- potential: every appended root consumes one queued node -/
def pot (cs : Changeset) (q : NodeQueue) : Nat := cs.roots.length + cs.rnodes.length + 2 * q.count

theorem pot_step (C : Crypto) (cs : Changeset) (q : NodeQueue) (i : Nat) (n : Node) (q' : NodeQueue) (it : Iter)
    (hs : q.shift i = .ok (n, q')) : pot (appendRoot C cs n it).1 q' = pot cs q := by
  have hc := shift_count q i n q' hs
  have hp := appendRoot_count C cs n it
  unfold pot
  omega

/-- every appended root has consumed one queued node: the root loop records at most two nodes per node it was sent -/
theorem upgradeRoots_count (C : Crypto) (upto fuel : Nat) (cs : Changeset) (it : Iter) (nodes : List Node) (i : Nat) (g : Bool)
    (st' : UpState) (h : upgradeRoots C upto fuel ⟨cs, it, NodeQueue.new nodes none, i, g⟩ = .ok st') :
    st'.cs.rnodes.length ≤ cs.roots.length + cs.rnodes.length + 2 * nodes.length := by
  have hp : pot st'.cs st'.q = pot cs (NodeQueue.new nodes none) :=
    upgradeRoots_inv C (fun c q => pot c q = pot cs (NodeQueue.new nodes none))
      (fun c q i n q' it hp hs => (pot_step C c q i n q' it hs).trans hp) upto fuel _ st' h rfl
  unfold pot at hp
  simp only [NodeQueue.count, NodeQueue.new, Option.isSome_none, Bool.false_eq_true, ite_false, Nat.add_zero] at hp
  omega

/-! ### `verify_upgrade` accepts the honest upgrade from `m` to `n` -/

/-- what the writer signs when its log has the first `n` blocks -/
def signableAt (C : Crypto) (bs : Array Bytes) (n fork : Nat) : Bytes := signable (rootsHash C (rootsAt C bs n)) n fork

theorem inv_congr (C : Crypto) (bs : Array Bytes) (t : Tree) (f : File) (cs cs' : Changeset) (L : Nat) (h : Inv C bs t f cs L)
    (h1 : cs'.roots = cs.roots) (h2 : cs'.length = cs.length) (h3 : cs'.byteLength = cs.byteLength) (h4 : cs'.rnodes = cs.rnodes) :
    Inv C bs t f cs' L := by
  have hvt : vt t cs' = vt t cs := by simp [vt, Changeset.nodes, h2, h4]
  exact ⟨by rw [h1]; exact h.roots, by rw [h2]; exact h.length, by rw [h3]; exact h.bytes, by rw [hvt]; exact h.closed,
    by rw [h4]; exact h.nodesRef, by rw [h4]; exact h.order⟩

/-- the root loop on the honest upgrade from `m` to `n`; `2 * n + 2` is the model's fuel, and the loop runs once
    per root of the `n`-leaf tree -/
theorem grow_upgradeRoots (C : Crypto) (hC : HashWF C) (bs : Array Bytes) (t : Tree) (f : File) (m n : Nat) (hN : n < 2 ^ 64)
    (hm0 : 0 < m) (hmn : m < n) (cs : Changeset) (hinv : Inv C bs t f cs m)
    (us : List (Nat × Nat)) (hup : Up m 0 (rootsStack n).reverse us) :
    ∃ st', upgradeRoots C (2 * n) (2 * n + 2) ⟨cs, Iter.new 0, NodeQueue.new (us.map (fun p => nodeAt C bs p.1 p.2)) none, 0, !cs.roots.isEmpty⟩ = .ok st'
      ∧ Inv C bs t f st'.cs n ∧ st'.q.extra = none ∧ SameMeta cs st'.cs ∧ st'.cs.upgraded = true ∧ st'.q.nodes = [] := by
  have hroots := rootsAt_of_reverse hinv.roots
  have hgrow : (!cs.roots.isEmpty) = true := by
    obtain ⟨a, l, hr⟩ := List.exists_cons_of_ne_nil (rootsStack_ne_nil m hm0)
    rw [hroots, rootsAt, hr]; simp
  have hrs : cs.roots = (([] : List (Nat × Nat)) ++ (rootsStack m).reverse).map (fun p => nodeAt C bs p.1 p.2) := by
    rw [List.nil_append]; exact hroots
  have hit : Iter.new 0 = iat 0 0 := new_even 0
  have hfuel : (rootsStack n).reverse.length < 2 * n + 2 := by
    have hl := UpgradeComplete.cover_length_le _ _ _ (cover_roots n)
    omega
  -- elaborated on its own: against the goal as expected type the unifier unfolds the loop and runs out of time
  have h := upgradeRoots_match C hC bs t f m n hN hm0 hmn cs hinv (rootsStack n).reverse (2 * n + 2) 0
    ⟨cs, Iter.new 0, NodeQueue.new (us.map (fun p => nodeAt C bs p.1 p.2)) none, 0, !cs.roots.isEmpty⟩ [] (rootsStack m).reverse us
    (cover_roots n) (rootsStack_rev_dec n) (align_zero _) hit hgrow rfl hrs (cover_roots m) (rootsStack_rev_dec m) rfl hup
    rfl rfl hfuel
  exact h

theorem grow_upgradeRoots_all (C : Crypto) (hC : HashWF C) (bs : Array Bytes) (t : Tree) (f : File) (m n : Nat) (hN : n < 2 ^ 64)
    (hm0 : 0 < m) (hmn : m < n) (cs : Changeset) (hinv : Inv C bs t f cs m)
    (us : List (Nat × Nat)) (hup : Up m 0 (rootsStack n).reverse us) :
    ∃ st', upgradeRoots C (2 * n) (2 * n + 2) ⟨cs, Iter.new 0, NodeQueue.new (us.map (fun p => nodeAt C bs p.1 p.2)) none, 0, !cs.roots.isEmpty⟩ = .ok st'
      ∧ st'.q.extra = none ∧ st'.q.nodes = [] := by
  obtain ⟨st', h1, _, h3, _, _, h6⟩ := grow_upgradeRoots C hC bs t f m n hN hm0 hmn cs hinv us hup
  exact ⟨st', h1, h3, h6⟩

theorem grow_upgrade_accepted (C : Crypto) (hC : HashWF C) (bs : Array Bytes) (t : Tree) (f : File) (m n : Nat) (hN : n < 2 ^ 64)
    (hm0 : 0 < m) (hmn : m < n) (fork : Nat) (pk sig : Bytes) (cs : Changeset) (hinv : Inv C bs t f cs m)
    (us : List (Nat × Nat)) (hup : Up m 0 (rootsStack n).reverse us) (hsl : sig.length = 64)
    (hver : C.verify pk (signableAt C bs n fork) sig = true) :
    ∃ cs', verifyUpgrade C fork ⟨m, n - m, us.map (fun p => nodeAt C bs p.1 p.2), [], sig⟩ none pk cs = .ok (true, cs')
      ∧ Inv C bs t f cs' n ∧ cs'.fork = fork ∧ cs'.signature = some sig ∧ cs'.upgraded = true
      ∧ cs'.origLength = cs.origLength ∧ cs'.origFork = cs.origFork ∧ cs'.ancestors = cs.ancestors
      ∧ cs'.hash = some (rootsHash C cs'.roots)
      ∧ cs'.rnodes.length ≤ cs.roots.length + cs.rnodes.length + 2 * us.length
      ∧ ∃ U, cs'.rnodes = U ++ cs.rnodes := by
  obtain ⟨st', h1, h2, h3, ⟨_, m2, m3, m4, _, m6⟩, h5, _⟩ := grow_upgradeRoots C hC bs t f m n hN hm0 hmn cs hinv us hup
  have hr' := rootsAt_of_reverse h2.roots
  obtain ⟨last, rest, hl⟩ := List.exists_cons_of_ne_nil (rootsStack_ne_nil n (Nat.zero_lt_of_lt hmn))
  have hlast : st'.cs.roots.getLast? = some (nodeAt C bs last.1 last.2) := by rw [← List.head?_reverse, h2.roots, hl]; rfl
  have hcount := upgradeRoots_count C _ _ cs _ _ _ _ st' h1
  rw [List.length_map] at hcount
  have hto : m + (n - m) = n := Nat.add_sub_cancel' (Nat.le_of_lt hmn)
  refine ⟨{ st'.cs with fork := fork, hash := some (rootsHash C st'.cs.roots), signature := some sig }, ?_,
    inv_congr C bs t f st'.cs _ n h2 rfl rfl rfl rfl, rfl, rfl, h5, m2, m3, m4, rfl, hcount, m6⟩
  refine (verifyUpgrade_ok_iff ..).mpr ⟨st', _, (st'.cs, Iter.new (nodeAt C bs last.1 last.2).index), ?_, hlast, rfl, hsl, ?_, ?_, rfl⟩
  · show upgradeRoots C (2 * (m + (n - m))) (2 * (m + (n - m)) + 2) _ = _
    rw [hto]; exact h1
  · show C.verify pk (signable (rootsHash C st'.cs.roots) st'.cs.length fork) sig = true
    rw [hr', h2.length]; exact hver
  · rw [h3]; rfl

theorem cover_of_grow : ∀ (gs : List (Nat × Nat)) (L E : Nat), Grow gs L E → Cover gs L E := by
  intro gs L E hg
  induction hg with
  | nil E => exact Cover.nil E
  | cons J M E rest _ _ _ ih =>
    refine Cover.cons J M _ E rest rfl ?_
    rw [Pow2.succ_mul_pow]
    exact ih

end HC.Growth

namespace HC.BlockNew
open HC HC.RefTree HC.RefProof HC.Offsets HC.Growth

theorem up_cover (m n : Nat) : ∀ (ln : List (Nat × Nat)) (s : Nat) (us : List (Nat × Nat)), Cover ln s n → Up m s ln us → Cover us m n := by
  intro ln s us hc hup
  induction hup with
  | skip d o ln us _ _ ih => exact ih hc.tail
  | plain ln => exact hc
  | grow d o ln gs _ _ hg => exact (cover_of_grow gs _ _ hg).append hc.tail

end HC.BlockNew
