import HC.Proofs.BlockGrow
/-!
The combined proof of `BlockGrow` is the **writer's own answer** (C03): `create_valueless_proof` for the request
"block `i` with `k` nodes, upgrade from `m`" on a writer whose log has `n > m` blocks.  The block part is computed first
(`blockAndSeekProof_sibPath`); the upgrade part is `Growth.rootWalk_up` — the root loop treats the honest position list —, where
`treatAll_plain` sends every node because the local proof already has its block section.  `connectWalk_nosub` and
`upgradeLoop_nosub` say the same of the two loops directly, on any tree: with `nodes` set they never look at the sub tree (`treat_nosub`).
-/
namespace HC.BlockGrowWriter
open HC HC.Codec HC.Flat HC.Tree HC.RefTree HC.RefProof HC.Sound HC.Offsets HC.TreeStore HC.Complete HC.UpgradeSound HC.CreateTotal HC.UpgradeComplete HC.FullRoots
  HC.Replica HC.Growth HC.HashReq

/-- with a block section in the local proof `treat` hands nothing over: it fetches and sends, and leaves the local proof alone -/
theorem treat_nosub {t : Tree} {f : File} (useSub : Bool) {ix : Option Indexed} {sk : Bool} {sub : Nat} {x : Iter} {acc : List Node} {p : LocalProof}
    (hp : (useSub && p.nodes.isNone) = false) :
    t.treat f useSub ix sk sub x acc p = andThen (t.requiredNode f x.index) fun n => .ok (acc ++ [n], p) := by
  rw [Tree.treat, hp]
  rfl

theorem connectWalk_nosub (t : Tree) (f : File) (ix : Option Indexed) (sk : Bool) (sub root target : Nat) (p : LocalProof)
    (hp : p.nodes.isNone = false) :
    ∀ (fuel : Nat) (it : Iter) (acc : List Node),
      t.connectWalk f true ix sk sub root target fuel it acc p = t.connectWalk f false none false 0 root target fuel it acc p := by
  intro fuel
  induction fuel with
  | zero => intro it acc; rfl
  | succ fuel ih =>
    intro it acc
    by_cases h : it.index = root
    · rw [connectWalk_root h, connectWalk_root h]
    · by_cases hs : it.sibling.index > target
      · rw [connectWalk_send h hs, connectWalk_send h hs,
          treat_nosub true hp, treat_nosub false (by rfl), andThen_assoc, andThen_assoc]
        exact congrArg _ (funext fun n => ih _ _)
      · rw [connectWalk_pass h hs, connectWalk_pass h hs]
        exact ih _ _

theorem connectWalk_keeps (t : Tree) (f : File) (root target : Nat) (p : LocalProof) :
    ∀ (fuel : Nat) (it : Iter) (acc : List Node) (r : List Node × LocalProof),
      t.connectWalk f false none false 0 root target fuel it acc p = .ok r → r.2 = p := by
  intro fuel
  induction fuel with
  | zero => intro it acc r h; cases h
  | succ fuel ih =>
    intro it acc r h
    by_cases hr : it.index = root
    · rw [connectWalk_root hr] at h
      cases h; rfl
    · by_cases hs : it.sibling.index > target
      · rw [connectWalk_send hr hs, treat_nosub false (by rfl), andThen_assoc] at h
        obtain ⟨n, _, h⟩ := (andThen_ok_iff _ _ _).mp h
        exact ih _ _ _ h
      · rw [connectWalk_pass hr hs] at h
        exact ih _ _ _ h

theorem upgradeLoop_nosub (t : Tree) (f : File) (ix : Option Indexed) (sk : Bool) (frm tt sub : Nat) (p : LocalProof)
    (hp : p.nodes.isNone = false) :
    ∀ (fuel : Nat) (it : Iter) (hasUp : Bool) (acc : List Node),
      t.upgradeLoop f true ix sk frm tt sub fuel it hasUp acc p = t.upgradeLoop f false none false frm tt 0 fuel it hasUp acc p := by
  intro fuel
  induction fuel with
  | zero => intro it hasUp acc; rfl
  | succ fuel ih =>
    intro it hasUp acc
    cases hfr : it.fullRoot tt with
    | mk full r =>
      cases full with
      | false => rw [upgradeLoop_done hfr, upgradeLoop_done hfr]
      | true =>
        by_cases hs : r.index + r.factor / 2 < frm
        · rw [upgradeLoop_skip hfr hs, upgradeLoop_skip hfr hs]
          exact ih _ _ _
        · cases hc : (!hasUp && r.contains (frm - 2)) with
          | true =>
            rw [upgradeLoop_connect hfr hs hc, upgradeLoop_connect hfr hs hc,
              connectWalk_nosub t f ix sk sub _ _ p hp]
            -- the walk leaves the local proof as it is
            cases hq : t.connectWalk f false none false 0 r.index (frm - 2) 80 (Iter.new (frm - 2)) acc p with
            | error e => rfl
            | ok w =>
              rw [ok_andThen, ok_andThen, connectWalk_keeps t f _ _ p _ _ _ w hq]
              exact ih _ _ _
          | false =>
            rw [upgradeLoop_send hfr hs hc, upgradeLoop_send hfr hs hc,
              treat_nosub true hp, treat_nosub false (by rfl), andThen_assoc, andThen_assoc]
            exact congrArg _ (funext fun n => ih _ _ _)

/-- `block_and_seek_proof` for block `i` climbs to the node `(k, i / 2^k)` and yields the reference sibling path;
    the fuel 80 of `blockProof_go` is the model's and suffices because `k < 64` -/
theorem blockAndSeekProof_sibPath (C : Crypto) (bs : Array Bytes) (t : Tree) (f : File) (hNodes : NodesOK C bs t f) (hN : bs.size < 2 ^ 64)
    (i k nn sr : Nat) (p : LocalProof) (hk : (i / 2 ^ k + 1) * 2 ^ k ≤ bs.size) :
    t.blockAndSeekProof f (some ⟨true, i * 2, nn, i⟩) false sr (Flat.index k (i / 2 ^ k)) p = .ok { p with nodes := some (sibPath C bs 0 i k) } := by
  have hk64 : k < 64 := Pow2.depth_lt_of_span hk hN
  have hcont : (iat k (i / 2 ^ k)).contains (i * 2) = true := by rw [Nat.mul_comm]; exact iat_anc_contains i k
  have hgo := blockProof_go C bs t f hNodes sr p k 80 0 i [] (Nat.lt_trans hk64 (by decide)) (by rw [Nat.zero_add]; exact hk)
  rw [Nat.zero_add, List.nil_append] at hgo
  simp only [Tree.blockAndSeekProof, new_index k _ (Nat.le_of_lt hk64), hcont, Bool.not_true, Bool.false_eq_true, ite_false, new_even', hgo]

/-- **the writer's answer to "block `i` with `k` nodes and an upgrade from `m`"** (block below `m`, its `k`-th ancestor a
    full node inside the first `m` blocks): the block's reference sibling path and the honest position list with the
    signature -/
theorem create_blockgrowth_proof (C : Crypto) (bs : Array Bytes) (t : Tree) (f : File) (hT : RootsOK C bs t.changeset)
    (hNodes : NodesOK C bs t f) (hN : bs.size < 2 ^ 64) (m : Nat) (hm0 : 0 < m) (hmn : m < bs.size) (sig : Bytes) (hsig : t.signature = some sig)
    (us : List (Nat × Nat)) (hup : Up m 0 (rootsStack bs.size).reverse us) (i k : Nat) (hi : i < m) (hk : (i / 2 ^ k + 1) * 2 ^ k ≤ m) :
    t.createValuelessProof f (some ⟨i, k⟩) none none (some ⟨m, bs.size - m⟩)
      = .ok ⟨t.fork, some ⟨i, sibPath C bs 0 i k⟩, none, none, some ⟨m, bs.size - m, us.map (fun q => nodeAt C bs q.1 q.2), [], sig⟩⟩ := by
  have hk' : (i / 2 ^ k + 1) * 2 ^ k ≤ bs.size := Nat.le_trans hk (Nat.le_of_lt hmn)
  have hk64 : k < 64 := Pow2.depth_lt_of_span hk' hN
  -- the block lies before `m`: its section is computed first, up to the `k`-th ancestor
  have hroot := nodesToRoot_go bs.size k 80 0 i (Nat.le_of_lt (Nat.lt_trans hk64 (by decide))) (by rw [Nat.zero_add]; exact hk')
  rw [Nat.zero_add] at hroot
  have h1 : stage1 t f (indexedOf (some ⟨i, k⟩) none) none (some ⟨m, bs.size - m⟩) (2 * m) (2 * bs.size) (2 * bs.size)
      = .ok (Flat.index k (i / 2 ^ k), { nodes := some (sibPath C bs 0 i k) }, true) := by
    simp only [stage1, indexedOf, Option.isSome_none, Bool.false_and, Bool.false_eq_true, if_false, decide_eq_true hi, if_true,
      nodesToRoot, new_even', hroot, blockAndSeekProof_sibPath C bs t f hNodes hN i k k (2 * bs.size) {} hk']
  -- with a block section in the local proof, the root loop hands nothing over
  obtain ⟨x, rfl⟩ := Nat.exists_eq_add_one_of_ne_zero (Nat.ne_of_gt hm0)
  have hl64 : (rootsStack bs.size).reverse.length < 80 := by
    rw [List.length_reverse]; exact Nat.lt_of_le_of_lt (rootsStack_length_log 64 bs.size hN) (by decide)
  have hloop : t.upgradeLoop f true (some ⟨true, i * 2, k, i⟩) false (2 * (x + 1)) (2 * bs.size) (Flat.index k (i / 2 ^ k)) 80 (iat 0 0) false []
      { nodes := some (sibPath C bs 0 i k) } = .ok (true, us.map (fun q => nodeAt C bs q.1 q.2), { nodes := some (sibPath C bs 0 i k) }) := by
    rw [upgradeLoop_rootWalk hN (cover_roots _) (rootsStack_rev_dec _) (align_zero _) hl64, rootWalk_up hN hmn (cover_roots _) hup,
      treatAll_plain hNodes (up_bound _ _ _ 0 us (cover_roots bs.size) hup) fun _ _ => by rfl]
    rfl
  exact create_of_loop t f (some ⟨i, k⟩) (x + 1) bs.size hT.length hmn hsig h1 (decide_eq_false (Nat.ne_of_gt (Nat.mul_pos (by decide) hm0))).symm hloop
    (fun _ => rfl)

end HC.BlockGrowWriter
