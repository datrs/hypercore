import HC.Proofs.Growth
/-!
Hash requests (C03: "block or hash index that exists"): the replica asks for the hash of tree node `(d₀, o₀)` with
the node count from its own `missing_nodes`; the writer answers with the node and the siblings up to the ancestor
the replica stores; `verify_and_apply_proof` accepts, stores the path (no data, no bitfield change) and the
replica's invariant holds again.  Everything is the block case started at `(d₀, o₀)` instead of a leaf
(`Growth.path_accepts`).  `Act` / `play` / `play_repr` then run growth rounds, block requests and hash requests in any
order — `act_accepts` is the one place where the kinds of act are told apart — and
`create_hash_proof` shows that the writer's `create_valueless_proof` produces the honest hash answer.
-/
namespace HC.HashReq
open HC HC.Codec HC.Flat HC.Tree HC.RefTree HC.RefProof HC.Sound HC.Offsets HC.TreeStore HC.Complete HC.UpgradeSound HC.CreateTotal HC.Replica HC.Growth HC.Pow2

theorem path_commit_closed (C : Crypto) (hC : HashWF C) (bs : Array Bytes) (t : Tree) (f : File) (h : Closed C bs t f)
    (d0 o0 k : Nat) (hstored : t.node? f (Flat.index (d0 + k) (o0 / 2 ^ k)) = some (nodeAt C bs (d0 + k) (o0 / 2 ^ k)))
    (hin : (o0 / 2 ^ k + 1) * 2 ^ (d0 + k) ≤ bs.size) (t' : Tree)
    (hu : t'.unflushed = insertAll t.unflushed (nodeAt C bs d0 o0 :: downPath C bs d0 o0 k))
    (hlen : t'.length = t.length) :
    Closed C bs t' f ∧ t'.node? f (Flat.index d0 o0) = some (nodeAt C bs d0 o0)
      ∧ (∀ d o, t.node? f (Flat.index d o) = some (nodeAt C bs d o) → t'.node? f (Flat.index d o) = some (nodeAt C bs d o)) := by
  obtain ⟨h1, h2⟩ := ((closedAt_full C bs t f).mpr h).insert_path hC d0 o0 k hstored hin t' hu hlen
  exact ⟨(closedAt_full C bs t' f).mp h1, h2⟩

theorem verifyTree_hash_path (C : Crypto) (bs : Array Bytes) (d0 o0 k : Nat) (hd0 : d0 ≤ 64) (cs : Changeset) :
    verifyTree C none (some ⟨Flat.index d0 o0, nodeAt C bs d0 o0 :: sibPath C bs d0 o0 k⟩) none cs
      = .ok (some (nodeAt C bs (d0 + k) (o0 / 2 ^ k)), { cs with rnodes := upPath C bs d0 o0 k ++ nodeAt C bs d0 o0 :: cs.rnodes }) := by
  rw [verifyTree_hash_noSeek C _ none cs rfl]
  dsimp only
  rw [plainQueue_eq, shift_plain (nodeAt C bs d0 o0) _ (Flat.index d0 o0) rfl, ok_andThen, new_index d0 o0 hd0]
  dsimp only
  rw [show (plainQueue (sibPath C bs d0 o0 k)).length = k from sibPath_length C bs d0 o0 k,
    climb_path C bs k (k + 1) d0 o0 _ (Nat.lt_succ_self k), ok_andThen]

theorem hash_changeset_exact (C : Crypto) (bs : Array Bytes) (t : Tree) (f : File) (pk : Bytes) (d0 o0 k fork : Nat) (hd0 : d0 ≤ 64)
    (hstored : t.node? f (Flat.index (d0 + k) (o0 / 2 ^ k)) = some (nodeAt C bs (d0 + k) (o0 / 2 ^ k))) :
    t.verifyProof C f ⟨fork, none, some ⟨Flat.index d0 o0, nodeAt C bs d0 o0 :: sibPath C bs d0 o0 k⟩, none, none⟩ pk
      = .ok { t.changeset with rnodes := upPath C bs d0 o0 k ++ [nodeAt C bs d0 o0] } :=
  (verifyProof_ok_iff ..).mpr ⟨_, _, verifyTree_hash_path C bs d0 o0 k hd0 t.changeset, Or.inl ⟨rfl, rfl, stored_root_ok t f _ hstored⟩⟩

/-- the honest answer to "hash of tree node `(d₀, o₀)`, as many nodes as I am missing" -/
def honestHash (C : Crypto) (bs : Array Bytes) (c : Core) (d : Disk) (d0 o0 : Nat) : Proof :=
  ⟨c.tree.fork, none, some ⟨Flat.index d0 o0, nodeAt C bs d0 o0 :: sibPath C bs d0 o0 (c.tree.missingNodes d.tree (Flat.index d0 o0))⟩, none, none⟩

/-- the honest hash answer is accepted -/
theorem hash_accepts {C : Crypto} (hC : HashWF C) {bs : Array Bytes} {m : Nat} {c : Core} {d : Disk} {held : Nat → Bool}
    (h : RepRAt C bs m c d held) {d0 o0 : Nat} (hin0 : (o0 + 1) * 2 ^ d0 ≤ m) :
    ∃ cs : Changeset, Accepts C bs m c d (honestHash C bs c d d0 o0) cs { c.tree with unflushed := insertAll c.tree.unflushed cs.nodes } none
      ∧ Loggable C c cs ∧ cs.upgraded = false := by
  obtain ⟨hstored, hin, hd0⟩ := missingNodes_spec_node C bs m c.tree d.tree h.closed.sparse (Nat.lt_of_le_of_lt h.le h.small.1) d0 o0 hin0
  obtain ⟨cs, a, l, hup, _⟩ := path_accepts hC h (blk := none) rfl (hash_changeset_exact C bs c.tree d.tree c.publicKey d0 o0 _ c.tree.fork hd0 hstored)
    hstored hin (Core.dataStep_none c d _ _ rfl) nofun
  exact ⟨cs, a, l, hup⟩

theorem apply_hash (C : Crypto) (hC : HashWF C) (bs : Array Bytes) (c : Core) (d : Disk) (held : Nat → Bool) (h : RepR C bs c d held)
    (d0 o0 : Nat) (hin0 : (o0 + 1) * 2 ^ d0 ≤ bs.size) :
    (c.verifyAndApply C d (honestHash C bs c d d0 o0)).result = .ok true
      ∧ RepR C bs (c.verifyAndApply C d (honestHash C bs c d d0 o0)).core
          (d.applyAll (c.verifyAndApply C d (honestHash C bs c d d0 o0)).journal) held
      ∧ (c.verifyAndApply C d (honestHash C bs c d d0 o0)).core.publicKey = c.publicKey
      ∧ (c.verifyAndApply C d (honestHash C bs c d d0 o0)).core.tree.fork = c.tree.fork := by
  have hr := (reprAt_full C bs c d held).mpr h
  obtain ⟨cs, a, _⟩ := hash_accepts hC hr hin0
  obtain ⟨r1, r2, r3, r4⟩ := a.applied hC hr (Nat.le_refl _) hr.le
  exact ⟨r1, (reprAt_full C bs _ _ held).mp r2, r4, r3⟩

/-! ### growth rounds, block requests and hash requests, in any order -/

/-- what the replica does next: upgrade to the writer's current length `n`, fetch block `i`, or ask for the hash of the
    tree node at depth `d`, offset `o` -/
inductive Act
  | grow (n : Nat) (us : List (Nat × Nat)) (sig : Bytes)
  | fetch (i : Nat)
  | hash (d o : Nat)

def actProof (C : Crypto) (bs : Array Bytes) (c : Core) (d : Disk) : Act → Proof
  | .grow n us sig => honestGrowth C bs c.tree.fork c.tree.length n us sig
  | .fetch i => honestBlock C bs c d i
  | .hash d0 o0 => honestHash C bs c d d0 o0

def play (C : Crypto) (bs : Array Bytes) : Core × Disk → List Act → Core × Disk
  | s, [] => s
  | (c, d), a :: r =>
    play C bs ((c.verifyAndApply C d (actProof C bs c d a)).core, d.applyAll (c.verifyAndApply C d (actProof C bs c d a)).journal) r

def playResults (C : Crypto) (bs : Array Bytes) : Core × Disk → List Act → List (R Bool)
  | _, [] => []
  | (c, d), a :: r =>
    (c.verifyAndApply C d (actProof C bs c d a)).result ::
      playResults C bs ((c.verifyAndApply C d (actProof C bs c d a)).core, d.applyAll (c.verifyAndApply C d (actProof C bs c d a)).journal) r

/-- the acts are honest: lengths only grow and stay inside the log, every upgrade carries an honest position list and
    a signature of the writer for that length, every block index and every tree node lies inside the replica's
    current length -/
def OkActs (C : Crypto) (bs : Array Bytes) (pk : Bytes) (fork : Nat) : Nat → List Act → Prop
  | _, [] => True
  | m, .grow n us sig :: r => m < n ∧ n ≤ bs.size ∧ Up m 0 (rootsStack n).reverse us ∧ sig.length = 64
      ∧ C.verify pk (signableAt C bs n fork) sig = true ∧ OkActs C bs pk fork n r
  | m, .fetch i :: r => i < m ∧ OkActs C bs pk fork m r
  | m, .hash d0 o0 :: r => (o0 + 1) * 2 ^ d0 ≤ m ∧ OkActs C bs pk fork m r

def lenAfter : Nat → List Act → Nat
  | m, [] => m
  | _, .grow n _ _ :: r => lenAfter n r
  | m, .fetch _ :: r => lenAfter m r
  | m, .hash _ _ :: r => lenAfter m r

def fetched : List Act → Nat → Bool
  | [], _ => false
  | .grow _ _ _ :: r, j => fetched r j
  | .fetch i :: r, j => j == i || fetched r j
  | .hash _ _ :: r, j => fetched r j

/-! A list of acts is run act by act: `OkActs`, `lenAfter` and `fetched` of `a :: r` in terms of `[a]` and `r`. -/

theorem okActs_cons {C : Crypto} {bs : Array Bytes} {pk : Bytes} {fork m : Nat} {a : Act} {r : List Act}
    (h : OkActs C bs pk fork m (a :: r)) : OkActs C bs pk fork m [a] ∧ OkActs C bs pk fork (lenAfter m [a]) r := by
  cases a with
  | grow n us sig => exact ⟨⟨h.1, h.2.1, h.2.2.1, h.2.2.2.1, h.2.2.2.2.1, trivial⟩, h.2.2.2.2.2⟩
  | fetch i => exact ⟨⟨h.1, trivial⟩, h.2⟩
  | hash d0 o0 => exact ⟨⟨h.1, trivial⟩, h.2⟩

theorem le_lenAfter {C : Crypto} {bs : Array Bytes} {pk : Bytes} {fork m : Nat} {a : Act} (h : OkActs C bs pk fork m [a]) :
    m ≤ lenAfter m [a] := by
  cases a with
  | grow n us sig => exact Nat.le_of_lt h.1
  | fetch i => exact Nat.le_refl _
  | hash d0 o0 => exact Nat.le_refl _

theorem lenAfter_cons (m : Nat) (a : Act) (r : List Act) : lenAfter m (a :: r) = lenAfter (lenAfter m [a]) r := by
  cases a <;> rfl

theorem fetched_cons (held : Nat → Bool) (a : Act) (r : List Act) :
    (fun j => held j || fetched (a :: r) j) = fun j => (held j || fetched [a] j) || fetched r j := by
  funext j
  cases a
  · exact congrArg (held j || ·) (Bool.false_or _).symm |>.trans (Bool.or_assoc ..).symm
  · exact congrArg (held j || ·) (congrArg (· || fetched r j) (Bool.or_false _).symm) |>.trans (Bool.or_assoc ..).symm
  · exact congrArg (held j || ·) (Bool.false_or _).symm |>.trans (Bool.or_assoc ..).symm

/-- **every honest act is an accepted proof**: the one place where the kinds of act are told apart -/
theorem act_accepts {C : Crypto} (hC : HashWF C) {bs : Array Bytes} {m : Nat} {c : Core} {d : Disk} {held : Nat → Bool}
    (h : RepRAt C bs m c d held) (hm0 : 0 < m) {a : Act} (hok : OkActs C bs c.publicKey c.tree.fork m [a]) :
    ∃ cs tr blk, Accepts C bs (lenAfter m [a]) c d (actProof C bs c d a) cs tr blk ∧ Loggable C c cs
      ∧ heldWith held blk = (fun j => held j || fetched [a] j) ∧ lenAfter m [a] ≤ bs.size := by
  obtain rfl : c.tree.length = m := h.closed.sparse.length
  cases a with
  | grow n us sig =>
    obtain ⟨o1, o2, o3, o4, o5, _⟩ := hok
    obtain ⟨cs, a, l, _⟩ := growth_accepts hC h hm0 o1 o2 o3 o4 o5
    exact ⟨cs, _, none, a, l, funext fun j => (Bool.or_false _).symm, o2⟩
  | fetch i =>
    obtain ⟨cs, a, l, _⟩ := block_accepts hC h hok.1
    exact ⟨cs, _, some i, a, l, funext fun j => congrArg (held j || ·) (Bool.or_false _).symm, h.le⟩
  | hash d0 o0 =>
    obtain ⟨cs, a, l, _⟩ := hash_accepts hC h hok.1
    exact ⟨cs, _, none, a, l, funext fun j => (Bool.or_false _).symm, h.le⟩

theorem play_repr (C : Crypto) (hC : HashWF C) (bs : Array Bytes) (pk : Bytes) (fork : Nat) :
    ∀ (acts : List Act) (m : Nat) (c : Core) (d : Disk) (held : Nat → Bool), RepRAt C bs m c d held → 0 < m →
      c.publicKey = pk → c.tree.fork = fork → OkActs C bs pk fork m acts →
      RepRAt C bs (lenAfter m acts) (play C bs (c, d) acts).1 (play C bs (c, d) acts).2 (fun j => held j || fetched acts j)
        ∧ playResults C bs (c, d) acts = acts.map (fun _ => .ok true) := by
  intro acts
  induction acts with
  | nil =>
    intro m c d held h _ _ _ _
    rw [show (fun j => held j || fetched [] j) = held from funext fun j => Bool.or_false _]
    exact ⟨h, rfl⟩
  | cons a r ih =>
    intro m c d held h hm0 hpk hfk hok
    subst hpk hfk
    obtain ⟨ok1, okr⟩ := okActs_cons hok
    obtain ⟨cs, tr, blk, a', _, hheld, hn⟩ := act_accepts hC h hm0 ok1
    obtain ⟨r1, r2, r3, r4⟩ := a'.applied hC h (le_lenAfter ok1) hn
    rw [hheld] at r2
    obtain ⟨q1, q2⟩ := ih _ _ _ _ r2 (Nat.lt_of_lt_of_le hm0 (le_lenAfter ok1)) r4 r3 okr
    rw [lenAfter_cons, fetched_cons]
    exact ⟨q1, congrArg₂ List.cons r1 q2⟩

/-- the writer's answer to a hash request (80 is the model's fuel for both climbs; `d0 + k < 64`) -/
theorem create_hash_proof (C : Crypto) (bs : Array Bytes) (t : Tree) (f : File) (hT : RootsOK C bs t.changeset)
    (hN : NodesOK C bs t f) (hs : bs.size < 2 ^ 64) (d0 o0 k : Nat) (hd0 : d0 ≤ 64)
    (hk : (o0 / 2 ^ k + 1) * 2 ^ (d0 + k) ≤ bs.size) :
    t.createValuelessProof f none (some ⟨Flat.index d0 o0, k⟩) none none
      = .ok ⟨t.fork, none, some ⟨Flat.index d0 o0, nodeAt C bs d0 o0 :: sibPath C bs d0 o0 k⟩, none, none⟩ := by
  have hlen : t.length = bs.size := hT.length
  have hk64 : d0 + k < 64 := depth_lt_of_span hk hs
  have hnew : Iter.new (Flat.index d0 o0) = iat d0 o0 := new_index d0 o0 hd0
  have hnewroot : Iter.new (Flat.index (d0 + k) (o0 / 2 ^ k)) = iat (d0 + k) (o0 / 2 ^ k) := new_index _ _ (Nat.le_of_lt hk64)
  have hgo := blockProof_go C bs t f hN (2 * t.length) {} k 80 d0 o0 [nodeAt C bs d0 o0] (by omega) hk
  have h0 : ¬ (0 ≥ 2 * t.length ∨ 2 * t.length > 2 * t.length) := by
    have : 0 < (o0 / 2 ^ k + 1) * 2 ^ (d0 + k) := Nat.mul_pos (Nat.succ_pos _) (pow_pos' _)
    omega
  have hntr : nodesToRoot (Flat.index d0 o0) k (2 * t.length) = .ok (Flat.index (d0 + k) (o0 / 2 ^ k)) := by
    simp only [nodesToRoot, hnew, hlen, nodesToRoot_go bs.size k 80 d0 o0 (by omega) hk]
  have hself : t.requiredNode f (Flat.index d0 o0) = .ok (nodeAt C bs d0 o0) :=
    UpgradeComplete.requiredNode_ok C bs t f hN d0 o0 (Nat.le_trans (span_le o0 d0 k) hk)
  have hbsp : t.blockAndSeekProof f (some ⟨false, Flat.index d0 o0, k, rightSpan (Flat.index d0 o0) / 2⟩) false (2 * t.length)
      (Flat.index (d0 + k) (o0 / 2 ^ k)) {} = .ok { nodes := some (nodeAt C bs d0 o0 :: sibPath C bs d0 o0 k) } := by
    simp only [Tree.blockAndSeekProof, hnewroot, iat_contains_anc, Bool.not_true, Bool.false_eq_true, ite_false, hnew, hself, Bool.not_false, ite_true, hgo]
    simp
  unfold Tree.createValuelessProof
  simp only [h0, ite_false, Option.isSome_none, Bool.false_and, Bool.false_eq_true, ite_true, hntr, hbsp, Bool.not_true]

end HC.HashReq
