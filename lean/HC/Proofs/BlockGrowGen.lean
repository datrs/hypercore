import HC.Proofs.ReplicaReopen
import HC.Proofs.BlockNew
import HC.Proofs.BlockNewOffset
/-!
A block **together with an upgrade**, at core level (C03), for **any** accepted proof that carries both (`Accepted`: what
`verify_proof` returned and what it is known to satisfy): `verify_and_apply_proof` writes the block's bytes at the
writer's byte offset, logs one entry that carries the nodes, the upgrade and the bitfield update, and reaches a core that
represents the first `n` blocks with the block held; the entry replays to exactly that core, so the step keeps the ghost
invariant of `ReplicaReopen` (`StepOK`), survives a reopen and is crash-atomic (all by `Accepted.accepts`: such a proof is
an accepted proof in the sense of `Growth.Accepts`).  Its instance for a block of the new part
(`m ≤ i < n`, in particular the next block `i = m` of a live download) is here; the one for a block the replica could
already have asked for (`i < m`) is `BlockGrow`.  The core reached and the replay of its entry (`BlockGrow.blockGrowCore`,
`replay_blockgrow`) come first, in that namespace.
-/
namespace HC.BlockGrow
open HC HC.Codec HC.Flat HC.Tree HC.RefTree HC.RefProof HC.Sound HC.Offsets HC.TreeStore HC.Complete HC.UpgradeSound HC.CreateTotal
  HC.Replica HC.Growth HC.HashReq HC.Oplog HC.Core HC.OplogBytes HC.FormatLimits HC.BitfieldPages HC.Touch HC.ReplicaReopen

/-- the core after the commit of the combined proof, before the periodic flush -/
def blockGrowCore (c : Core) (cs : Changeset) (i : Nat) : Core :=
  { c with oplog := (Oplog.appendEntry c.oplog (Core.entryOf cs (some ⟨false, i, 1⟩) c.header).1).1, header := Core.updateContiguous (Core.entryOf cs (some ⟨false, i, 1⟩) c.header).2 (c.bitfield.setRange i 1 true) ⟨false, i, 1⟩, bitfield := c.bitfield.setRange i 1 true, tree := { c.tree with roots := cs.roots, length := cs.length, byteLength := cs.byteLength, fork := cs.fork, signature := cs.signature, unflushed := insertAll c.tree.unflushed cs.nodes } }

def blockGrowJournal (bs : Array Bytes) (c : Core) (cs : Changeset) (i : Nat) : List SOp :=
  [SOp.write .data (psum bs i) (bs.getD i [])] ++ (Oplog.appendEntry c.oplog (Core.entryOf cs (some ⟨false, i, 1⟩) c.header).1).2

/-- replaying the combined entry: nodes, then the bitfield update, then `truncate` + commit for the upgrade.  It gives
    the header of `blockGrowCore` because `updateContiguous` changes the `contiguous` field only
    (`updateContiguous_tree`, `updateContiguous_only`), so it commutes with setting the header's tree fields. -/
theorem replay_blockgrow (C : Crypto) (bs : Array Bytes) (d : Disk) (c : Core) (ol : Oplog.State) (b : Bitfield) (cs : Changeset) (n i : Nat)
    (sig : Bytes) (hn : n < 2 ^ 64) (hroots : cs.roots = rootsAt C bs n) (hlen : cs.length = n) (hbytes : cs.byteLength = psum bs n)
    (hsig : cs.signature = some sig) (hsl : sig.length = 64) (hup : cs.upgraded = true) (hanc : cs.ancestors = c.tree.length)
    (hhash : cs.hash = some (rootsHash C cs.roots)) (hfork : cs.fork = c.tree.fork) (hcur : Reopen.AllRef C bs c.tree.roots)
    (hR : ∀ p ∈ rootsStack n, (blockGrowCore c cs i).tree.node? d.tree (Flat.index p.1 p.2) = some (nodeAt C bs p.1 p.2))
    (hb : ∀ j, b.get j = c.bitfield.get j) (hc : FirstMissing c.bitfield c.header.contiguous) :
    replayEntry C d (ol, c.header, c.tree, b) (Core.entryOf cs (some ⟨false, i, 1⟩) c.header).1
      = .ok (ol, (blockGrowCore c cs i).header, (blockGrowCore c cs i).tree, b.setRange i 1 true) := by
  have htp := treePart_entryOf C d (some ⟨false, i, 1⟩) c.header (fun hu => by rw [hup] at hu; cases hu)
    (fun _ => ⟨rfl, sig, hsl, hsig, hhash, Nat.le_of_eq hanc.symm⟩) hn hroots hlen hbytes hR hcur
  exact (replay_of_treePart C d (some i) ol htp hb hc).trans (by rw [bitOf_entryOf]; rfl)

end HC.BlockGrow

namespace HC.BlockGrowGen
open HC HC.Codec HC.Flat HC.Tree HC.RefTree HC.RefProof HC.Sound HC.Offsets HC.TreeStore HC.Complete HC.UpgradeSound HC.CreateTotal
  HC.Replica HC.Growth HC.HashReq HC.Oplog HC.Core HC.OplogBytes HC.FormatLimits HC.BitfieldPages HC.Touch HC.ReplicaReopen HC.BlockGrow HC.Pow2

/-- what is known about a proof `p` with block `i` and an upgrade to `n` that `verify_proof` accepted with changeset `cs`;
    `B` bounds the number of nodes the entry will carry (the log format wants at most `2^22`) -/
structure Accepted (C : Crypto) (bs : Array Bytes) (n : Nat) (c : Core) (d : Disk) (p : Proof) (i : Nat) (cs : Changeset) (sig : Bytes) (B : Nat) : Prop where
  fork : p.fork = c.tree.fork
  block : ∃ nodes, p.block = some ⟨i, bs.getD i [], nodes⟩
  verified : c.tree.verifyProof C d.tree p c.publicKey = .ok cs
  closed : ClosedAt C bs n (vt c.tree cs) d.tree
  roots : cs.roots = rootsAt C bs n
  length : cs.length = n
  bytes : cs.byteLength = psum bs n
  nodesRef : ∀ x ∈ cs.nodes, ∃ dd o, x = nodeAt C bs dd o ∧ (o + 1) * 2 ^ dd ≤ n
  upgraded : cs.upgraded = true
  signature : cs.signature = some sig
  csfork : cs.fork = c.tree.fork
  commitable : c.tree.commitable cs = true
  ancestors : cs.ancestors = c.tree.length
  origLength : cs.origLength = c.tree.length
  hash : cs.hash = some (rootsHash C cs.roots)
  offset : c.tree.byteOffsetInChangeset d.tree i cs = .ok (psum bs i)
  leaf : nodeAt C bs 0 i ∈ cs.nodes
  count : cs.nodes.length ≤ B

/-- an accepted block + upgrade proof is an accepted proof in the sense of `Growth.Accepts` -/
theorem Accepted.accepts {C : Crypto} {bs : Array Bytes} {n : Nat} {c : Core} {d : Disk} {p : Proof} {i : Nat} {cs : Changeset} {sig : Bytes}
    {B : Nat} (acc : Accepted C bs n c d p i cs sig B) (hi : i < n) : Accepts C bs n c d p cs (blockGrowCore c cs i).tree (some i) := by
  obtain ⟨bnodes, hb⟩ := acc.block
  exact ⟨acc.fork, acc.verified, Tree.commit_upgrade c.tree cs acc.commitable acc.upgraded (by rw [acc.origLength, acc.ancestors]),
    dataStep_at c d p cs i _ _ bnodes hb acc.offset, fun j hj => by cases hj; exact ⟨hi, acc.leaf⟩, acc.nodesRef,
    closedAt_of_vt C bs n c.tree _ d.tree cs acc.closed rfl rfl, acc.roots, acc.bytes, acc.csfork⟩

theorem core_of_accepted (C : Crypto) (hC : HashWF C) (bs : Array Bytes) (m n : Nat) (c : Core) (d : Disk) (held : Nat → Bool)
    (h : RepRAt C bs m c d held) (hmn : m ≤ n) (hn : n ≤ bs.size) (p : Proof) (i : Nat) (hi : i < n) (cs : Changeset) (sig : Bytes) (B : Nat)
    (acc : Accepted C bs n c d p i cs sig B) :
    c.verifyAndApply C d p
        = { core := (blockGrowCore c cs i).maybeFlush.1, result := .ok true,
            journal := blockGrowJournal bs c cs i ++ (blockGrowCore c cs i).maybeFlush.2,
            events := Core.appliedEvents p (some ⟨false, i, 1⟩) }
      ∧ RepRAt C bs n (blockGrowCore c cs i) (d.applyAll (blockGrowJournal bs c cs i)) (fun j => held j || j == i) := by
  have hcore : Core.afterApply c cs (some ⟨false, i, 1⟩) (blockGrowCore c cs i).tree = blockGrowCore c cs i := rfl
  have hs := (acc.accepts hi).step hC h hmn hn
  simp only [buOf, dataOf, hcore] at hs
  exact hs

/-- **every accepted block + upgrade proof of this kind is an exchange step that keeps both invariants** -/
theorem ok_of_accepted (C : Crypto) (hC : HashWF C) (hT : TreeWF C) (bs : Array Bytes) (m n : Nat) (c : Core) (d : Disk) (held : Nat → Bool)
    (h : RP C bs m c d held) (hmn : m ≤ n) (hn : n ≤ bs.size) (p : Proof) (i : Nat) (hi : i < n) (cs : Changeset) (sig : Bytes) (hsl : sig.length = 64)
    (B : Nat) (hB : B ≤ 2 ^ 22) (acc : Accepted C bs n c d p i cs sig B) :
    ∃ c1 e j0, StepOK C bs m n c c1 d held (fun j => held j || j == i) (c.verifyAndApply C d p) e j0 :=
  ⟨_, _, _, (acc.accepts hi).stepOK hC h hmn hn ⟨Nat.le_trans acc.count hB, fun _ => ⟨sig, hsl, acc.signature, acc.hash, acc.ancestors⟩⟩
    (fun _ => hT)⟩

/-- the honest answer to "block `m` (the first one I lack) and upgrade me from `m` to `n`": `a`, `b`, `k` are the split of the
    honest position list around the node that contains block `m` -/
def honestNextBlock (C : Crypto) (bs : Array Bytes) (fork m n : Nat) (a b : List (Nat × Nat)) (k : Nat) (sig : Bytes) : Proof :=
  ⟨fork, some ⟨m, bs.getD m [], Complete.sibPath C bs 0 m k⟩, none, none, some ⟨m, n - m, (a ++ b).map (fun p => nodeAt C bs p.1 p.2), [], sig⟩⟩

/-- the honest answer to "block `i` of the new part and upgrade me from `m` to `n`" -/
def honestNewBlock (C : Crypto) (bs : Array Bytes) (fork i m n : Nat) (a b : List (Nat × Nat)) (k : Nat) (sig : Bytes) : Proof :=
  ⟨fork, some ⟨i, bs.getD i [], Complete.sibPath C bs 0 i k⟩, none, none, some ⟨m, n - m, (a ++ b).map (fun p => nodeAt C bs p.1 p.2), [], sig⟩⟩

/-- **a block of the new part + upgrade, at core level**: the replica of length `m` applies the writer's answer to "block `i`
    (`m ≤ i < n`) and upgrade me to `n`"; the step is an exchange step that keeps both invariants, from length `m` to
    length `n` with block `i` held.  The byte offset of the block is computed under the changeset's node list — the
    block's path followed by the upgrade's nodes — and its new roots (`BlockNewOffset.offset_new_block`). -/
theorem newblock_ok (C : Crypto) (hC : HashWF C) (hT : TreeWF C) (bs : Array Bytes) (m n : Nat) (c : Core) (d : Disk) (held : Nat → Bool)
    (h : RP C bs m c d held) (hm0 : 0 < m) (hmn : m < n) (hn : n ≤ bs.size) (us : List (Nat × Nat))
    (hup : Up m 0 (rootsStack n).reverse us) (sig : Bytes) (hsl : sig.length = 64)
    (hver : C.verify c.publicKey (signableAt C bs n c.tree.fork) sig = true) (i : Nat) (hmi : m ≤ i) (hi : i < n)
    (a b : List (Nat × Nat)) (k : Nat) (hsplit : us = a ++ (k, i / 2 ^ k) :: b) :
    ∃ c1 e j0, StepOK C bs m n c c1 d held (fun j => held j || j == i) (c.verifyAndApply C d (honestNewBlock C bs c.tree.fork i m n a b k sig)) e j0 := by
  have hr := h.rep
  have hN : n < 2 ^ 64 := Nat.lt_of_le_of_lt hn hr.small.1
  -- the entry is small: a path of fewer than 64 levels, at most 64 roots, two nodes per position of the upgrade
  have hk64 : k < 64 :=
    depth_lt_of_span (up_bound m n _ 0 us (cover_roots n) hup (k, i / 2 ^ k) (by rw [hsplit]; exact List.mem_append_right _ (List.mem_cons_self ..))) hN
  have hul := up_length m n hN (rootsStack n).reverse 0 us (cover_roots n) hup
  have hrl := rootsStack_length_log 64 n hN
  rw [List.length_reverse] at hul
  have hB : 64 + 2 * us.length + (2 * k + 1) ≤ 2 ^ 22 := by omega
  obtain ⟨cs', ⟨_, _, hvv, hroots, hlen, hbytes, hupg, hsig, hfork, hcmt, href, hcl, hleaf, hanc, horig, hhash, hcnt⟩, csg, hcs, hinvg, hRin⟩ :=
    BlockNew.honest_new_block_upgrade_accepted_at C hC bs m n c d held hr hm0 hmn hn us hup sig hsl hver i a b k hsplit
  have hoff : c.tree.byteOffsetInChangeset d.tree i cs' = .ok (psum bs i) := by
    rw [hcs]
    exact BlockNewOffset.offset_new_block C hC bs m n c d held hr hn csg hinvg i k hmi hRin
  exact ok_of_accepted C hC hT bs m n c d held h (Nat.le_of_lt hmn) hn _ i hi cs' sig hsl _ hB
    { fork := rfl, block := ⟨_, rfl⟩, verified := hvv, closed := hcl, roots := hroots, length := hlen, bytes := hbytes, nodesRef := href, upgraded := hupg,
      signature := hsig, csfork := hfork, commitable := hcmt, ancestors := hanc, origLength := horig, hash := hhash,
      offset := hoff, leaf := hleaf, count := hcnt }

/-- the next block + upgrade (`i = m`): the live-download step -/
theorem nextblock_ok (C : Crypto) (hC : HashWF C) (hT : TreeWF C) (bs : Array Bytes) (m n : Nat) (c : Core) (d : Disk) (held : Nat → Bool)
    (h : RP C bs m c d held) (hm0 : 0 < m) (hmn : m < n) (hn : n ≤ bs.size) (us : List (Nat × Nat))
    (hup : Up m 0 (rootsStack n).reverse us) (sig : Bytes) (hsl : sig.length = 64)
    (hver : C.verify c.publicKey (signableAt C bs n c.tree.fork) sig = true)
    (a b : List (Nat × Nat)) (k : Nat) (hsplit : us = a ++ (k, m / 2 ^ k) :: b) :
    ∃ c1 e j0, StepOK C bs m n c c1 d held (fun j => held j || j == m) (c.verifyAndApply C d (honestNextBlock C bs c.tree.fork m n a b k sig)) e j0 :=
  newblock_ok C hC hT bs m n c d held h hm0 hmn hn us hup sig hsl hver m (Nat.le_refl _) hmn a b k hsplit

/-- the split exists: block `m` lies under exactly one node of the honest position list -/
theorem nextblock_split (m n : Nat) (hmn : m < n) (us : List (Nat × Nat)) (hup : Up m 0 (rootsStack n).reverse us) :
    ∃ (a b : List (Nat × Nat)) (k : Nat), us = a ++ (k, m / 2 ^ k) :: b :=
  BlockNew.split_exists m n us hup m (Nat.le_refl _) hmn

end HC.BlockGrowGen
