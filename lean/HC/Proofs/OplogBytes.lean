import HC.Proofs.Layout
import HC.Proofs.Rotation
import HC.Proofs.CoreEqs
/-!
The byte layer of the oplog: a file `slot0 ++ slot1 ++ frames` *abstracts to* a `Rotation.Log`, and
`Oplog::open` on the bytes is the reader's rule `Rotation.Log.open` on the abstraction.  This composes
the protocol theorems (`Rotation.Inv`: appends and flushes keep the reader's view exact) with the
encodings (`Frame`, `OplogCodec`).

`AbsLog bytes l` is that relation.  What each storage operation of the oplog does to it — a header write into
either slot, the same write torn, the cut at 8192, an entry written at the end — is proved once; the invariant
`OpInv` (`AbsLog`, `Rotation.Inv` and the byte count of the entries) then follows the journals of
`insert_header`, `flush` and `append` by the corresponding steps of the protocol.
-/
namespace HC.OplogBytes
open HC HC.Codec HC.Oplog HC.Rotation

/-- the entry frames, one after the other, each with its own header bit and partial flag -/
def framesBytes (fs : List (Rotation.Frame Entry)) : Bytes :=
  (fs.map fun f => frame (encEntry f.entry) f.bit f.partial_).flatten

/-- a 4096-byte slot that holds header `h` with bit `b` (followed by anything), or does not validate -/
def SlotIs (s : Bytes) : Option (Bool × Header) → Prop
  | some (b, h) => (∃ rest, s = frame (encHeader h) b false ++ rest) ∧ h.WF ∧ (encHeader h).length < 2 ^ 30
  | none => validateLeader s = none

def EntryOK (e : Entry) : Prop := e.WF ∧ (encEntry e).length < 2 ^ 30

theorem validateLeader_nil : validateLeader [] = none := by simp [validateLeader]

theorem slot_validate (s : Bytes) (b : Bool) (h : Header) (hs : SlotIs s (some (b, h))) :
    ∃ rest, validateLeader s = some ⟨b, false, (encHeader h).length, encHeader h ++ rest⟩ := by
  obtain ⟨⟨rest, rfl⟩, _, hlen⟩ := hs
  exact ⟨rest, validateLeader_frame _ _ b false (encHeader_pos h) hlen⟩

theorem framesBytes_cons (f : Rotation.Frame Entry) (fs : List (Rotation.Frame Entry)) :
    framesBytes (f :: fs) = frame (encEntry f.entry) f.bit f.partial_ ++ framesBytes fs := rfl

theorem framesBytes_append (fs : List (Rotation.Frame Entry)) (f : Rotation.Frame Entry) :
    framesBytes (fs ++ [f]) = framesBytes fs ++ frame (encEntry f.entry) f.bit f.partial_ := by
  simp [framesBytes]

theorem frames_length_le (fs : List (Rotation.Frame Entry)) : fs.length ≤ (framesBytes fs).length := by
  induction fs with
  | nil => exact Nat.le_refl 0
  | cons f rest ih =>
    rw [framesBytes_cons, List.length_append, frame_length, List.length_cons, Nat.add_comm]
    exact Nat.add_le_add (Nat.le_trans (by decide : 1 ≤ 8) (Nat.le_add_right _ _)) ih

theorem framesBytes_takeBit_le (cur : Bool) (fs : List (Rotation.Frame Entry)) :
    (framesBytes (takeBit cur fs)).length ≤ (framesBytes fs).length := by
  induction fs with
  | nil => exact Nat.le_refl 0
  | cons f rest ih =>
    by_cases hb : f.bit = cur
    · rw [takeBit_cons_pos hb, framesBytes_cons, framesBytes_cons, List.length_append, List.length_append]
      exact Nat.add_le_add_left ih _
    · rw [takeBit_cons_neg hb]
      exact Nat.zero_le _

/-- reading entries: the frames that carry the current bit, up to the first one that does not; a tail that is
    no frame (nothing, or a torn frame) or a frame of the other bit ends the reading too -/
theorem readEntries_frames_tail (cur : Bool) (fs : List (Rotation.Frame Entry)) (hok : ∀ f ∈ fs, EntryOK f.entry)
    (tail : Bytes) (ht : validateLeader tail = none ∨ ∃ l, validateLeader tail = some l ∧ l.headerBit ≠ cur) :
    ∀ fuel, fs.length < fuel →
      readEntries cur fuel (framesBytes fs ++ tail)
        = .ok ((takeBit cur fs).map (fun f => (f.entry, f.partial_)), (framesBytes (takeBit cur fs)).length) := by
  induction fs with
  | nil =>
    intro fuel hf
    obtain ⟨fuel, rfl⟩ := Nat.exists_eq_succ_of_ne_zero (Nat.ne_zero_of_lt hf)
    exact readEntries_stop cur fuel tail ht
  | cons f rest ih =>
    intro fuel hf
    obtain ⟨fuel, rfl⟩ := Nat.exists_eq_succ_of_ne_zero (Nat.ne_zero_of_lt hf)
    have hw := hok f List.mem_cons_self
    rw [framesBytes_cons, List.append_assoc]
    by_cases hb : f.bit = cur
    · subst hb
      rw [takeBit_cons_pos rfl, framesBytes_cons, List.map_cons, List.length_append, frame_length,
        Nat.add_comm (8 + (encEntry f.entry).length)]
      exact readEntries_frame f.bit fuel f.entry f.partial_ _ _ _ hw.1 hw.2
        (ih (fun g hg => hok g (List.mem_cons_of_mem _ hg)) fuel (Nat.lt_of_succ_lt_succ hf))
    · rw [takeBit_cons_neg hb]
      exact readEntries_stop cur fuel _ (.inr ⟨_, validateLeader_frame _ _ _ _ (encEntry_pos _) hw.2, hb⟩)

theorem readEntries_frames (cur : Bool) (fs : List (Rotation.Frame Entry)) (hok : ∀ f ∈ fs, EntryOK f.entry) :
    ∀ fuel, fs.length < fuel →
      ∃ n, readEntries cur fuel (framesBytes fs) = .ok ((takeBit cur fs).map (fun f => (f.entry, f.partial_)), n)
        ∧ n = (framesBytes (takeBit cur fs)).length := by
  intro fuel hf
  have := readEntries_frames_tail cur fs hok [] (.inl validateLeader_nil) fuel hf
  rw [List.append_nil] at this
  exact ⟨_, this, rfl⟩

/-- the model drops trailing partial entries from pairs, the protocol from frames: the same list -/
theorem dropTP_pairs (l : List (Rotation.Frame Entry)) :
    Oplog.dropTrailingPartial (l.map fun f => (f.entry, f.partial_))
      = (Rotation.dropTrailingPartial l).map fun f => (f.entry, f.partial_) := by
  induction l with
  | nil => rfl
  | cons f rest ih =>
    simp only [List.map_cons, Oplog.dropTrailingPartial, Rotation.dropTrailingPartial, ih]
    cases Rotation.dropTrailingPartial rest with
    | nil => simp only [List.map_nil]; split <;> rfl
    | cons x xs => rfl

theorem dropTP_map (l : List (Rotation.Frame Entry)) :
    (Oplog.dropTrailingPartial (l.map fun f => (f.entry, f.partial_))).map (·.1)
      = (Rotation.dropTrailingPartial l).map (·.entry) := by
  rw [dropTP_pairs, List.map_map]; rfl

/-- what `Oplog::open` cuts off: everything behind the entries that carry the current header bit -/
def truncOpsT (cur : Bool) (fs : List (Rotation.Frame Entry)) (extra : Nat) : List SOp :=
  if (framesBytes fs).length + extra > (framesBytes (takeBit cur fs)).length
  then [SOp.trunc .oplog (Spec.entriesOffset + (framesBytes (takeBit cur fs)).length)] else []

def truncOps (cur : Bool) (fs : List (Rotation.Frame Entry)) : List SOp :=
  if (framesBytes fs).length > (framesBytes (takeBit cur fs)).length
  then [SOp.trunc .oplog (Spec.entriesOffset + (framesBytes (takeBit cur fs)).length)] else []

theorem truncOpsT_zero (cur : Bool) (fs : List (Rotation.Frame Entry)) : truncOpsT cur fs 0 = truncOps cur fs := rfl

theorem truncOpsT_store (cur : Bool) (fs : List (Rotation.Frame Entry)) (extra : Nat) : ∀ op ∈ truncOpsT cur fs extra, op.store = .oplog := by
  intro op hop
  unfold truncOpsT at hop
  split at hop
  · rw [List.mem_singleton.mp hop]; rfl
  · cases hop

theorem truncOps_all (b : Bool) (es : List Entry) : truncOps b (es.map (mk b)) = [] := by
  simp [truncOps, Rotation.takeBit_all]

theorem truncOpsT_apply (f : File) (cur : Bool) (fs : List (Rotation.Frame Entry)) (extra : Nat)
    (hsz : f.size = Spec.entriesOffset + (framesBytes fs).length + extra) :
    ((truncOpsT cur fs extra).foldl (fun g op => op.onFile g) f).toList
      = f.toList.take (Spec.entriesOffset + (framesBytes (takeBit cur fs)).length) := by
  unfold truncOpsT
  split
  · show (f.truncate _).toList = _
    exact File.toList_truncate_le f _
      (hsz ▸ Nat.le_trans (Nat.add_le_add_left (framesBytes_takeBit_le cur fs) _) (Nat.le_add_right _ _))
  · rename_i h
    show f.toList = _
    exact (List.take_of_length_le (by
      rw [File.toList_length, hsz, Nat.add_assoc]; exact Nat.add_le_add_left (Nat.le_of_not_gt h) _)).symm

theorem decHeader_ite (c : Bool) (a b : Header) (ha : a.WF) (hb : b.WF) (ra rb : Bytes) :
    decHeader (if c then encHeader a ++ ra else encHeader b ++ rb) = .ok (if c then a else b, if c then ra else rb) := by
  cases c
  · exact decHeader_enc b hb rb
  · exact decHeader_enc a ha ra

/-- the header part of `Oplog::open`: on two 4096-byte slots that are what `c0` and `c1` say, the bits and the
    header are those of the reader's rule, whatever the entry region `R` holds -/
theorem openLog_slots (s0 s1 R : Bytes) (c0 c1 : Option (Bool × Header)) (fs : List (Rotation.Frame Entry))
    (l0 : s0.length = Spec.headerSize) (l1 : s1.length = Spec.headerSize) (h0 : SlotIs s0 c0) (h1 : SlotIs s1 c1)
    (bits : Bits) (h : Header) (es : List Entry)
    (hopen : (⟨c0, c1, fs⟩ : Rotation.Log Header Entry).open = some (bits, h, es)) :
    openLog none (s0 ++ s1 ++ R) = readLog ⟨{ bits := (bits.b0, bits.b1) }, h, [], []⟩ (s0 ++ s1 ++ R)
      ∧ es = seen bits.cur fs := by
  have t0 : (s0 ++ s1 ++ R).take Spec.headerSize = s0 := by rw [List.append_assoc]; exact List.take_left' l0
  have t1 : ((s0 ++ s1 ++ R).drop Spec.headerSize).take Spec.headerSize = s1 := by
    rw [List.append_assoc, List.drop_left' l0]; exact List.take_left' l1
  have hlen : (s0 ++ s1 ++ R).length = 2 * Spec.headerSize + R.length := by
    rw [List.length_append, List.length_append, l0, l1, Nat.two_mul]
  have c2' : ¬ (s0 ++ s1 ++ R).length < 2 * Spec.headerSize := hlen ▸ Nat.not_lt.mpr (Nat.le_add_right _ _)
  have c1' : ¬ (s0 ++ s1 ++ R).length < Spec.headerSize :=
    fun h => c2' (Nat.lt_of_lt_of_le h (Nat.le_mul_of_pos_left _ Nat.two_pos))
  unfold openLog
  simp only [c1', c2', ite_false, t0, t1]
  cases c0 with
  | none =>
    have hv0 : validateLeader s0 = none := h0
    cases c1 with
    | none => cases hopen
    | some p1 =>
      obtain ⟨b1, hh1⟩ := p1
      obtain ⟨r1, hv1⟩ := slot_validate s1 b1 hh1 h1
      cases hopen
      exact ⟨by simp only [hv0, hv1, decHeader_enc h h1.2.1], rfl⟩
  | some p0 =>
    obtain ⟨b0, hh0⟩ := p0
    obtain ⟨r0, hv0⟩ := slot_validate s0 b0 hh0 h0
    cases c1 with
    | none =>
      have hv1 : validateLeader s1 = none := h1
      cases hopen
      exact ⟨by simp only [hv0, hv1, decHeader_enc h h0.2.1], rfl⟩
    | some p1 =>
      obtain ⟨b1, hh1⟩ := p1
      obtain ⟨r1, hv1⟩ := slot_validate s1 b1 hh1 h1
      cases hopen
      exact ⟨by simp only [hv0, hv1, decHeader_ite _ hh0 hh1 h0.2.1 h1.2.1], rfl⟩

/-- the entries part of `Oplog::open`: the frames that carry the current bit are read, trailing partial ones are
    dropped from the result, and whatever follows the frames read is cut off -/
theorem readLog_frames (X : Bytes) (p : Bool × Bool) (h : Header) (fs : List (Rotation.Frame Entry))
    (hok : ∀ f ∈ fs, EntryOK f.entry) (tail : Bytes)
    (ht : validateLeader tail = none ∨ ∃ l, validateLeader tail = some l ∧ l.headerBit ≠ Spec.currentBit p.1 p.2)
    (hlen : X.length = Spec.entriesOffset + ((framesBytes fs).length + tail.length))
    (hdrop : X.drop Spec.entriesOffset = framesBytes fs ++ tail) :
    readLog ⟨{ bits := p }, h, [], []⟩ X
      = .ok ⟨⟨p, (takeBit (Spec.currentBit p.1 p.2) fs).length, (framesBytes (takeBit (Spec.currentBit p.1 p.2) fs)).length⟩, h,
          truncOpsT (Spec.currentBit p.1 p.2) fs tail.length, seen (Spec.currentBit p.1 p.2) fs⟩ := by
  unfold readLog
  by_cases hgt : X.length > Spec.entriesOffset
  · have hfuel : fs.length < X.length :=
      Nat.lt_of_le_of_lt (Nat.le_trans (frames_length_le fs) (Nat.le_add_right _ _)) (hlen ▸ Nat.lt_add_of_pos_left (by decide))
    have hcond : (X.length > Spec.entriesOffset + (framesBytes (takeBit (Spec.currentBit p.1 p.2) fs)).length)
        ↔ ((framesBytes fs).length + tail.length > (framesBytes (takeBit (Spec.currentBit p.1 p.2) fs)).length) := by
      rw [hlen]; exact Nat.add_lt_add_iff_left
    simp only [hgt, ite_true, hdrop, State.currentBit, readEntries_frames_tail _ fs hok tail ht _ hfuel, List.length_map,
      List.nil_append, dropTP_map, hcond]
    rfl
  · -- nothing behind the slots
    have h0 : (framesBytes fs).length + tail.length = 0 :=
      Nat.eq_zero_of_not_pos fun h => hgt (hlen ▸ Nat.lt_add_of_pos_right h)
    have hfs : fs = [] := List.eq_nil_of_length_eq_zero (Nat.le_zero.mp ((Nat.add_eq_zero_iff.mp h0).1 ▸ frames_length_le fs))
    have htl : tail = [] := List.eq_nil_of_length_eq_zero (Nat.add_eq_zero_iff.mp h0).2
    subst hfs htl
    rw [if_neg hgt]
    rfl

/-- **`Oplog::open` on the bytes is the reader's rule on the abstraction.** -/
theorem openLog_abs_tail (s0 s1 : Bytes) (c0 c1 : Option (Bool × Header)) (fs : List (Rotation.Frame Entry))
    (l0 : s0.length = Spec.headerSize) (l1 : s1.length = Spec.headerSize)
    (h0 : SlotIs s0 c0) (h1 : SlotIs s1 c1) (hok : ∀ f ∈ fs, EntryOK f.entry)
    (bits : Bits) (h : Header) (es : List Entry)
    (hopen : (⟨c0, c1, fs⟩ : Rotation.Log Header Entry).open = some (bits, h, es))
    (tail : Bytes) (htail : validateLeader tail = none ∨ ∃ l, validateLeader tail = some l ∧ l.headerBit ≠ bits.cur) :
    openLog none (s0 ++ s1 ++ (framesBytes fs ++ tail))
      = .ok ⟨⟨(bits.b0, bits.b1), (takeBit bits.cur fs).length, (framesBytes (takeBit bits.cur fs)).length⟩, h,
          truncOpsT bits.cur fs tail.length, es⟩ := by
  have hl : (s0 ++ s1).length = Spec.entriesOffset := by rw [List.length_append, l0, l1]; rfl
  obtain ⟨e1, rfl⟩ := openLog_slots s0 s1 (framesBytes fs ++ tail) c0 c1 fs l0 l1 h0 h1 bits h es hopen
  rw [e1]
  exact readLog_frames _ (bits.b0, bits.b1) h fs hok tail htail (by rw [List.length_append, hl, List.length_append])
    (List.drop_left' hl)

theorem openLog_abs (s0 s1 : Bytes) (c0 c1 : Option (Bool × Header)) (fs : List (Rotation.Frame Entry))
    (l0 : s0.length = Spec.headerSize) (l1 : s1.length = Spec.headerSize)
    (h0 : SlotIs s0 c0) (h1 : SlotIs s1 c1) (hok : ∀ f ∈ fs, EntryOK f.entry)
    (bits : Bits) (h : Header) (es : List Entry)
    (hopen : (⟨c0, c1, fs⟩ : Rotation.Log Header Entry).open = some (bits, h, es)) :
    ∃ ost, openLog none (s0 ++ s1 ++ framesBytes fs) = .ok ⟨ost, h, truncOps bits.cur fs, es⟩
      ∧ ost.bits = (bits.b0, bits.b1) ∧ ost.entriesByteLength = (framesBytes (takeBit bits.cur fs)).length := by
  have := openLog_abs_tail s0 s1 c0 c1 fs l0 l1 h0 h1 hok bits h es hopen [] (.inl validateLeader_nil)
  rw [List.append_nil] at this
  exact ⟨_, this, rfl, rfl⟩

/-! `Oplog.slot` and `Oplog.entryRegion` are instances of what the theorems above speak of: a slot that holds its
header, and frames that all carry one header bit. -/

theorem slotIs_slot (h : Header) (bit : Bool) (wf : h.WF) (hf : Fits h) : SlotIs (slot h bit) (some (bit, h)) :=
  ⟨⟨_, rfl⟩, wf, Nat.lt_of_le_of_lt (Nat.le_trans (Nat.le_add_right _ 8) hf) (by decide)⟩

def regionFrames (bit : Bool) (es : List (Entry × Bool)) : List (Rotation.Frame Entry) := es.map fun p => ⟨bit, p.2, p.1⟩

theorem regionFrames_length (bit : Bool) (es : List (Entry × Bool)) : (regionFrames bit es).length = es.length :=
  List.length_map _

theorem regionFrames_ok (bit : Bool) (es : List (Entry × Bool)) (wf : ∀ p ∈ es, p.1.WF ∧ (encEntry p.1).length < 2 ^ 30) :
    ∀ f ∈ regionFrames bit es, EntryOK f.entry :=
  List.forall_mem_map.mpr wf

theorem framesBytes_region (bit : Bool) (es : List (Entry × Bool)) : framesBytes (regionFrames bit es) = entryRegion es bit := by
  rw [framesBytes, regionFrames, List.map_map]; rfl

theorem region_pairs (bit : Bool) (es : List (Entry × Bool)) : (regionFrames bit es).map (fun f => (f.entry, f.partial_)) = es := by
  rw [regionFrames, List.map_map]; exact List.map_id' es

theorem takeBit_region (bit : Bool) (es : List (Entry × Bool)) : takeBit bit (regionFrames bit es) = regionFrames bit es :=
  takeBit_of_all bit _ (List.forall_mem_map.mpr fun _ _ => rfl)

theorem seen_region (bit : Bool) (es : List (Entry × Bool)) :
    seen bit (regionFrames bit es) = (Oplog.dropTrailingPartial es).map (·.1) := by
  rw [seen, takeBit_region, ← dropTP_map, region_pairs]

theorem truncOpsT_region (bit : Bool) (es : List (Entry × Bool)) (extra : Nat) :
    truncOpsT bit (regionFrames bit es) extra
      = if extra > 0 then [SOp.trunc .oplog (Spec.entriesOffset + (entryRegion es bit).length)] else [] := by
  simp only [truncOpsT, takeBit_region, framesBytes_region, gt_iff_lt, Nat.lt_add_right_iff_pos]

/-- the bytes of an oplog store stand for the log `l`: two header slots of 4096 bytes that are what `l` says,
    then the frames of `l`'s entries, each of which can be read back -/
def AbsLog (bytes : Bytes) (l : Rotation.Log Header Entry) : Prop :=
  ∃ s0 s1 : Bytes, bytes = s0 ++ s1 ++ framesBytes l.entries ∧ s0.length = Spec.headerSize ∧ s1.length = Spec.headerSize
    ∧ SlotIs s0 l.s0 ∧ SlotIs s1 l.s1 ∧ ∀ f ∈ l.entries, EntryOK f.entry

theorem AbsLog.length {bytes : Bytes} {l : Rotation.Log Header Entry} (ha : AbsLog bytes l) :
    bytes.length = Spec.entriesOffset + (framesBytes l.entries).length := by
  obtain ⟨s0, s1, rfl, l0, l1, -⟩ := ha
  rw [List.length_append, List.length_append, l0, l1]; rfl

theorem AbsLog.openLog {bytes : Bytes} {l : Rotation.Log Header Entry} (ha : AbsLog bytes l) {bits : Bits} {h : Header}
    {es : List Entry} (hopen : l.open = some (bits, h, es)) (tail : Bytes) (ht : validateLeader tail = none) :
    openLog none (bytes ++ tail)
      = .ok ⟨⟨(bits.b0, bits.b1), (takeBit bits.cur l.entries).length, (framesBytes (takeBit bits.cur l.entries)).length⟩, h,
          truncOpsT bits.cur l.entries tail.length, es⟩ := by
  obtain ⟨s0, s1, rfl, l0, l1, h0, h1, hok⟩ := ha
  rw [List.append_assoc (s0 ++ s1)]
  exact openLog_abs_tail s0 s1 l.s0 l.s1 l.entries l0 l1 h0 h1 hok bits h es hopen tail (.inl ht)

/-- overwriting the front of header slot `k` (`true` = the second one) by `buf`: the other slot and the entries stay;
    the slot now holds `buf` and then the rest of the old slot `s`, and the store stands for the log with whatever
    that is in slot `k` -/
theorem AbsLog.write_slot {f : File} {l : Rotation.Log Header Entry} (ha : AbsLog f.toList l) (k : Bool) (buf : Bytes)
    (hb : buf.length ≤ Spec.headerSize) :
    ∃ s : Bytes, s.length = Spec.headerSize
      ∧ ((f.write (if k then Spec.headerSize else 0) buf).toList.drop (if k then Spec.headerSize else 0)).take Spec.headerSize
          = buf ++ s.drop buf.length
      ∧ ∀ v, SlotIs (buf ++ s.drop buf.length) v →
          AbsLog (f.write (if k then Spec.headerSize else 0) buf).toList (if k then { l with s1 := v } else { l with s0 := v }) := by
  obtain ⟨s0, s1, hf, l0, l1, h0, h1, hok⟩ := ha
  have hn : ∀ s : Bytes, s.length = Spec.headerSize → (buf ++ s.drop buf.length).length = Spec.headerSize := by
    intro s hs
    rw [List.length_append, List.length_drop, hs]; exact Nat.add_sub_cancel' hb
  cases k
  · have hw : (f.write 0 buf).toList = (buf ++ s0.drop buf.length) ++ (s1 ++ framesBytes l.entries) :=
      File.toList_write_mid f [] s0 _ buf (by rw [hf, List.append_assoc]; rfl) (l0 ▸ hb)
    refine ⟨s0, l0, ?_, fun v hv => ⟨_, s1, ?_, hn s0 l0, l1, hv, h1, hok⟩⟩
    · show ((f.write 0 buf).toList.drop 0).take Spec.headerSize = _
      rw [hw]; exact List.take_left' (hn s0 l0)
    · show (f.write 0 buf).toList = (buf ++ s0.drop buf.length) ++ s1 ++ framesBytes l.entries
      rw [hw, ← List.append_assoc]
  · have hw : (f.write Spec.headerSize buf).toList = s0 ++ (buf ++ s1.drop buf.length) ++ framesBytes l.entries :=
      l0 ▸ File.toList_write_mid f s0 s1 _ buf hf (l1 ▸ hb)
    refine ⟨s1, l1, ?_, fun v hv => ⟨s0, _, hw, l0, hn s1 l1, h0, hv, hok⟩⟩
    show ((f.write Spec.headerSize buf).toList.drop Spec.headerSize).take Spec.headerSize = _
    rw [hw, List.append_assoc, List.drop_left' l0]; exact List.take_left' (hn s1 l1)

theorem AbsLog.take {bytes : Bytes} {l : Rotation.Log Header Entry} (ha : AbsLog bytes l) :
    AbsLog (bytes.take Spec.entriesOffset) { l with entries := [] } := by
  obtain ⟨s0, s1, rfl, l0, l1, h0, h1, -⟩ := ha
  refine ⟨s0, s1, ?_, l0, l1, h0, h1, fun _ hf => nomatch hf⟩
  rw [List.take_left' (by rw [List.length_append, l0, l1]; rfl)]
  exact (List.append_nil _).symm

theorem AbsLog.truncate {f : File} {l : Rotation.Log Header Entry} (ha : AbsLog f.toList l) :
    AbsLog (f.truncate Spec.entriesOffset).toList { l with entries := [] } := by
  rw [File.toList_truncate_le f _ (by rw [← File.toList_length, ha.length]; exact Nat.le_add_right _ _)]
  exact ha.take

theorem AbsLog.append {f : File} {l : Rotation.Log Header Entry} (ha : AbsLog f.toList l) (fr : Rotation.Frame Entry)
    (hfr : EntryOK fr.entry) :
    AbsLog (f.write f.size (frame (encEntry fr.entry) fr.bit fr.partial_)).toList { l with entries := l.entries ++ [fr] } := by
  obtain ⟨s0, s1, hf, l0, l1, h0, h1, hok⟩ := ha
  refine ⟨s0, s1, ?_, l0, l1, h0, h1, ?_⟩
  · rw [File.toList_write_end, hf, framesBytes_append, List.append_assoc (s0 ++ s1)]
  · intro g hg
    rcases List.mem_append.mp hg with hg | hg
    · exact hok g hg
    · rw [List.mem_singleton.mp hg]; exact hfr

/-- a header that can be written to a slot: well-formed, and the buffer of `insert_header` (leader + twice the
    payload, see `Oplog.headerWrite`) fits 4096 bytes -/
def HeaderOK (h : Header) : Prop := h.WF ∧ Spec.leaderSize + 2 * (encHeader h).length ≤ Spec.headerSize

theorem slotIs_frame (h : Header) (bit : Bool) (rest : Bytes) (hok : HeaderOK h) :
    SlotIs (frame (encHeader h) bit false ++ rest) (some (bit, h)) :=
  ⟨⟨rest, rfl⟩, hok.1, Nat.lt_of_le_of_lt
    (Nat.le_trans (Nat.le_trans (Nat.le_mul_of_pos_left _ Nat.two_pos) (Nat.le_add_left _ _)) hok.2) (by decide)⟩

/-- the header write of `insert_header`, as the store sees it: into the next slot, the header frame with the next
    bit, then padding (to a full slot when traces are cleared), never beyond the slot -/
theorem headerWrite_eq (h : Header) (bits : Bool × Bool) (ct : Bool) (hok : HeaderOK h) :
    ∃ pad, headerWrite h bits ct
        = .write .oplog (if (Spec.nextSlot bits.1 bits.2).1 then Spec.headerSize else 0)
            (frame (encHeader h) (Spec.nextSlot bits.1 bits.2).2 false ++ pad)
      ∧ (frame (encHeader h) (Spec.nextSlot bits.1 bits.2).2 false ++ pad).length ≤ Spec.headerSize := by
  refine ⟨_, rfl, ?_⟩
  -- the frame is no longer than the padded size, and that is at most a slot
  have hn : 8 + (encHeader h).length ≤ Spec.leaderSize + 2 * (encHeader h).length :=
    Nat.add_le_add_left (Nat.le_mul_of_pos_left _ Nat.two_pos) 8
  rw [List.length_append, List.length_replicate, frame_length]
  cases ct
  · rw [if_neg Bool.false_ne_true, Nat.add_sub_cancel' hn]; exact hok.2
  · rw [if_pos rfl, Nat.add_sub_cancel' (Nat.le_trans hn hok.2)]; exact Nat.le_refl _

theorem insertHeader_next (h : Header) (n : Nat) (bits : Bool × Bool) (ct : Bool) :
    (⟨(insertHeader h n bits ct).1.1, (insertHeader h n bits ct).1.2⟩ : Bits) = Bits.next ⟨bits.1, bits.2⟩ := by
  obtain ⟨b0, b1⟩ := bits
  cases b0 <;> cases b1 <;> rfl

theorem insertHeader_apply (h : Header) (n : Nat) (bits : Bool × Bool) (ct : Bool) (f : File) :
    (insertHeader h n bits ct).2.foldl (fun g op => op.onFile g) f
      = ((headerWrite h bits ct).onFile f).truncate (Spec.entriesOffset + n) := rfl

theorem insertHeader_apply_take (h : Header) (n : Nat) (bits : Bool × Bool) (ct : Bool) (f : File) :
    ((insertHeader h n bits ct).2.take 1).foldl (fun g op => op.onFile g) f = (headerWrite h bits ct).onFile f := rfl

theorem AbsLog.writeNext {f : File} {l : Rotation.Log Header Entry} (ha : AbsLog f.toList l) (bits : Bool × Bool) (h' : Header)
    (ct : Bool) (hok : HeaderOK h') :
    AbsLog ((headerWrite h' bits ct).onFile f).toList (l.writeNext ⟨bits.1, bits.2⟩ h') := by
  obtain ⟨pad, hw, hle⟩ := headerWrite_eq h' bits ct hok
  obtain ⟨s, -, -, hs⟩ := ha.write_slot (Spec.nextSlot bits.1 bits.2).1 _ hle
  rw [hw]
  exact hs _ (by rw [List.append_assoc]; exact slotIs_frame h' _ _ hok)

/-- a write into the next slot after which the slot no longer validates -/
theorem AbsLog.tearNext {f : File} {l : Rotation.Log Header Entry} (ha : AbsLog f.toList l) (bits : Bool × Bool) (q : Bytes)
    (hq : q.length ≤ Spec.headerSize)
    (hcrc : validateLeader (((f.write (if (Spec.nextSlot bits.1 bits.2).1 then Spec.headerSize else 0) q).toList.drop
      (if (Spec.nextSlot bits.1 bits.2).1 then Spec.headerSize else 0)).take Spec.headerSize) = none) :
    AbsLog (f.write (if (Spec.nextSlot bits.1 bits.2).1 then Spec.headerSize else 0) q).toList (l.tearNext ⟨bits.1, bits.2⟩) := by
  obtain ⟨s, -, hslot, hs⟩ := ha.write_slot (Spec.nextSlot bits.1 bits.2).1 q hq
  exact hs none (hslot ▸ hcrc)

/-- the oplog store abstracts to a log that satisfies the protocol invariant for the in-memory state `st`,
    the last flushed header `hf` and the entries `es` logged since -/
def OpInv (st : Oplog.State) (bytes : Bytes) (hf : Header) (es : List Entry) : Prop :=
  ∃ (s0 s1 : Bytes) (l : Rotation.Log Header Entry),
    bytes = s0 ++ s1 ++ framesBytes l.entries ∧ s0.length = Spec.headerSize ∧ s1.length = Spec.headerSize
      ∧ SlotIs s0 l.s0 ∧ SlotIs s1 l.s1 ∧ Rotation.Inv ⟨st.bits.1, st.bits.2⟩ hf es l
      ∧ st.entriesByteLength = (framesBytes l.entries).length ∧ (∀ e ∈ es, EntryOK e)

theorem opinv_iff {st : Oplog.State} {bytes : Bytes} {hf : Header} {es : List Entry} :
    OpInv st bytes hf es ↔ ∃ l, AbsLog bytes l ∧ Rotation.Inv ⟨st.bits.1, st.bits.2⟩ hf es l
      ∧ st.entriesByteLength = (framesBytes l.entries).length := by
  constructor
  · rintro ⟨s0, s1, l, hb, l0, l1, h0, h1, inv, hebl, hok⟩
    exact ⟨l, ⟨s0, s1, hb, l0, l1, h0, h1, by rw [inv.ents]; exact List.forall_mem_map.mpr hok⟩, inv, hebl⟩
  · rintro ⟨l, ⟨s0, s1, hb, l0, l1, h0, h1, hok⟩, inv, hebl⟩
    exact ⟨s0, s1, l, hb, l0, l1, h0, h1, inv, hebl, fun e he => hok (mk _ e) (by rw [inv.ents]; exact List.mem_map_of_mem he)⟩

theorem OpInv.entryOK {st : Oplog.State} {bytes : Bytes} {hf : Header} {es : List Entry} (h : OpInv st bytes hf es) :
    ∀ e ∈ es, EntryOK e :=
  let ⟨_, _, _, _, _, _, _, _, _, _, hok⟩ := h; hok

theorem opinv_congr (st st' : Oplog.State) (bytes : Bytes) (hf : Header) (es : List Entry) (h : OpInv st bytes hf es)
    (hb : st'.bits = st.bits) (he : st'.entriesByteLength = st.entriesByteLength) : OpInv st' bytes hf es := by
  obtain ⟨s0, s1, l, e1, l0, l1, h0, h1, inv, hebl, hok⟩ := h
  exact ⟨s0, s1, l, e1, l0, l1, h0, h1, by rw [hb]; exact inv, by rw [he]; exact hebl, hok⟩

theorem opinv_size (st : Oplog.State) (f : File) (hf : Header) (es : List Entry) (h : OpInv st f.toList hf es) :
    f.size = Spec.entriesOffset + st.entriesByteLength := by
  obtain ⟨l, ha, -, hebl⟩ := opinv_iff.mp h
  rw [hebl, ← ha.length, File.toList_length]

/-- under the invariant, `Oplog::open` returns the last flushed header and exactly the entries logged since, also
    when something that is no frame follows the store; the reader's bookkeeping equals the writer's -/
theorem opinv_openLog {st : Oplog.State} {base : Bytes} {hf : Header} {es : List Entry} (h : OpInv st base hf es)
    (tail : Bytes) (ht : validateLeader tail = none) :
    openLog none (base ++ tail)
      = .ok ⟨⟨st.bits, es.length, st.entriesByteLength⟩, hf,
          truncOpsT st.currentBit (es.map (mk st.currentBit)) tail.length, es⟩ := by
  obtain ⟨l, ha, inv, hebl⟩ := opinv_iff.mp h
  have hop : openLog none (base ++ tail)
      = .ok ⟨⟨st.bits, (takeBit st.currentBit l.entries).length, (framesBytes (takeBit st.currentBit l.entries)).length⟩, hf,
          truncOpsT st.currentBit l.entries tail.length, es⟩ := ha.openLog inv.open_eq tail ht
  have hents : l.entries = es.map (mk st.currentBit) := inv.ents
  rw [hents] at hop hebl
  rw [Rotation.takeBit_all, ← hebl, List.length_map] at hop
  exact hop

theorem opinv_open (st : Oplog.State) (bytes : Bytes) (hf : Header) (es : List Entry) (h : OpInv st bytes hf es) :
    ∃ ost, openLog none bytes = .ok ⟨ost, hf, [], es⟩ ∧ ost.bits = st.bits ∧ ost.entriesByteLength = st.entriesByteLength := by
  have := opinv_openLog h [] validateLeader_nil
  rw [List.append_nil, List.length_nil, truncOpsT_zero, truncOps_all] at this
  exact ⟨_, this, rfl, rfl⟩

theorem opinv_append (st : Oplog.State) (f : File) (hf : Header) (es : List Entry) (e : Entry)
    (h : OpInv st f.toList hf es) (he : EntryOK e) :
    OpInv (Oplog.appendEntry st e).1
      (f.write (Spec.entriesOffset + st.entriesByteLength) (frame (encEntry e) st.currentBit false)).toList hf (es ++ [e]) := by
  rw [← opinv_size st f hf es h]
  obtain ⟨l, ha, inv, hebl⟩ := opinv_iff.mp h
  refine opinv_iff.mpr ⟨_, ha.append (mk st.currentBit e) he, Rotation.append_inv inv e, ?_⟩
  rw [framesBytes_append, List.length_append, ← hebl]
  rfl

/-- a header insertion (header write to the next slot — a full slot when traces are cleared —, truncate to 8192)
    keeps the invariant, for the new header and an empty entry list -/
theorem opinv_insert (st : Oplog.State) (f : File) (hf : Header) (es : List Entry) (h' : Header) (ct : Bool)
    (h : OpInv st f.toList hf es) (hok : HeaderOK h') :
    OpInv ({ bits := (Oplog.insertHeader h' 0 st.bits ct).1, entriesLength := 0, entriesByteLength := 0 } : Oplog.State)
      ((Oplog.insertHeader h' 0 st.bits ct).2.foldl (fun g op => op.onFile g) f).toList h' [] := by
  obtain ⟨l, ha, inv, -⟩ := opinv_iff.mp h
  have hinv := writeNext_inv inv h'
  rw [← insertHeader_next h' 0 st.bits ct] at hinv
  rw [insertHeader_apply, Nat.add_zero]
  exact opinv_iff.mpr ⟨_, (ha.writeNext st.bits h' ct hok).truncate, hinv, rfl⟩

theorem opinv_flush (st : Oplog.State) (f : File) (hf : Header) (es : List Entry) (h' : Header)
    (h : OpInv st f.toList hf es) (hok : HeaderOK h') :
    OpInv (Oplog.flush st h' false).1
      ((Oplog.flush st h' false).2.foldl (fun g op => op.onFile g) f).toList h' [] :=
  opinv_insert st f hf es h' false h hok

/-- the header write of a flush torn after `t` bytes, under the assumption that the checksum rejects the
    half-written slot: the invariant still holds — same in-memory state, same header, same entries.
    `off` and `bs` name that write, the head of the journal. -/
theorem opinv_torn_header (st : Oplog.State) (f : File) (hf : Header) (es : List Entry) (h' : Header) (ct : Bool) (t : Nat)
    (h : OpInv st f.toList hf es) (hok : HeaderOK h') (off : Nat) (bs : Bytes)
    (hop : (Oplog.insertHeader h' 0 st.bits ct).2.head? = some (.write .oplog off bs))
    (hcrc : validateLeader (((f.write off (bs.take t)).toList.drop off).take Spec.headerSize) = none) :
    OpInv st (f.write off (bs.take t)).toList hf es := by
  obtain ⟨l, ha, inv, hebl⟩ := opinv_iff.mp h
  obtain ⟨pad, hw, hle⟩ := headerWrite_eq h' st.bits ct hok
  rw [insertHeader_ops, List.head?_cons, hw, Option.some.injEq, SOp.write.injEq] at hop
  obtain ⟨-, rfl, rfl⟩ := hop
  exact opinv_iff.mpr ⟨_, ha.tearNext st.bits _ (Nat.le_trans (List.length_take_le' _ _) hle) hcrc, Rotation.tear_inv inv,
    by rw [tearNext_entries]; exact hebl⟩

/-- opening the image "header written, entry region not yet truncated": the new header, no entries, the
    stale region cut off — and the protocol invariant holds for what is left -/
theorem mid_open {g : File} {l' : Rotation.Log Header Entry} {bits : Bits} {h' : Header} {es : List Entry}
    (ha : AbsLog g.toList l') (hents : l'.entries = es.map (mk bits.cur))
    (inv : Rotation.Inv bits.next h' ([] : List Entry) { l' with entries := [] }) :
    ∃ ost ops, openLog none g.toList = .ok ⟨ost, h', ops, []⟩ ∧ (∀ op ∈ ops, op.store = .oplog)
      ∧ OpInv ost (ops.foldl (fun g op => op.onFile g) g).toList h' [] := by
  -- the frames still in the file carry the bit that has just stopped being current: none of them is read
  have htb : takeBit bits.next.cur l'.entries = [] := by
    rw [hents]; exact Rotation.takeBit_none _ _ (by rw [next_cur]; cases bits.cur <;> decide) es
  have hopen : l'.open = some (bits.next, h', []) := (inv.open_entries l'.entries).trans (by rw [seen, htb]; rfl)
  have hop : openLog none g.toList
      = .ok ⟨⟨(bits.next.b0, bits.next.b1), 0, 0⟩, h', truncOpsT bits.next.cur l'.entries 0, []⟩ := by
    have := ha.openLog hopen [] validateLeader_nil
    rwa [List.append_nil, htb] at this
  refine ⟨_, _, hop, truncOpsT_store _ _ _, ?_⟩
  rw [truncOpsT_apply g _ _ 0 (by rw [← File.toList_length, ha.length]; rfl), htb]
  exact opinv_iff.mpr ⟨_, ha.take, inv, rfl⟩

/-- the crash point inside a flush: the header is written to the next slot, the entry region is not yet
    truncated.  `Oplog::open` returns the **new** header and no entries (the stale frames carry the
    other header bit) and cuts the stale region off; the protocol invariant holds for what is left. -/
theorem opinv_flush_mid (st : Oplog.State) (f : File) (hf : Header) (es : List Entry) (h' : Header) (ct : Bool)
    (h : OpInv st f.toList hf es) (hok : HeaderOK h') :
    ∃ ost ops, openLog none (((Oplog.insertHeader h' 0 st.bits ct).2.take 1).foldl (fun g op => op.onFile g) f).toList = .ok ⟨ost, h', ops, []⟩
      ∧ (∀ op ∈ ops, op.store = .oplog)
      ∧ OpInv ost (ops.foldl (fun g op => op.onFile g) (((Oplog.insertHeader h' 0 st.bits ct).2.take 1).foldl (fun g op => op.onFile g) f)).toList h' [] := by
  obtain ⟨l, ha, inv, -⟩ := opinv_iff.mp h
  rw [insertHeader_apply_take]
  exact mid_open (ha.writeNext st.bits h' ct hok) ((writeNext_entries l _ h').trans inv.ents) (writeNext_inv inv h')

/-- a header write without the truncate, on a log that has no entries: the invariant holds for the new header
    (the second header write of `make_read_only`) -/
theorem opinv_header_only (st : Oplog.State) (f : File) (hf : Header) (h' : Header) (ct : Bool)
    (h : OpInv st f.toList hf []) (hok : HeaderOK h') :
    OpInv ({ bits := (Oplog.insertHeader h' 0 st.bits ct).1, entriesLength := 0, entriesByteLength := 0 } : Oplog.State)
      (((Oplog.insertHeader h' 0 st.bits ct).2.take 1).foldl (fun g op => op.onFile g) f).toList h' [] := by
  obtain ⟨l, ha, inv, -⟩ := opinv_iff.mp h
  have hents : (l.writeNext ⟨st.bits.1, st.bits.2⟩ h').entries = [] := (writeNext_entries l _ h').trans inv.ents
  have hinv := insertHeader_next h' 0 st.bits ct ▸ writeNext_inv inv h'
  -- there is nothing to cut
  rw [Log.entries_nil hents] at hinv
  rw [insertHeader_apply_take]
  exact opinv_iff.mpr ⟨_, ha.writeNext st.bits h' ct hok, hinv, by rw [hents]; rfl⟩

/-- `make_read_only`'s flush (header, truncate, header again — both slots rewritten as full slots) keeps the invariant -/
theorem opinv_flush_traces (st : Oplog.State) (f : File) (hf : Header) (es : List Entry) (h' : Header)
    (h : OpInv st f.toList hf es) (hok : HeaderOK h') :
    OpInv (Oplog.flush st h' true).1 ((Oplog.flush st h' true).2.foldl (fun g op => op.onFile g) f).toList h' [] := by
  have h1 := opinv_insert st f hf es h' true h hok
  have h2 := opinv_header_only _ _ h' h' true h1 hok
  rw [flush_clear, List.foldl_append]
  exact h2

/-- opening a store that satisfies the invariant up to a tail that is no frame (nothing, or the prefix of an
    entry whose write was torn): the tail is cut off and the invariant holds for what is left -/
theorem opinv_open_tail (st : Oplog.State) (f : File) (base tail : Bytes) (hf : Header) (es : List Entry)
    (h : OpInv st base hf es) (hb : f.toList = base ++ tail) (ht : validateLeader tail = none) :
    ∃ ost ops, openLog none f.toList = .ok ⟨ost, hf, ops, es⟩ ∧ (∀ op ∈ ops, op.store = .oplog)
      ∧ OpInv ost (ops.foldl (fun g op => op.onFile g) f).toList hf es := by
  obtain ⟨l, ha, inv, -⟩ := opinv_iff.mp h
  have hlen : base.length = Spec.entriesOffset + (framesBytes (es.map (mk st.currentBit))).length := inv.ents ▸ ha.length
  refine ⟨_, _, hb ▸ opinv_openLog h tail ht, truncOpsT_store _ _ _, ?_⟩
  rw [truncOpsT_apply f _ _ tail.length (by rw [← File.toList_length, hb, List.length_append, hlen]), Rotation.takeBit_all, hb,
    List.take_left' hlen]
  exact opinv_congr st _ base hf es h rfl rfl

/-- the oplog store of a crash image: the protocol invariant holds for some in-memory state up to a tail that
    is no frame (nothing, or the prefix of an entry whose write was torn), or a flush was cut between its
    header write and its truncate -/
def OpImage (f : File) (hf : Header) (es : List Entry) : Prop :=
  (∃ st base tail, OpInv st base hf es ∧ f.toList = base ++ tail ∧ validateLeader tail = none)
    ∨ (∃ st f0 hf0 es0 ct, OpInv st f0.toList hf0 es0 ∧ HeaderOK hf ∧ es = []
        ∧ f = ((Oplog.insertHeader hf 0 st.bits ct).2.take 1).foldl (fun g op => op.onFile g) f0)

theorem opimage_of_inv (st : Oplog.State) (f : File) (hf : Header) (es : List Entry) (h : OpInv st f.toList hf es) : OpImage f hf es :=
  Or.inl ⟨st, f.toList, [], h, by simp, validateLeader_nil⟩

/-- the entry write torn after `t` bytes: the store is the old one followed by a strict prefix of a frame, which
    is no frame (by its length field alone — no assumption on the checksum) -/
theorem opimage_torn_entry (st : Oplog.State) (f : File) (hf : Header) (es : List Entry) (e : Entry) (t : Nat)
    (h : OpInv st f.toList hf es) (he : EntryOK e) (ht : t < (frame (encEntry e) st.currentBit false).length) :
    OpImage (f.write (Spec.entriesOffset + st.entriesByteLength) ((frame (encEntry e) st.currentBit false).take t)) hf es := by
  have hsz := opinv_size st f hf es h
  refine Or.inl ⟨st, f.toList, (frame (encEntry e) st.currentBit false).take t, h, ?_, ?_⟩
  · rw [← hsz, File.toList_write_end]
  · apply validateLeader_strict_prefix (encEntry e) st.currentBit false he.2 _ ((frame (encEntry e) st.currentBit false).drop t)
    · exact fun hnil => Nat.not_le_of_lt ht (List.drop_eq_nil_iff.mp hnil)
    · exact List.take_append_drop t _

/-- opening a crash image: the header and entries it stands for, and the invariant for the store as
    `Oplog::open` leaves it -/
theorem opimage_open (f : File) (hf : Header) (es : List Entry) (h : OpImage f hf es) :
    ∃ ost ops, openLog none f.toList = .ok ⟨ost, hf, ops, es⟩ ∧ (∀ op ∈ ops, op.store = .oplog)
      ∧ OpInv ost (ops.foldl (fun g op => op.onFile g) f).toList hf es := by
  rcases h with ⟨st, base, tail, hi, hb, ht⟩ | ⟨st, f0, hf0, es0, ct, hi, hok, rfl, rfl⟩
  · exact opinv_open_tail st f base tail hf es hi hb ht
  · exact opinv_flush_mid st f0 hf0 es0 hf ct hi hok

theorem leVal_zeros (k : Nat) : leVal (List.replicate k (0 : UInt8)) = 0 := by
  induction k with
  | zero => rfl
  | succ k ih => simp [List.replicate_succ, leVal, ih]

theorem validateLeader_zeros (k : Nat) : validateLeader (List.replicate k (0 : UInt8)) = none := by
  unfold validateLeader
  split
  · rfl
  · have h4 : ((List.replicate k (0 : UInt8)).drop 4).take 4 = List.replicate (min 4 (k - 4)) 0 := by
      simp [List.drop_replicate, List.take_replicate]
    simp only [h4, leVal_zeros]
    simp

/-- the oplog store of a freshly created core -/
theorem opinv_create (h : Header) (hok : HeaderOK h) :
    OpInv { bits := (Oplog.insertHeader h 0 Spec.initialBits false).1 }
      ((Oplog.insertHeader h 0 Spec.initialBits false).2.foldl (fun g op => op.onFile g) File.empty).toList h [] := by
  obtain ⟨pad, hw, hle⟩ := headerWrite_eq h Spec.initialBits false hok
  -- the first header goes to slot 0 with bit `false`
  have hw' : headerWrite h Spec.initialBits false = .write .oplog 0 (frame (encHeader h) false false ++ pad) := hw
  have hle' : (frame (encHeader h) false false ++ pad).length ≤ Spec.headerSize := hle
  generalize hbuf : frame (encHeader h) false false ++ pad = buf at hw' hle'
  have hwl : (File.empty.write 0 buf).toList = buf := File.toList_write_end File.empty buf
  have hsz : (File.empty.write 0 buf).size = buf.length := by rw [← File.toList_length, hwl]
  -- the cut at 8192 pads with zeros: the rest of slot 0, and a slot 1 that is no frame
  rw [insertHeader_apply, hw', SOp.onFile_write,
    File.toList_truncate_ge _ _ (hsz ▸ Nat.le_trans hle' (by decide : Spec.headerSize ≤ Spec.entriesOffset + 0)), hwl, hsz,
    show Spec.entriesOffset + 0 - buf.length = (Spec.headerSize - buf.length) + Spec.headerSize from
      @Nat.sub_add_comm Spec.headerSize Spec.headerSize buf.length hle',
    ← List.replicate_append_replicate, ← List.append_assoc]
  have hinv : Rotation.Inv (Bits.next ⟨Spec.initialBits.1, Spec.initialBits.2⟩) h ([] : List Entry)
      { s0 := some (false, h), s1 := none, entries := [] } := Rotation.fresh_inv h
  rw [← insertHeader_next h 0 Spec.initialBits false] at hinv
  refine opinv_iff.mpr ⟨{ s0 := some (false, h), s1 := none, entries := [] },
    ⟨buf ++ List.replicate (Spec.headerSize - buf.length) 0, List.replicate Spec.headerSize 0, (List.append_nil _).symm, ?_,
      List.length_replicate, ?_, validateLeader_zeros _, fun _ hf => nomatch hf⟩, hinv, rfl⟩
  · rw [List.length_append, List.length_replicate]; exact Nat.add_sub_cancel' hle'
  · rw [← hbuf, List.append_assoc]; exact slotIs_frame h false _ hok

end HC.OplogBytes
