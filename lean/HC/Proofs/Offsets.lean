import HC.Proofs.RefTree
import HC.Proofs.Verify
/-!
Byte offsets computed from the tree are prefix sums of the block sizes.

`byte_offset_from_nodes` walks the roots left to right (`go_stored`) and then descends inside one root
(`offsetDescend_stored`), adding the sizes of the left siblings it passes.  If those it reads are stored with their
reference values the result is `psum bs i`, the number of bytes in the blocks before `i`; nothing else need be stored,
so the same lemmas serve the writer's full tree (`go_ok`) and a replica's sparse one.
-/
namespace HC.Offsets
open HC HC.Codec HC.Flat HC.Tree HC.RefTree HC.RefProof HC.Pow2

/-- size of block `i` (0 beyond the end, like the reference tree's leaves) -/
def sz (bs : Array Bytes) (i : Nat) : Nat := (bs.getD i []).length

/-- bytes in the blocks before `n` -/
def psum (bs : Array Bytes) : Nat → Nat
  | 0 => 0
  | n+1 => psum bs n + sz bs n

theorem psum_mono (bs : Array Bytes) {a b : Nat} (h : a ≤ b) : psum bs a ≤ psum bs b := by
  induction h with
  | refl => exact Nat.le_refl _
  | step _ ih => exact Nat.le_trans ih (Nat.le_add_right _ _)

/-- the reference node at (d, o) spans the leaves `[o 2^d, (o+1) 2^d)`: its size is their total -/
theorem node_size (C : Crypto) (bs : Array Bytes) (d o : Nat) :
    psum bs (o * 2 ^ d) + (RefTree.node C bs d o).1 = psum bs ((o + 1) * 2 ^ d) := by
  induction d generalizing o with
  | zero => rw [Nat.pow_zero, Nat.mul_one, Nat.mul_one]; rfl
  | succ d ih =>
    obtain ⟨e1, _, e3⟩ := child_spans d o
    have h1 := ih (2 * o)
    have h2 := ih (2 * o + 1)
    rw [e1, e3, ← succ_mul_pow (2 * o + 1) d, ← h2, ← h1, Nat.add_assoc]
    rfl

/-- passing a node on the left: its size moves from the accumulator to the prefix sum -/
theorem add_size {r a b len acc t : Nat} (hs : r + b = acc + len + t) (hsz : a + len = b) : r + a = acc + t := by omega

/-- the lookup `t.node? f` agrees with the reference tree on every full node inside the log `bs` -/
def NodesOK (C : Crypto) (bs : Array Bytes) (t : Tree) (f : File) : Prop :=
  ∀ d o, (o + 1) * 2 ^ d ≤ bs.size → t.node? f (Flat.index d o) = some (nodeAt C bs d o)

end HC.Offsets

namespace HC.Replica
open HC HC.Codec HC.Flat HC.Tree HC.RefTree HC.Offsets

/-- the left siblings that the descent to leaf `s` reads are stored (inside a tree of `m` leaves) -/
def LeftStored (C : Crypto) (bs : Array Bytes) (m : Nat) (t : Tree) (f : File) (s : Nat) : Prop :=
  ∀ e q, (2 * q + 1) * 2 ^ e ≤ s → s < (2 * q + 2) * 2 ^ e → (2 * q + 2) * 2 ^ e ≤ m →
    t.node? f (Flat.index e (2 * q)) = some (nodeAt C bs e (2 * q))

/-- a tree that stores every node inside the log stores those left siblings -/
theorem leftStored_of_nodesOK {C : Crypto} {bs : Array Bytes} {t : Tree} {f : File} (hN : NodesOK C bs t f) (s : Nat) :
    LeftStored C bs bs.size t f s :=
  fun e q _ _ h => hN e (2 * q) (Nat.le_trans (Nat.mul_le_mul_right _ (Nat.le_succ _)) h)

end HC.Replica

namespace HC.Offsets
open HC HC.Codec HC.Flat HC.Tree HC.RefTree HC.RefProof HC.Pow2 HC.Replica

theorem offsetDescend_succ (t : Tree) (f : File) (target fuel : Nat) (it : Iter) (acc : Nat) :
    offsetDescend t f target (fuel + 1) it acc =
      if it.index = target then .ok acc
      else if target < it.index then offsetDescend t f target fuel it.leftChild acc
      else andThen (t.requiredNode f it.leftChild.index) fun n =>
        offsetDescend t f target fuel it.leftChild.sibling (acc + n.length) := by
  rw [offsetDescend]
  split
  · rfl
  · split
    · rfl
    · dsimp only
      cases t.requiredNode f it.leftChild.index <;> rfl

theorem offsetDescend_leaf (t : Tree) (f : File) (s fuel acc : Nat) :
    offsetDescend t f (2 * s) (fuel + 1) (iat 0 s) acc = .ok acc := by
  rw [offsetDescend_succ, iat_index, if_pos (RefProof.index_zero s)]

theorem offsetDescend_left (t : Tree) (f : File) (s fuel d o acc : Nat) (h : s < (2 * o + 1) * 2 ^ d) :
    offsetDescend t f (2 * s) (fuel + 1) (iat (d + 1) o) acc = offsetDescend t f (2 * s) fuel (iat d (2 * o)) acc := by
  obtain ⟨hne, hlt⟩ := index_succ_cmp d o s
  rw [offsetDescend_succ, iat_index, if_neg hne, if_pos (hlt.mpr h), iat_leftChild]

theorem offsetDescend_right (t : Tree) (f : File) (s fuel d o acc : Nat) (n : Node) (h : (2 * o + 1) * 2 ^ d ≤ s)
    (hn : t.node? f (Flat.index d (2 * o)) = some n) :
    offsetDescend t f (2 * s) (fuel + 1) (iat (d + 1) o) acc
      = offsetDescend t f (2 * s) fuel (iat d (2 * o + 1)) (acc + n.length) := by
  obtain ⟨hne, hlt⟩ := index_succ_cmp d o s
  rw [offsetDescend_succ, iat_index, if_neg hne, if_neg (fun hl => Nat.not_lt_of_le h (hlt.mp hl)), iat_leftChild, iat_index,
    (requiredNode_eq_ok_iff t f _ n).mpr hn, ok_andThen, iat_sibling_even d (2 * o) (Nat.mul_mod_right 2 o)]

/-- The descent to leaf `s` from a node above it adds up the sizes of the left siblings it passes, provided
    those it reads are stored with their reference values: the result is the number of bytes between the start
    of the node's span and `s`. -/
theorem offsetDescend_stored (C : Crypto) (bs : Array Bytes) (t : Tree) (f : File) (m s : Nat)
    (hL : LeftStored C bs m t f s) :
    ∀ (d o acc fuel : Nat), o * 2 ^ d ≤ s → s < (o + 1) * 2 ^ d → (o + 1) * 2 ^ d ≤ m → d < fuel →
      ∃ r, offsetDescend t f (2 * s) fuel (iat d o) acc = .ok r ∧ r + psum bs (o * 2 ^ d) = acc + psum bs s := by
  intro d
  induction d with
  | zero =>
    intro o acc fuel h1 h2 _ hf
    obtain ⟨fuel, rfl⟩ := Nat.exists_eq_add_one_of_ne_zero (Nat.ne_of_gt hf)
    rw [Nat.pow_zero, Nat.mul_one] at h1 h2
    obtain rfl : o = s := Nat.le_antisymm h1 (Nat.le_of_lt_succ h2)
    exact ⟨acc, offsetDescend_leaf t f o fuel acc, by rw [Nat.pow_zero, Nat.mul_one]⟩
  | succ d ih =>
    intro o acc fuel h1 h2 h3 hf
    obtain ⟨fuel, rfl⟩ := Nat.exists_eq_add_one_of_ne_zero (Nat.ne_of_gt (Nat.lt_of_le_of_lt (Nat.zero_le _) hf))
    have hf' : d < fuel := Nat.lt_of_succ_lt_succ hf
    rw [(child_spans d o).1] at h1 ⊢
    rw [parent_end] at h2 h3
    by_cases hlt : s < (2 * o + 1) * 2 ^ d
    · rw [offsetDescend_left t f s fuel d o acc hlt]
      exact ih (2 * o) acc fuel h1 hlt (Nat.le_trans (Nat.mul_le_mul_right _ (Nat.le_succ _)) h3) hf'
    · have hin := Nat.le_of_not_lt hlt
      rw [offsetDescend_right t f s fuel d o acc _ hin (hL d o hin h2 h3)]
      obtain ⟨r, hr, hs⟩ := ih (2 * o + 1) (acc + (nodeAt C bs d (2 * o)).length) fuel hin h2 h3 hf'
      exact ⟨r, hr, add_size hs (node_size C bs d (2 * o))⟩

theorem offsetDescend_ok (C : Crypto) (bs : Array Bytes) (t : Tree) (f : File) (hN : NodesOK C bs t f) (i : Nat) :
    ∀ (d o acc fuel : Nat), o * 2 ^ d ≤ i → i < (o + 1) * 2 ^ d → (o + 1) * 2 ^ d ≤ bs.size → d < fuel →
      ∃ r, offsetDescend t f (2 * i) fuel (iat d o) acc = .ok r ∧ r + psum bs (o * 2 ^ d) = acc + psum bs i :=
  offsetDescend_stored C bs t f bs.size i (leftStored_of_nodesOK hN i)

/-- consecutive root positions covering the leaves `[a, b)`, left to right -/
inductive Cover : List (Nat × Nat) → Nat → Nat → Prop
  | nil (a : Nat) : Cover [] a a
  | cons (d o a b : Nat) (rest : List (Nat × Nat)) : a = o * 2 ^ d → Cover rest ((o + 1) * 2 ^ d) b → Cover ((d, o) :: rest) a b

theorem Cover.le {l : List (Nat × Nat)} {a b : Nat} (h : Cover l a b) : a ≤ b := by
  induction h with
  | nil a => exact Nat.le_refl _
  | cons d o a b rest ha _ ih =>
    rw [ha]
    exact Nat.le_trans (Nat.mul_le_mul_right _ (Nat.le_succ o)) ih

theorem Cover.tail {d o a b : Nat} {rest : List (Nat × Nat)} (h : Cover ((d, o) :: rest) a b) : Cover rest ((o + 1) * 2 ^ d) b := by
  cases h; assumption

theorem Cover.append {l l' : List (Nat × Nat)} {a b c : Nat} (h : Cover l a b) (h' : Cover l' b c) : Cover (l ++ l') a c := by
  induction h with
  | nil a => exact h'
  | cons d o a b rest ha _ ih => exact Cover.cons d o a c (rest ++ l') ha (ih h')

theorem Cover.lift {l : List (Nat × Nat)} {a b : Nat} (h : Cover l a b) : Cover (l.map RefProof.lift) (2 * a) (2 * b) := by
  induction h with
  | nil a => exact Cover.nil _
  | cons d o a b rest ha _ ih =>
    rw [← succ_mul_pow_succ] at ih
    exact Cover.cons (d + 1) o (2 * a) (2 * b) _ (by rw [ha, mul_pow_succ]) ih

theorem cover_roots (n : Nat) : Cover (rootsStack n).reverse 0 n := by
  induction n using binary_induction with
  | zero => rw [rootsStack_zero]; exact Cover.nil 0
  | double q hq ih => rw [rootsStack_double q hq, ← List.map_reverse]; exact ih.lift
  | double_succ q ih =>
    rw [rootsStack_double_succ, List.reverse_cons, ← List.map_reverse]
    refine ih.lift.append (Cover.cons 0 (2 * q) _ _ [] (by rw [Nat.pow_zero, Nat.mul_one]) ?_)
    rw [Nat.pow_zero, Nat.mul_one]
    exact Cover.nil _

theorem Cover.bound {l : List (Nat × Nat)} {a b : Nat} (h : Cover l a b) : ∀ p ∈ l, (p.2 + 1) * 2 ^ p.1 ≤ b := by
  induction h with
  | nil a => intro p hp; cases hp
  | cons d o a b rest ha hrest ih =>
    intro p hp
    rcases List.mem_cons.mp hp with rfl | hp
    · exact hrest.le
    · exact ih p hp

theorem Cover.lower {l : List (Nat × Nat)} {a b : Nat} (h : Cover l a b) : ∀ p ∈ l, a ≤ p.2 * 2 ^ p.1 := by
  induction h with
  | nil a => intro p hp; cases hp
  | cons d o a b rest ha hrest ih =>
    intro p hp
    rcases List.mem_cons.mp hp with rfl | hp
    · exact Nat.le_of_eq ha
    · exact Nat.le_trans (ha ▸ Nat.mul_le_mul_right _ (Nat.le_succ o)) (ih p hp)

theorem Cover.find {l : List (Nat × Nat)} {a b : Nat} (h : Cover l a b) (i : Nat) (h1 : a ≤ i) (h2 : i < b) :
    ∃ p ∈ l, p.2 * 2 ^ p.1 ≤ i ∧ i < (p.2 + 1) * 2 ^ p.1 := by
  induction h with
  | nil a => exact absurd h2 (Nat.not_lt_of_le h1)
  | cons d o a b rest ha _ ih =>
    by_cases hlt : i < (o + 1) * 2 ^ d
    · exact ⟨(d, o), List.mem_cons_self .., ha ▸ h1, hlt⟩
    · obtain ⟨p, hp, hp1, hp2⟩ := ih (Nat.le_of_not_lt hlt) h2
      exact ⟨p, List.mem_cons_of_mem _ hp, hp1, hp2⟩

/-- the sizes of the reference nodes over a cover add up to the bytes in the covered blocks -/
theorem Cover.sum (C : Crypto) (bs : Array Bytes) {l : List (Nat × Nat)} {a b : Nat} (h : Cover l a b) :
    psum bs a + ((l.map fun p => (nodeAt C bs p.1 p.2).length)).sum = psum bs b := by
  induction h with
  | nil a => simp
  | cons d o a b rest ha _ ih =>
    simp only [List.map_cons, List.sum_cons]
    have := node_size C bs d o
    simp only [nodeAt] at ih ⊢
    rw [ha]; omega

/-- the reference roots of the first `n` blocks span their bytes -/
theorem rootsAt_sum (C : Crypto) (bs : Array Bytes) (n : Nat) : ((Growth.rootsAt C bs n).map (·.length)).sum = psum bs n := by
  have := (cover_roots n).sum C bs
  rw [Growth.rootsAt, List.map_map]
  exact (Nat.zero_add _).symm.trans this

/-- one root of the walk: `head` moves from the first leaf of the root to the first leaf after it (70 is the
    model's fuel for the descent) -/
theorem go_cons (t : Tree) (f : File) (target : Nat) (n : Node) (ns : List Node) (head acc : Nat) :
    byteOffsetFromNodes.go t f target (n :: ns) head acc =
      if target ≥ head + 2 * (n.index - head + 1) then byteOffsetFromNodes.go t f target ns (head + 2 * (n.index - head + 1)) (acc + n.length)
      else offsetDescend t f target 70 (Iter.new n.index) acc := by
  rw [byteOffsetFromNodes.go]

/-- The walk over the roots to leaf `s` skips the roots before it, adding their sizes, and descends inside the
    root above it; with the left siblings read by that descent stored, the result is `psum bs s`. -/
theorem go_stored (C : Crypto) (bs : Array Bytes) (t : Tree) (f : File) (m s : Nat)
    (hL : LeftStored C bs m t f s) (hm : m < 2 ^ 64) :
    ∀ (l : List (Nat × Nat)) (a b acc : Nat), Cover l a b → a ≤ s → s < b → b ≤ m →
      ∃ r, byteOffsetFromNodes.go t f (2 * s) (l.map fun p => nodeAt C bs p.1 p.2) (2 * a) acc = .ok r
        ∧ r + psum bs a = acc + psum bs s := by
  intro l
  induction l with
  | nil =>
    intro a b acc h h1 h2 _
    cases h
    exact absurd h2 (Nat.not_lt_of_le h1)
  | cons p rest ih =>
    intro a b acc h h1 h2 h3
    cases h with
    | cons d o _ _ _ ha hrest =>
      have hend : (o + 1) * 2 ^ d ≤ m := Nat.le_trans hrest.le h3
      rw [List.map_cons, go_cons, ha, show (nodeAt C bs d o).index = Flat.index d o from rfl, index_head]
      by_cases hge : (o + 1) * 2 ^ d ≤ s
      · rw [if_pos (Nat.mul_le_mul_left 2 hge)]
        obtain ⟨r, hr, hs⟩ := ih ((o + 1) * 2 ^ d) b (acc + (nodeAt C bs d o).length) hrest hge h2 h3
        exact ⟨r, hr, add_size hs (node_size C bs d o)⟩
      · rw [if_neg (fun h => hge (Nat.le_of_mul_le_mul_left h (by decide))), new_index_of_span hend hm]
        -- fuel 70 suffices: a root inside fewer than `2^64` leaves has depth below 64
        exact offsetDescend_stored C bs t f m s hL d o acc 70 (ha ▸ h1) (Nat.lt_of_not_le hge) hend
          (Nat.lt_trans (depth_lt_of_span hend hm) (by decide))

theorem go_ok (C : Crypto) (bs : Array Bytes) (t : Tree) (f : File) (hN : NodesOK C bs t f) (i : Nat)
    (hsize : bs.size < 2 ^ 64) :
    ∀ (l : List (Nat × Nat)) (a b acc : Nat), Cover l a b → a ≤ i → i < b → b ≤ bs.size →
      ∃ r, byteOffsetFromNodes.go t f (2 * i) (l.map fun p => nodeAt C bs p.1 p.2) (2 * a) acc = .ok r
        ∧ r + psum bs a = acc + psum bs i :=
  go_stored C bs t f bs.size i (leftStored_of_nodesOK hN i) hsize

end HC.Offsets

namespace HC.Replica
open HC HC.Codec HC.Flat HC.Tree HC.RefTree HC.RefProof HC.Offsets HC.Pow2

theorem leftSpan_index (d o : Nat) (hd : d ≤ 64) : leftSpan (Flat.index d o) = 2 * (o * 2 ^ d) := by
  cases d with
  | zero => simp [leftSpan, depth, depthAux, index_zero]
  | succ d =>
    have hdep : depth (Flat.index (d + 1) o) = d + 1 := depthAux_index 64 (d + 1) o hd
    have hnew := new_index (d + 1) o hd
    have hoff : Flat.offset (Flat.index (d + 1) o) = o := by
      have h1 : Flat.index (d + 1) o % 2 = 1 := iat_index_odd d o
      have : (Iter.new (Flat.index (d + 1) o)).offset = o := by rw [hnew]; rfl
      simpa [Iter.new, h1] using this
    rw [leftSpan, hdep, if_neg (Nat.succ_ne_zero d), hoff, mul_pow_succ]

/-- `byte_offset_from_nodes` on a sparse tree of `m` leaves holding the reference roots: the start of the node's span -/
theorem byteOffsetFromNodes_at (C : Crypto) (bs : Array Bytes) (m : Nat) (t : Tree) (f : File) (hm : m < 2 ^ 64)
    (hroots : t.roots = Growth.rootsAt C bs m) (d o : Nat) (hin : (o + 1) * 2 ^ d ≤ m)
    (hL : LeftStored C bs m t f (o * 2 ^ d)) :
    t.byteOffsetFromNodes f (Flat.index d o) = .ok (psum bs (o * 2 ^ d)) := by
  have hs : o * 2 ^ d < m := Nat.lt_of_lt_of_le (Nat.mul_lt_mul_of_pos_right (Nat.lt_succ_self o) (pow_pos' d)) hin
  obtain ⟨r, hr, hsum⟩ := Offsets.go_stored C bs t f m (o * 2 ^ d) hL hm (rootsStack m).reverse 0 m 0 (cover_roots m)
    (Nat.zero_le _) hs (Nat.le_refl _)
  have hr0 : r = psum bs (o * 2 ^ d) := by rw [psum, Nat.add_zero, Nat.zero_add] at hsum; exact hsum
  have htarget : (if Flat.index d o % 2 = 1 then leftSpan (Flat.index d o) else Flat.index d o) = 2 * (o * 2 ^ d) := by
    cases d with
    | zero => simp [index_zero]
    | succ d =>
      have h1 : Flat.index (d + 1) o % 2 = 1 := iat_index_odd d o
      rw [if_pos h1]
      exact leftSpan_index (d + 1) o (Nat.le_of_lt (depth_lt_of_span hin hm))
  unfold Tree.byteOffsetFromNodes
  simp only [htarget, hroots]
  rw [← hr0]
  exact hr

/-- `byte_range` of block `i` on a tree of `m` leaves that holds the reference roots, the leaf and the left siblings on the
    way to it: the writer's offset and the block's size -/
theorem byteRange_stored (C : Crypto) (bs : Array Bytes) (m : Nat) (t : Tree) (f : File) (hm : m < 2 ^ 64) (hlen : t.length = m)
    (hroots : t.roots = Growth.rootsAt C bs m) (i : Nat) (hi : i < m)
    (hleaf : t.node? f (Flat.index 0 i) = some (nodeAt C bs 0 i)) (hL : LeftStored C bs m t f i) :
    t.byteRange f i = .ok (psum bs i, sz bs i) := by
  have hv : t.validateIndex i = .ok (2 * i) :=
    if_neg (Nat.not_le_of_lt (Nat.mul_lt_mul_of_pos_left (hlen ▸ hi) (by decide)))
  have hoff := byteOffsetFromNodes_at C bs m t f hm hroots 0 i (by rw [Nat.pow_zero, Nat.mul_one]; exact hi)
    (by rw [Nat.pow_zero, Nat.mul_one]; exact hL)
  rw [index_zero, Nat.pow_zero, Nat.mul_one] at hoff
  rw [index_zero] at hleaf
  rw [Tree.byteRange, hv]
  dsimp only
  rw [(requiredNode_eq_ok_iff ..).mpr hleaf, hoff]
  rfl

end HC.Replica
