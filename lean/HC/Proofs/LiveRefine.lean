import HC.Proofs.TreeStore
import HC.Proofs.Journal
import HC.Proofs.CoreEqs
import HC.Proofs.Verify
import HC.Proofs.Bitfield
import HC.Spec.LogSpec
import HC.Proofs.FormatLimits
/-!
C01, live part: every sequence of `append_batch` / `clear` / `get` / `has` / `info` calls on the model
of the crate produces the observations of the abstract log (`LogSpec.Abs`).

`Rep` relates the memory state and the tree and data stores to the abstract log:
roots = reference roots, node lookup = reference tree, bitfield = held set, contiguous hint = first
missing index, and every held block's bytes sit in the data store at the prefix-sum offset.
Each call is shown to keep `Rep` and to answer as the abstract log does (`*_refines`); `clear_shape` and
`append_shape` also say what the call leaves on disk and in the oplog, for the persistence proofs.
-/
namespace HC.LiveRefine
open HC HC.Codec HC.Flat HC.Tree HC.RefTree HC.RefProof HC.Offsets HC.TreeStore HC.LogSpec HC.Core HC.Oplog

theorem sum_take_succ (l : List Bytes) (j : Nat) :
    ((l.take (j + 1)).map List.length).sum = ((l.take j).map List.length).sum + (l.getD j []).length := by
  rw [List.take_add_one, List.map_append, List.sum_append, List.getD_eq_getElem?_getD]
  cases l[j]? <;> rfl

theorem psum_eq_take (bs : Array Bytes) (n : Nat) : psum bs n = ((bs.toList.take n).map List.length).sum := by
  induction n with
  | zero => rfl
  | succ n ih =>
    rw [psum, ih, sum_take_succ, sz, List.getD_eq_getElem?_getD, Array.getElem?_toList, ← Array.getD_eq_getD_getElem?]

theorem psum_total (bs : Array Bytes) : psum bs bs.size = totalBytes bs := by
  rw [psum_eq_take, totalBytes, List.take_of_length_le (Nat.le_of_eq Array.length_toList)]

theorem getD_append_lt (bs : Array Bytes) (l : List Bytes) (i : Nat) (h : i < bs.size) :
    (bs ++ l.toArray).getD i [] = bs.getD i [] := by
  rw [Array.getD_eq_getD_getElem?, Array.getD_eq_getD_getElem?, Array.getElem?_append_left h]

theorem getD_append_ge (bs : Array Bytes) (l : List Bytes) (j : Nat) :
    (bs ++ l.toArray).getD (bs.size + j) [] = l.getD j [] := by
  rw [Array.getD_eq_getD_getElem?, Array.getElem?_append_right (Nat.le_add_right _ _), Nat.add_sub_cancel_left,
    List.getElem?_toArray, List.getD_eq_getElem?_getD]

theorem psum_append_le (bs : Array Bytes) (l : List Bytes) (i : Nat) (h : i ≤ bs.size) :
    psum (bs ++ l.toArray) i = psum bs i := by
  induction i with
  | zero => rfl
  | succ i ih => rw [psum, psum, sz, sz, ih (Nat.le_of_succ_le h), getD_append_lt bs l i h]

theorem psum_append_new (bs : Array Bytes) (l : List Bytes) (j : Nat) :
    psum (bs ++ l.toArray) (bs.size + j) = psum bs bs.size + ((l.take j).map List.length).sum := by
  induction j with
  | zero => exact psum_append_le bs l bs.size (Nat.le_refl _)
  | succ j ih =>
    rw [← Nat.add_assoc, psum, ih, sz, getD_append_ge, sum_take_succ, Nat.add_assoc]

theorem validateIndex_ok (t : Tree) (i : Nat) (h : i < t.length) : t.validateIndex i = .ok (2 * i) := by
  unfold Tree.validateIndex
  exact if_neg (Nat.not_le.mpr (Nat.mul_lt_mul_of_pos_left h Nat.zero_lt_two))

theorem byteOffset_ok (C : Crypto) (bs : Array Bytes) (t : Tree) (f : File) (hT : RootsOK C bs t.changeset)
    (hN : NodesOK C bs t f) (hs : bs.size < 2 ^ 64) (i : Nat) (hi : i < bs.size) :
    t.byteOffset f i = .ok (psum bs i) := by
  have hoff := Replica.byteOffsetFromNodes_at C bs bs.size t f hs hT.roots_eq 0 i
    (by rw [Nat.pow_zero, Nat.mul_one]; exact hi) (Replica.leftStored_of_nodesOK hN _)
  rw [index_zero, Nat.pow_zero, Nat.mul_one] at hoff
  rw [Tree.byteOffset, validateIndex_ok t i (Nat.lt_of_lt_of_eq hi hT.length.symm)]
  exact hoff

theorem byteRange_ok (C : Crypto) (bs : Array Bytes) (t : Tree) (f : File) (hT : RootsOK C bs t.changeset)
    (hN : NodesOK C bs t f) (hs : bs.size < 2 ^ 64) (i : Nat) (hi : i < bs.size) :
    t.byteRange f i = .ok (psum bs i, sz bs i) :=
  Replica.byteRange_stored C bs bs.size t f hs hT.length hT.roots_eq i hi
    (hN 0 i (by rw [Nat.pow_zero, Nat.mul_one]; exact hi)) (Replica.leftStored_of_nodesOK hN i)

/-- the first hit of a search `0, 1, …, n - 1` for an index satisfying `p`, reported as `g k` -/
theorem findSome_if_spec (p : Nat → Bool) (g : Nat → Nat) (n : Nat) :
    (∀ r, (List.range n).findSome? (fun k => if p k then some (g k) else none) = some r →
        ∃ k, k < n ∧ p k = true ∧ r = g k ∧ ∀ k', k' < k → p k' = false)
      ∧ ((List.range n).findSome? (fun k => if p k then some (g k) else none) = none → ∀ k, k < n → p k = false) := by
  induction n with
  | zero => exact ⟨fun r h => (nomatch h), fun _ k hk => absurd hk (Nat.not_lt_zero k)⟩
  | succ n ih =>
    obtain ⟨ih1, ih2⟩ := ih
    rw [List.range_succ, List.findSome?_append]
    cases hprev : (List.range n).findSome? (fun k => if p k then some (g k) else none) with
    | some r0 =>
      obtain ⟨k, hk, hf, hr, hmin⟩ := ih1 r0 hprev
      exact ⟨fun r h => ⟨k, Nat.lt_succ_of_lt hk, hf, (Option.some.inj h).symm.trans hr, hmin⟩, fun h => nomatch h⟩
    | none =>
      have hnone := ih2 hprev
      rw [Option.none_or, List.findSome?_cons, List.findSome?_nil]
      cases hpn : p n with
      | false =>
        refine ⟨fun r h => (nomatch h), fun _ k hk => ?_⟩
        rcases Nat.lt_succ_iff_lt_or_eq.mp hk with hk | rfl
        · exact hnone k hk
        · exact hpn
      | true => exact ⟨fun r h => ⟨n, Nat.lt_succ_self n, hpn, (Option.some.inj h).symm, hnone⟩, fun h => nomatch h⟩

theorem indexOfTrue_spec (b : Bitfield) (pos : Nat) :
    (∀ i, b.indexOfTrue pos = some i → pos ≤ i ∧ b.get i = true ∧ ∀ j, pos ≤ j → j < i → b.get j = false)
      ∧ (b.indexOfTrue pos = none → ∀ j, pos ≤ j → b.get j = false) := by
  obtain ⟨s1, s2⟩ := findSome_if_spec (fun k => b.get (pos + k)) (fun k => pos + k) (b.bits.size - pos)
  refine ⟨fun i h => ?_, fun h j hj => ?_⟩
  · obtain ⟨k, hk, hp, rfl, hmin⟩ := s1 i h
    refine ⟨Nat.le_add_right _ _, hp, fun j hj1 hj2 => ?_⟩
    have := hmin (j - pos) (Nat.sub_lt_left_of_lt_add hj1 hj2)
    rwa [Nat.add_sub_cancel' hj1] at this
  · rcases Nat.lt_or_ge j b.bits.size with hlt | hge
    · have := s2 h (j - pos) (Nat.sub_lt_sub_right hj hlt)
      rwa [Nat.add_sub_cancel' hj] at this
    · exact getD_of_size_le _ _ _ hge

theorem lastIndexOfTrue_spec (b : Bitfield) (pos : Nat) :
    (∀ i, b.lastIndexOfTrue pos = some i → i ≤ pos ∧ b.get i = true ∧ ∀ j, i < j → j ≤ pos → b.get j = false)
      ∧ (b.lastIndexOfTrue pos = none → ∀ j, j ≤ pos → b.get j = false) := by
  unfold Bitfield.lastIndexOfTrue
  by_cases h0 : b.bits.size = 0
  · rw [if_pos h0]
    exact ⟨fun i h => (nomatch h), fun _ j _ => getD_of_size_le _ _ _ (h0 ▸ Nat.zero_le j)⟩
  · rw [if_neg h0]
    -- the search runs downwards from `top`; everything above `top` is beyond the bits
    have habove : ∀ j, min pos (b.bits.size - 1) < j → j ≤ pos → b.get j = false := fun j h1 h2 => by
      rcases Nat.le_total pos (b.bits.size - 1) with hp | hp
      · rw [Nat.min_eq_left hp] at h1; exact absurd h2 (Nat.not_le_of_lt h1)
      · rw [Nat.min_eq_right hp] at h1; exact getD_of_size_le _ _ _ (Nat.le_of_pred_lt h1)
    have ht : min pos (b.bits.size - 1) ≤ pos := Nat.min_le_left _ _
    generalize min pos (b.bits.size - 1) = top at habove ht
    obtain ⟨s1, s2⟩ := findSome_if_spec (fun k => b.get (top - k)) (fun k => top - k) (top + 1)
    refine ⟨fun i h => ?_, fun h j hj => ?_⟩
    · obtain ⟨k, hk, hp, rfl, hmin⟩ := s1 i h
      refine ⟨Nat.le_trans (Nat.sub_le _ _) ht, hp, fun j hj1 hj2 => ?_⟩
      rcases Nat.lt_or_ge top j with hjt | hjt
      · exact habove j hjt hj2
      · -- `top - k < j ≤ top` and `k ≤ top`, so `top - j < k`
        have := hmin (top - j) ((Nat.sub_lt_iff_lt_add hjt).mpr
          (Nat.add_comm j k ▸ (Nat.sub_lt_iff_lt_add (Nat.le_of_lt_succ hk)).mp hj1))
        rwa [Nat.sub_sub_self hjt] at this
    · rcases Nat.lt_or_ge top j with hjt | hjt
      · exact habove j hjt hj
      · have := s2 h (top - j) (Nat.lt_succ_of_le (Nat.sub_le _ _))
        rwa [Nat.sub_sub_self hjt] at this

theorem decide_and_false {p q : Prop} [Decidable p] [Decidable q] (h : ¬ (p ∧ q)) : (decide p && decide q) = false := by
  by_cases hp : p
  · rw [decide_eq_false fun hq => h ⟨hp, hq⟩, Bool.and_false]
  · rw [decide_eq_false hp, Bool.false_and]

/-- the held set after an append (`||`) and after a clear (`&& !`), as the bitfield's range update writes it -/
theorem or_range (x : Bool) (n k i : Nat) :
    (x || (decide (n ≤ i) && decide (i < n + k))) = if n ≤ i ∧ i < n + k then true else x := by
  by_cases h : n ≤ i ∧ i < n + k
  · rw [if_pos h, decide_eq_true h.1, decide_eq_true h.2, Bool.and_self, Bool.or_true]
  · rw [if_neg h, decide_and_false h, Bool.or_false]

theorem and_not_range (x : Bool) (s e i : Nat) :
    (x && !(decide (s ≤ i) && decide (i < e))) = if s ≤ i ∧ i < s + (e - s) then false else x := by
  by_cases h : s ≤ i ∧ i < e
  · rw [if_pos ⟨h.1, (Nat.add_sub_cancel' (Nat.le_of_lt (Nat.lt_of_le_of_lt h.1 h.2))).symm ▸ h.2⟩, decide_eq_true h.1,
      decide_eq_true h.2, Bool.and_self, Bool.not_true, Bool.and_false]
  · rw [if_neg fun h' => h ⟨h'.1, by omega⟩, decide_and_false h, Bool.not_false, Bool.and_true]
theorem get_setRange_true (b : Bitfield) (s n i : Nat) :
    (b.setRange s n true).get i = (b.get i || (decide (s ≤ i) && decide (i < s + n))) := by
  rw [Bitfield.get_setRange, or_range]

theorem get_setRange_false (b : Bitfield) (s e i : Nat) :
    (b.setRange s (e - s) false).get i = (b.get i && !(decide (s ≤ i) && decide (i < e))) := by
  rw [Bitfield.get_setRange, and_not_range]

theorem step_append (a : Abs) (batch : List Bytes) (hw : a.writable = true) (hne : batch ≠ []) :
    a.step (.append batch) =
      ({ a with blocks := a.blocks ++ batch.toArray,
                held := fun i => a.held i || (decide (a.blocks.size ≤ i) && decide (i < a.blocks.size + batch.length)) },
       .appended (a.blocks ++ batch.toArray).size (totalBytes (a.blocks ++ batch.toArray))) := by
  have hemp : batch.isEmpty = false := List.isEmpty_eq_false_iff.mpr hne
  simp only [Abs.step, hw, hemp, Bool.true_eq_false, Bool.false_eq_true, ite_false]

theorem step_clear (a : Abs) (s e : Nat) (hse : s < e) :
    a.step (.clear s e) = ({ a with held := fun i => a.held i && !(decide (s ≤ i) && decide (i < e)) }, .cleared) := by
  simp only [Abs.step, ge_iff_le, Nat.not_le.mpr hse, ite_false]

/-! ### the representation invariant -/

/-- sizes the on-disk format can represent -/
def Small (a : Abs) : Prop := a.blocks.size < 2 ^ 64 ∧ totalBytes a.blocks < 2 ^ 64

/-- the data store holds every held block at its prefix-sum offset -/
def DataOK (bs : Array Bytes) (held : Nat → Bool) (f : File) : Prop :=
  ∀ i, held i = true → ∀ k, k < sz bs i → psum bs i + k < f.size ∧ f.byte (psum bs i + k) = (bs.getD i []).getD k 0

structure Rep (C : Crypto) (c : Core) (d : Disk) (a : Abs) : Prop where
  writer : c.secret.isSome = a.writable
  tree : RootsOK C a.blocks c.tree.changeset
  nodes : NodesOK C a.blocks c.tree d.tree
  mapwf : MapWF c.tree.unflushed
  bits : ∀ i, c.bitfield.get i = a.held i
  heldLt : ∀ i, a.held i = true → i < a.blocks.size
  contig : FirstMissing c.bitfield c.header.contiguous
  data : ∀ i, a.held i = true → ∀ k, k < sz a.blocks i →
    psum a.blocks i + k < d.data.size ∧ d.data.byte (psum a.blocks i + k) = (a.blocks.getD i []).getD k 0
  small : Small a

theorem maybeFlush_eq (c : Core) :
    c.maybeFlush = if c.skipFlush = 0 ∨ c.oplog.entriesByteLength ≥ Spec.maxEntriesBytes
      then ({ c with skipFlush := Spec.flushEvery - 1 } : Core).flushAll false
      else ({ c with skipFlush := c.skipFlush - 1 }, []) := by
  split
  · rename_i h; exact maybeFlush_flush c h
  · rename_i h; exact maybeFlush_skip c h

/-- what one logged entry is, relative to the abstract log before and after it -/
inductive EntryStep (C : Crypto) : Abs → Entry → Abs → Prop
  | append (a : Abs) (batch : List Bytes) (nodes : List Node) (sig : Bytes) (fk : Nat) (hne : batch ≠ []) (hw : a.writable = true)
      (hsig : sig.length = 64)
      (sound : ∀ n ∈ nodes, ∃ d o, n = nodeAt C (a.blocks ++ batch.toArray) d o ∧ (o + 1) * 2 ^ d ≤ a.blocks.size + batch.length)
      (compl : ∀ d o, a.blocks.size < (o + 1) * 2 ^ d → (o + 1) * 2 ^ d ≤ a.blocks.size + batch.length →
        nodeAt C (a.blocks ++ batch.toArray) d o ∈ nodes)
      (hcount : nodes.length ≤ 2 * batch.length + 64) :
      EntryStep C a { treeNodes := nodes, treeUpgrade := some ⟨fk, a.blocks.size, a.blocks.size + batch.length, sig⟩,
                      bitfield := some ⟨false, a.blocks.size, batch.length⟩ } (a.step (.append batch)).1
  | clear (a : Abs) (s e : Nat) (hse : s < e) :
      EntryStep C a { bitfield := some ⟨true, s, e - s⟩ } (a.step (.clear s e)).1


/-- the entries logged since the last flush lead from the log at that flush to the current one -/
inductive Trace (C : Crypto) : Abs → List Entry → Abs → Prop
  | nil (a : Abs) : Trace C a [] a
  | cons (a a1 a2 : Abs) (e : Entry) (es : List Entry) : EntryStep C a e a1 → Small a1 → Trace C a1 es a2 → Trace C a (e :: es) a2


theorem DataOK.read_block {bs : Array Bytes} {held : Nat → Bool} {f : File} (h : DataOK bs held f) (i : Nat) (hi : held i = true)
    (hz : sz bs i ≠ 0) : f.read (psum bs i) (sz bs i) = some (bs.getD i []) := by
  obtain ⟨m, hm⟩ := Nat.exists_eq_succ_of_ne_zero hz
  refine File.read_of_bytes f (psum bs i) (bs.getD i []) ?_ fun k hk => (h i hi k hk).2
  show psum bs i + sz bs i ≤ _
  rw [hm]
  exact (h i hi m (hm ▸ Nat.lt_succ_self m)).1

theorem getBlock_eq (C : Crypto) (c : Core) (d : Disk) (a : Abs) (h : Rep C c d a) (i : Nat) :
    c.getBlock d i = { core := c, result := .ok (if a.held i then some (a.blocks.getD i []) else none),
                       events := if a.held i then [] else [.get i] } := by
  unfold Core.getBlock
  rw [h.bits i]
  cases hheld : a.held i with
  | false => rfl
  | true =>
    rw [byteRange_ok C a.blocks c.tree d.tree h.tree h.nodes h.small.1 i (h.heldLt i hheld)]
    simp only [Bool.not_true, Bool.false_eq_true, ite_false, ite_true]
    by_cases hz : sz a.blocks i = 0
    · rw [if_pos hz, List.eq_nil_of_length_eq_zero hz]
    · rw [if_neg hz, DataOK.read_block h.data i hheld hz]

theorem get_refines (C : Crypto) (c : Core) (d : Disk) (a : Abs) (h : Rep C c d a) (i : Nat) :
    stepC C (c, d) (.get i) = ((c, d), (a.step (.get i)).2) := by
  show (((c.getBlock d i).core, d.applyAll (c.getBlock d i).journal), obsOf (c.getBlock d i).result _) = _
  rw [getBlock_eq C c d a h i]
  rfl

theorem has_refines (C : Crypto) (c : Core) (d : Disk) (a : Abs) (h : Rep C c d a) (i : Nat) :
    stepC C (c, d) (.has i) = ((c, d), (a.step (.has i)).2) :=
  congrArg (fun b => ((c, d), Obs.has b)) (h.bits i)

theorem info_refines (C : Crypto) (c : Core) (d : Disk) (a : Abs) (h : Rep C c d a) :
    stepC C (c, d) .info = ((c, d), (a.step .info).2) := by
  have hlen : c.tree.length = a.blocks.size := h.tree.length
  have hbytes : c.tree.byteLength = totalBytes a.blocks := h.tree.bytes
  -- the hint is the first missing index
  obtain ⟨f1, _, f3, f4⟩ := firstMissing_spec a.held a.blocks.size 0
  obtain ⟨c1, c2⟩ := h.contig
  have hcl : c.header.contiguous = firstMissing a.held a.blocks.size 0 := by
    generalize hm : firstMissing a.held a.blocks.size 0 = m at f1 f3 f4
    have hm_false : a.held m = false := by
      by_cases hlt : m < 0 + a.blocks.size
      · exact f4 hlt
      · cases hh : a.held m with
        | false => rfl
        | true => exact absurd ((Nat.zero_add _).symm ▸ h.heldLt m hh) hlt
    rcases Nat.lt_trichotomy c.header.contiguous m with hlt | heq | hgt
    · have := f1 _ (Nat.zero_le _) hlt
      rw [← h.bits] at this
      rw [c2] at this; cases this
    · exact heq
    · have := c1 m hgt
      rw [h.bits, hm_false] at this; cases this
  show ((c, d), Obs.info c.tree.length c.tree.byteLength c.header.contiguous c.secret.isSome)
    = ((c, d), Obs.info a.blocks.size (totalBytes a.blocks) (firstMissing a.held a.blocks.size 0) a.writable)
  rw [hlen, hbytes, hcl, h.writer]

/-- the calls that change nothing: reads, an append by a reader or of an empty batch, a clear of an empty
    range, `make_read_only` on a reader -/
def Idle (a : Abs) : Op → Prop
  | .append batch => a.writable = false ∨ batch = []
  | .clear s e => s ≥ e
  | .makeReadOnly => a.writable = false
  | _ => True

theorem idle_step (C : Crypto) (c : Core) (d : Disk) (a : Abs) (h : Rep C c d a) (op : Op) (hi : Idle a op) :
    stepC C (c, d) op = ((c, d), (a.step op).2) ∧ (a.step op).1 = a ∧ journalC C (c, d) op = [] := by
  cases op with
  | get i => exact ⟨get_refines C c d a h i, rfl, congrArg Step.journal (getBlock_eq C c d a h i)⟩
  | has i => exact ⟨has_refines C c d a h i, rfl, rfl⟩
  | info => exact ⟨info_refines C c d a h, rfl, rfl⟩
  | makeReadOnly =>
    have hi : a.writable = false := hi
    have hc : c.makeReadOnly = { core := c, result := .ok false } := makeReadOnly_reader c (h.writer.trans hi)
    have ha : a.step .makeReadOnly = (a, Obs.readOnly false) := if_neg (hi ▸ Bool.false_ne_true)
    rw [ha]
    exact ⟨by show ((c.makeReadOnly.core, d.applyAll c.makeReadOnly.journal), obsOf c.makeReadOnly.result _) = _; rw [hc]; rfl,
      rfl, congrArg Step.journal hc⟩
  | clear s e =>
    have hi : s ≥ e := hi
    have hc : c.clear d s e = { core := c, result := .ok () } := if_pos hi
    have ha : a.step (.clear s e) = (a, Obs.cleared) := if_pos hi
    rw [ha]
    exact ⟨by show (((c.clear d s e).core, d.applyAll (c.clear d s e).journal), obsOf (c.clear d s e).result _) = _; rw [hc]; rfl,
      rfl, congrArg Step.journal hc⟩
  | append batch =>
    have hstep : stepC C (c, d) (.append batch) = (((c.appendBatch C batch).core, d.applyAll (c.appendBatch C batch).journal),
      obsOf (c.appendBatch C batch).result fun o => .appended o.length o.byteLength) := rfl
    cases hw : a.writable with
    | false =>
      have hs : c.secret = none := Option.isSome_eq_false_iff.mp (h.writer.trans hw) |> Option.isNone_iff_eq_none.mp
      have hc : c.appendBatch C batch = { core := c, result := .error .err } := by rw [Core.appendBatch, hs]
      have ha : a.step (.append batch) = (a, Obs.failed .err) := if_pos hw
      rw [ha, hstep, hc]
      exact ⟨rfl, rfl, congrArg Step.journal hc⟩
    | true =>
      obtain ⟨seed, hs⟩ : ∃ seed, c.secret = some seed := Option.isSome_iff_exists.mp (h.writer.trans hw)
      have hb : batch = [] := hi.resolve_left (by rw [hw]; exact Bool.noConfusion)
      subst hb
      have hc : c.appendBatch C [] = { core := c, result := .ok ⟨c.tree.length, c.tree.byteLength⟩ } := by
        rw [Core.appendBatch, hs]; rfl
      have ha : a.step (.append []) = (a, Obs.appended a.blocks.size (totalBytes a.blocks)) :=
        (if_neg (hw ▸ Bool.noConfusion)).trans (if_pos rfl)
      have hl : c.tree.length = a.blocks.size := h.tree.length
      have hbytes : c.tree.byteLength = totalBytes a.blocks := h.tree.bytes
      rw [ha, hstep, hc, ← hl, ← hbytes]
      exact ⟨rfl, rfl, congrArg Step.journal hc⟩

theorem not_idle_append {a : Abs} {batch : List Bytes} (h : ¬ Idle a (.append batch)) : a.writable = true ∧ batch ≠ [] :=
  ⟨by cases hw : a.writable with
      | true => rfl
      | false => exact absurd (Or.inl hw) h, fun e => h (Or.inr e)⟩

/-- what a flush (either kind) preserves: the tree's roots, the lookup, the bitfield's bits, the header, the
    secret, and the data store -/
theorem flushAll_keeps (C : Crypto) (hC : HashWF C) (bs : Array Bytes) (c : Core) (d : Disk) (ct : Bool)
    (hN : NodesOK C bs c.tree d.tree) (hwf : MapWF c.tree.unflushed) :
    (c.flushAll ct).1.tree.changeset = c.tree.changeset ∧ NodesOK C bs (c.flushAll ct).1.tree (d.applyAll (c.flushAll ct).2).tree
      ∧ MapWF (c.flushAll ct).1.tree.unflushed
      ∧ (∀ i, (c.flushAll ct).1.bitfield.get i = c.bitfield.get i) ∧ (c.flushAll ct).1.header = c.header
      ∧ (c.flushAll ct).1.secret = c.secret ∧ (d.applyAll (c.flushAll ct).2).data = d.data := by
  -- pages first, then the nodes (`nodesOK_flush`, on the disk the pages have reached), then the header
  obtain ⟨f1, f2, _⟩ := nodesOK_flush C hC bs c.tree (d.applyAll c.bitfield.flush.2) hwf
    (by rw [Journal.applyAll_tree (Journal.bitfieldFlush_store _)]; exact hN)
  refine ⟨rfl, ?_, f2, fun _ => rfl, rfl, rfl, Journal.applyAll_data_off (flushAll_off_data c ct)⟩
  rw [flushAll_snd, Journal.applyAll_append, Journal.applyAll_append, Journal.applyAll_tree (Journal.oplogFlush_store _ _ _)]
  exact f1

/-- `Rep` reads the secret, the tree, the bitfield and the hint of the core, nothing else -/
theorem Rep.of_core {C : Crypto} {c : Core} {d : Disk} {a : Abs} (h : Rep C c d a) (c' : Core) (hs : c'.secret = c.secret)
    (ht : c'.tree = c.tree) (hb : c'.bitfield = c.bitfield) (hh : c'.header.contiguous = c.header.contiguous) :
    Rep C c' d a :=
  { writer := hs ▸ h.writer
    tree := ht ▸ h.tree
    nodes := ht ▸ h.nodes
    mapwf := ht ▸ h.mapwf
    bits := hb ▸ h.bits
    heldLt := h.heldLt
    contig := hb ▸ hh ▸ h.contig
    data := h.data
    small := h.small }

theorem Rep.flushAll {C : Crypto} {c : Core} {d : Disk} {a : Abs} (h : Rep C c d a) (hC : HashWF C) (ct : Bool) :
    Rep C (c.flushAll ct).1 (d.applyAll (c.flushAll ct).2) a := by
  obtain ⟨_, hnodes, hmap, _, _, _, hdata⟩ := flushAll_keeps C hC a.blocks c d ct h.nodes h.mapwf
  exact { h with nodes := hnodes, mapwf := hmap, data := by rw [hdata]; exact h.data }

theorem maybeFlush_rep (C : Crypto) (hC : HashWF C) (c : Core) (d : Disk) (a : Abs) (h : Rep C c d a) :
    Rep C c.maybeFlush.1 (d.applyAll c.maybeFlush.2) a := by
  by_cases hf : c.skipFlush = 0 ∨ c.oplog.entriesByteLength ≥ Spec.maxEntriesBytes
  · rw [maybeFlush_flush c hf]
    exact (h.of_core { c with skipFlush := Spec.flushEvery - 1 } rfl rfl rfl rfl).flushAll hC false
  · rw [maybeFlush_skip c hf]
    exact h.of_core _ rfl rfl rfl rfl

theorem rep_drop_secret (C : Crypto) (c : Core) (d : Disk) (a : Abs) (h : Rep C c d a) :
    Rep C { c with secret := none, header := { c.header with secret := none } } d { a with writable := false } :=
  { h with writer := rfl }

theorem makeReadOnly_refines (C : Crypto) (hC : HashWF C) (c : Core) (d : Disk) (a : Abs) (h : Rep C c d a) :
    (stepC C (c, d) .makeReadOnly).2 = (a.step .makeReadOnly).2
      ∧ Rep C (stepC C (c, d) .makeReadOnly).1.1 (stepC C (c, d) .makeReadOnly).1.2 (a.step .makeReadOnly).1 := by
  cases hw : a.writable with
  | true =>
    have hstep : stepC C (c, d) .makeReadOnly
        = ((c.makeReadOnly.core, d.applyAll c.makeReadOnly.journal), obsOf c.makeReadOnly.result fun b => .readOnly b) := rfl
    have habs : a.step .makeReadOnly = ({ a with writable := false }, Obs.readOnly true) := by simp only [Abs.step, hw, ite_true]
    rw [hstep, habs, makeReadOnly_writer c (h.writer.trans hw)]
    exact ⟨rfl, (rep_drop_secret C c d a h).flushAll hC true⟩
  | false =>
    obtain ⟨e1, e2, _⟩ := idle_step C c d a h .makeReadOnly hw
    rw [e1, e2]; exact ⟨rfl, h⟩

/-! ### clear -/

theorem psum_succ_gt (bs : Array Bytes) (i k : Nat) (hk : k < sz bs i) : psum bs i + k < psum bs (i + 1) :=
  Nat.add_lt_add_left hk _

theorem data_after_del (bs : Array Bytes) (held held' : Nat → Bool) (f g : File) (s' e' : Nat)
    (hdata : DataOK bs held f)
    (hsub : ∀ i, held' i = true → held i = true)
    (hhole : ∀ j, s' ≤ j → j < e' → held' j = false) (hle : s' ≤ e')
    (hg : f.del (psum bs s') (psum bs e' - psum bs s') = some g) :
    DataOK bs held' g := by
  intro i hi k hk
  obtain ⟨d1, d2⟩ := hdata i (hsub i hi) k hk
  rcases File.del_spec f g _ _ hg with ⟨_, hlow, hhigh, hkeep, hoff⟩ | ⟨_, rfl⟩
  · rw [Nat.add_sub_cancel' (psum_mono bs hle)] at hhigh hkeep
    rcases Nat.lt_or_ge i s' with hlt | hge
    · -- a block below the hole ends where the hole starts, or before
      have h1 : psum bs i + k < psum bs s' := Nat.lt_of_lt_of_le (psum_succ_gt bs i k hk) (psum_mono bs hlt)
      exact ⟨Nat.lt_of_lt_of_le h1 hoff, (hlow _ h1).trans d2⟩
    · -- a held block that is not below the hole is above it, and then the file keeps its size
      have hge : e' ≤ i := Nat.le_of_not_lt fun h => by rw [hhole i hge h] at hi; cases hi
      have h2 : psum bs e' ≤ psum bs i + k := Nat.le_trans (psum_mono bs hge) (Nat.le_add_right _ _)
      exact ⟨(hkeep (Nat.lt_of_le_of_lt h2 d1)).symm ▸ d1, (hhigh _ h2).trans d2⟩
  · exact ⟨d1, d2⟩

/-- deleting the bytes of a hole (or nothing, if it starts beyond the end of the store) keeps the blocks outside it -/
theorem dataOK_del (bs : Array Bytes) (held held' : Nat → Bool) (f : File) (s' e' : Nat) (hdata : DataOK bs held f)
    (hsub : ∀ i, held' i = true → held i = true) (hhole : ∀ j, s' ≤ j → j < e' → held' j = false) (hle : s' ≤ e') :
    DataOK bs held' (if psum bs s' > f.size then f else (f.del (psum bs s') (psum bs e' - psum bs s')).getD f) := by
  have hkeep : DataOK bs held' f := fun i hi => hdata i (hsub i hi)
  split
  · exact hkeep
  · cases hdel : f.del (psum bs s') (psum bs e' - psum bs s') with
    | none => exact hkeep
    | some g => exact data_after_del bs held held' f g s' e' hdata hsub hhole hle hdel

theorem holeStart_spec (bf : Bitfield) (start : Nat) (hfalse : bf.get start = false) :
    holeStart bf start ≤ start ∧ (∀ j, holeStart bf start ≤ j → j ≤ start → bf.get j = false) := by
  obtain ⟨l1, l2⟩ := lastIndexOfTrue_spec bf start
  unfold holeStart
  cases h : bf.lastIndexOfTrue start with
  | none => exact ⟨Nat.zero_le _, fun j _ hj => l2 h j hj⟩
  | some i =>
    obtain ⟨a1, a2, a3⟩ := l1 i h
    have : i ≠ start := by intro e; rw [e, hfalse] at a2; cases a2
    exact ⟨Nat.lt_of_le_of_ne a1 this, fun j h1 h2 => a3 j h1 h2⟩

theorem holeEnd_spec (bf : Bitfield) (fin len : Nat) (hlen : ∀ i, bf.get i = true → i < len) :
    holeEnd bf fin len ≤ len ∧ min fin len ≤ holeEnd bf fin len ∧ (∀ j, fin ≤ j → j < holeEnd bf fin len → bf.get j = false) := by
  obtain ⟨l1, l2⟩ := indexOfTrue_spec bf fin
  unfold holeEnd
  cases h : bf.indexOfTrue fin with
  | none => exact ⟨Nat.le_refl _, Nat.min_le_right _ _, fun j hj _ => l2 h j hj⟩
  | some i =>
    obtain ⟨a1, a2, a3⟩ := l1 i h
    exact ⟨Nat.le_of_lt (hlen i a2), Nat.le_trans (Nat.min_le_left _ _) a1, a3⟩

/-- the widest hole around a cleared range `[s, e)` of a log of `len` blocks -/
theorem clear_hole (bf : Bitfield) (s e len : Nat) (hse : s < e) (hsn : s < len)
    (hclr : ∀ j, s ≤ j → j < e → bf.get j = false) (hlen : ∀ i, bf.get i = true → i < len) :
    holeStart bf s ≤ s ∧ s < holeEnd bf e len ∧ holeEnd bf e len ≤ len
      ∧ ∀ j, holeStart bf s ≤ j → j < holeEnd bf e len → bf.get j = false := by
  obtain ⟨hs1, hs2⟩ := holeStart_spec bf s (hclr s (Nat.le_refl s) hse)
  obtain ⟨he1, he2, he3⟩ := holeEnd_spec bf e len hlen
  refine ⟨hs1, Nat.lt_of_lt_of_le (Nat.lt_min.mpr ⟨hse, hsn⟩) he2, he1, fun j h1 h2 => ?_⟩
  by_cases hjs : j ≤ s
  · exact hs2 j h1 hjs
  · by_cases hje : j < e
    · exact hclr j (Nat.le_of_lt (Nat.lt_of_not_le hjs)) hje
    · exact he3 j (Nat.le_of_not_lt hje) h2

/-- the core after a `clear` with `start < end`, before its flush decision -/
def afterClear (c : Core) (s e : Nat) : Core :=
  { c with oplog := (Oplog.appendEntry c.oplog { bitfield := some ⟨true, s, e - s⟩ }).1
           bitfield := c.bitfield.setRange s (e - s) false
           header := if s < c.header.contiguous then { c.header with contiguous := s } else c.header }

theorem afterClear_header (c : Core) (s e : Nat) : ∃ cc, (afterClear c s e).header = { c.header with contiguous := cc } := by
  show ∃ cc, (if s < c.header.contiguous then _ else c.header) = _
  split
  · exact ⟨s, rfl⟩
  · exact ⟨c.header.contiguous, rfl⟩

theorem clear_eq (c : Core) (d : Disk) (s e s' e' off lo ll : Nat) (hse : s < e)
    (hs' : holeStart (c.bitfield.setRange s (e - s) false) s = s')
    (he' : holeEnd (c.bitfield.setRange s (e - s) false) e c.tree.length = e')
    (hoff : c.tree.byteOffset d.tree s' = .ok off) (he0 : e' ≠ 0)
    (hrng : c.tree.byteRange d.tree (e' - 1) = .ok (lo, ll)) (hle : ¬ lo + ll < off) :
    c.clear d s e =
      { core := (afterClear c s e).maybeFlush.1, result := .ok ()
        journal := (Oplog.appendEntry c.oplog { bitfield := some ⟨true, s, e - s⟩ }).2
          ++ (if off > d.data.size then [] else [.del .data off (lo + ll - off)]) ++ (afterClear c s e).maybeFlush.2 } := by
  have hd : (d.applyAll (Oplog.appendEntry c.oplog { bitfield := some ⟨true, s, e - s⟩ }).2).data = d.data := rfl
  -- `Core.clear` unfolded once, each of its tests and lookups decided by a hypothesis
  simp only [Core.clear, ge_iff_le, Nat.not_le.mpr hse, ite_false, hs', he', hoff, he0, hrng, hle, hd]
  rfl

/-- `clear` deletes the hole's bytes unless the hole starts beyond the end of the data store -/
theorem clear_del_ops (off len size : Nat) (j2 : List SOp)
    (hj2 : (if off > size then [] else [SOp.del .data off len]) = j2) :
    (∀ op ∈ j2, op.store = .data) ∧ j2.length ≤ 1 ∧ (∀ op ∈ j2, ∀ st o b, op ≠ SOp.write st o b)
      ∧ ∀ d : Disk, d.data.size = size →
          (d.applyAll j2).data = if off > size then d.data else (d.data.del off len).getD d.data := by
  subst hj2
  split
  · exact ⟨fun _ h => absurd h List.not_mem_nil, Nat.zero_le _, fun _ h => absurd h List.not_mem_nil, fun _ _ => rfl⟩
  · refine ⟨fun op h => ?_, Nat.le_refl _, fun op h st o b e => ?_, fun d _ => ?_⟩
    · rw [List.mem_singleton.mp h]; rfl
    · rw [List.mem_singleton.mp h] at e; cases e
    · rw [Disk.applyAll_one, Journal.apply_data]; exact if_pos rfl

theorem apply_oplog_write (d : Disk) (off : Nat) (bs : Bytes) :
    (d.apply (.write .oplog off bs)).tree = d.tree ∧ (d.apply (.write .oplog off bs)).bitfield = d.bitfield
      ∧ (d.apply (.write .oplog off bs)).data = d.data ∧ (d.apply (.write .oplog off bs)).oplog = d.oplog.write off bs :=
  ⟨rfl, rfl, rfl, rfl⟩

theorem psum_pred (bs : Array Bytes) (n : Nat) (h : n ≠ 0) : psum bs (n - 1) + sz bs (n - 1) = psum bs n := by
  obtain ⟨m, rfl⟩ := Nat.exists_eq_succ_of_ne_zero h
  rfl

theorem clear_rep (C : Crypto) (c : Core) (d d1 : Disk) (a : Abs) (h : Rep C c d a) (s e : Nat) (hse : s < e)
    (htree : d1.tree = d.tree)
    (hdata : DataOK a.blocks (fun i => a.held i && !(decide (s ≤ i) && decide (i < e))) d1.data) :
    Rep C (afterClear c s e) d1 { a with held := fun i => a.held i && !(decide (s ≤ i) && decide (i < e)) } :=
  { h with
    nodes := by rw [htree]; exact h.nodes
    bits := fun i => by
      show (c.bitfield.setRange s (e - s) false).get i = (a.held i && _)
      rw [get_setRange_false, h.bits]
    heldLt := fun i hi => h.heldLt i (Bool.and_eq_true_iff.mp hi).1
    -- the header's rule is `updateContiguous` for a dropping update
    contig := updateContiguous_spec c.header c.bitfield ⟨true, s, e - s⟩ h.contig (Nat.sub_pos_of_lt hse)
    data := hdata }

/-- a `clear` (with `start < end`) up to its flush decision -/
theorem clear_shape (C : Crypto) (c : Core) (d : Disk) (a : Abs) (h : Rep C c d a) (s e : Nat)
    (hse0 : s < e) (hv : Valid a (.clear s e)) :
    ∃ (c1 : Core) (j01 : List SOp),
      stepC C (c, d) (.clear s e) = ((c1.maybeFlush.1, d.applyAll (j01 ++ c1.maybeFlush.2)), Obs.cleared)
      ∧ Rep C c1 (d.applyAll j01) (a.step (.clear s e)).1
      ∧ (d.applyAll j01).tree = d.tree ∧ (d.applyAll j01).bitfield = d.bitfield
      ∧ c1.bitfield = c.bitfield.setRange s (e - s) false
      ∧ c1.header.tree = c.header.tree ∧ c1.header.secret = c.header.secret ∧ c1.secret = c.secret
      ∧ c1.oplog = (Oplog.appendEntry c.oplog { bitfield := some ⟨true, s, e - s⟩ }).1
      ∧ (d.applyAll j01).oplog = d.oplog.write (Spec.entriesOffset + c.oplog.entriesByteLength)
          (frame (encEntry { bitfield := some ⟨true, s, e - s⟩ }) c.oplog.currentBit false)
      ∧ c1.tree = c.tree
      ∧ (∃ cc, c1.header = { c.header with contiguous := cc })
      ∧ (c.clear d s e).journal = j01 ++ c1.maybeFlush.2
      ∧ (∃ j2, j01 = SOp.write .oplog (Spec.entriesOffset + c.oplog.entriesByteLength) (frame (encEntry { bitfield := some ⟨true, s, e - s⟩ }) c.oplog.currentBit false) :: j2
          ∧ (∀ op ∈ j2, op.store = .data) ∧ j2.length ≤ 1 ∧ (∀ op ∈ j2, ∀ st o b, op ≠ SOp.write st o b)) := by
  have hlen : c.tree.length = a.blocks.size := h.tree.length
  have hbits : ∀ i, (c.bitfield.setRange s (e - s) false).get i = (a.held i && !(decide (s ≤ i) && decide (i < e))) :=
    fun i => by rw [get_setRange_false, h.bits]
  -- the hole and its byte range
  obtain ⟨hs1, hs2, he1, hhole⟩ := clear_hole (c.bitfield.setRange s (e - s) false) s e c.tree.length hse0
    (by rw [hlen]; exact hv hse0)
    (fun j h1 h2 => by rw [hbits, decide_eq_true h1, decide_eq_true h2]; exact Bool.and_false _)
    (fun i hi => by rw [hlen]; rw [hbits] at hi; exact h.heldLt i (Bool.and_eq_true_iff.mp hi).1)
  generalize hs' : holeStart (c.bitfield.setRange s (e - s) false) s = s' at hs1 hhole
  generalize he' : holeEnd (c.bitfield.setRange s (e - s) false) e c.tree.length = e' at hs2 he1 hhole
  rw [hlen] at he1
  have he0 : e' ≠ 0 := Nat.ne_zero_of_lt hs2
  have hle : s' ≤ e' := Nat.le_of_lt (Nat.lt_of_le_of_lt hs1 hs2)
  have hoff := byteOffset_ok C a.blocks c.tree d.tree h.tree h.nodes h.small.1 s' (Nat.lt_of_lt_of_le (Nat.lt_of_le_of_lt hs1 hs2) he1)
  have hrng := byteRange_ok C a.blocks c.tree d.tree h.tree h.nodes h.small.1 (e' - 1) (Nat.lt_of_lt_of_le (Nat.sub_one_lt he0) he1)
  have heq := clear_eq c d s e s' e' _ _ _ hse0 hs' he' hoff he0 hrng
    (by rw [psum_pred a.blocks e' he0]; exact Nat.not_lt.mpr (psum_mono a.blocks hle))
  rw [psum_pred a.blocks e' he0] at heq
  -- the data store after the delete
  have hdata := dataOK_del a.blocks a.held (fun i => a.held i && !(decide (s ≤ i) && decide (i < e))) d.data s' e' h.data
    (fun i hi => (Bool.and_eq_true_iff.mp hi).1) (fun j h1 h2 => by rw [← hbits]; exact hhole j h1 h2) hle
  generalize hj2 : (if psum a.blocks s' > d.data.size then ([] : List SOp)
    else [SOp.del .data (psum a.blocks s') (psum a.blocks e' - psum a.blocks s')]) = j2 at heq
  obtain ⟨hj2s, hj2l, hj2w, hj2d⟩ := clear_del_ops _ _ _ j2 hj2
  obtain ⟨cc, hcc⟩ := afterClear_header c s e
  obtain ⟨hwt, hwb, hwd, hwo⟩ := apply_oplog_write d (Spec.entriesOffset + c.oplog.entriesByteLength)
    (frame (encEntry { bitfield := some ⟨true, s, e - s⟩ }) c.oplog.currentBit false)
  refine ⟨afterClear c s e, _ :: j2, ?_, ?_, ?_, ?_, rfl, ?_, ?_, rfl, rfl, ?_, rfl, ⟨cc, hcc⟩, congrArg Step.journal heq, j2, rfl,
    hj2s, hj2l, hj2w⟩
  · show (((c.clear d s e).core, d.applyAll (c.clear d s e).journal), obsOf (c.clear d s e).result _) = _
    rw [heq]; rfl
  · rw [step_clear a s e hse0, Disk.applyAll_cons]
    exact clear_rep C c d _ a h s e hse0 (by rw [Journal.applyAll_tree hj2s, hwt])
      (by rw [hj2d _ (congrArg File.size hwd), hwd]; exact hdata)
  · rw [Disk.applyAll_cons, Journal.applyAll_tree hj2s, hwt]
  · rw [Disk.applyAll_cons, Journal.applyAll_bitfield hj2s, hwb]
  · rw [hcc]
  · rw [hcc]
  · rw [Disk.applyAll_cons, Journal.applyAll_oplog hj2s, hwo]

theorem clear_refines (C : Crypto) (hC : HashWF C) (c : Core) (d : Disk) (a : Abs) (h : Rep C c d a) (s e : Nat)
    (hv : Valid a (.clear s e)) :
    (stepC C (c, d) (.clear s e)).2 = (a.step (.clear s e)).2
      ∧ Rep C (stepC C (c, d) (.clear s e)).1.1 (stepC C (c, d) (.clear s e)).1.2 (a.step (.clear s e)).1 := by
  by_cases hi : Idle a (.clear s e)
  · obtain ⟨e1, e2, _⟩ := idle_step C c d a h _ hi
    rw [e1, e2]; exact ⟨rfl, h⟩
  have hse : s < e := Nat.lt_of_not_le hi
  obtain ⟨c1, j01, hstep, hrep, _⟩ := clear_shape C c d a h s e hse hv
  rw [hstep, Journal.applyAll_append, step_clear a s e hse]
  exact ⟨rfl, by rw [step_clear a s e hse] at hrep; exact maybeFlush_rep C hC c1 _ _ hrep⟩

/-! ### append -/

theorem flatten_getD (l : List Bytes) : ∀ (j x : Nat), x < (l.getD j []).length →
    ((l.take j).map List.length).sum + x < l.flatten.length
      ∧ l.flatten.getD (((l.take j).map List.length).sum + x) 0 = (l.getD j []).getD x 0 := by
  induction l with
  | nil => intro j x hx; exact absurd hx (Nat.not_lt_zero x)
  | cons b rest ih =>
    intro j x hx
    cases j with
    | zero =>
      show 0 + x < (b ++ rest.flatten).length ∧ (b ++ rest.flatten).getD (0 + x) 0 = b.getD x 0
      rw [Nat.zero_add, List.length_append]
      exact ⟨Nat.lt_of_lt_of_le hx (Nat.le_add_right _ _), File.getD_append_left _ _ _ hx⟩
    | succ j =>
      obtain ⟨i1, i2⟩ := ih j x hx
      show b.length + ((rest.take j).map List.length).sum + x < (b ++ rest.flatten).length
        ∧ (b ++ rest.flatten).getD (b.length + ((rest.take j).map List.length).sum + x) 0 = (rest.getD j []).getD x 0
      rw [Nat.add_assoc, List.length_append, File.getD_append_right _ _ _ (Nat.le_add_right _ _), Nat.add_sub_cancel_left]
      exact ⟨Nat.add_lt_add_left i1 _, i2⟩

theorem sz_append_lt (bs : Array Bytes) (l : List Bytes) (i : Nat) (h : i < bs.size) : sz (bs ++ l.toArray) i = sz bs i := by
  simp only [sz, getD_append_lt bs l i h]

theorem size_append_list (bs : Array Bytes) (l : List Bytes) : (bs ++ l.toArray).size = bs.size + l.length := by
  simp only [Array.size_append, List.size_toArray]

/-- a write at the end of the log's bytes, complete or partial, is behind every held block -/
theorem dataOK_write_behind (bs : Array Bytes) (held : Nat → Bool) (f : File) (buf : Bytes) (h : DataOK bs held f)
    (hlt : ∀ i, held i = true → i < bs.size) : DataOK bs held (f.write (totalBytes bs) buf) := by
  intro i hi k hk
  obtain ⟨o1, o2⟩ := h i hi k hk
  have hb : psum bs i + k < totalBytes bs :=
    psum_total bs ▸ Nat.lt_of_lt_of_le (psum_succ_gt bs i k hk) (psum_mono bs (hlt i hi))
  obtain ⟨w1, w2⟩ := File.write_outside f (totalBytes bs) buf _ o1 (Or.inl hb)
  exact ⟨w1, w2.trans o2⟩

theorem dataOK_append (bs : Array Bytes) (held : Nat → Bool) (f : File) (batch : List Bytes) (h : DataOK bs held f)
    (hlt : ∀ i, held i = true → i < bs.size) :
    DataOK (bs ++ batch.toArray) (fun i => held i || (decide (bs.size ≤ i) && decide (i < bs.size + batch.length)))
      (f.write (totalBytes bs) batch.flatten) := by
  intro i hi k hk
  rcases Nat.lt_or_ge i bs.size with hin | hin
  · -- an old block
    beta_reduce at hi
    rw [or_range, if_neg fun c => Nat.not_le_of_lt hin c.1] at hi
    rw [sz_append_lt bs batch i hin] at hk
    rw [psum_append_le bs batch i (Nat.le_of_lt hin), getD_append_lt bs batch i hin]
    exact dataOK_write_behind bs held f _ h hlt i hi k hk
  · -- block `j` of the batch lies `sum of the lengths before it` into the write
    obtain ⟨j, rfl⟩ : ∃ j, i = bs.size + j := ⟨i - bs.size, (Nat.add_sub_cancel' hin).symm⟩
    rw [sz, getD_append_ge] at hk
    obtain ⟨f1, f2⟩ := flatten_getD batch j k hk
    obtain ⟨w1, w2⟩ := File.write_inside f (totalBytes bs) batch.flatten _ f1
    rw [psum_append_new, getD_append_ge, psum_total, Nat.add_assoc]
    exact ⟨w1, w2.trans f2⟩

theorem nodeAt_length_lt (C : Crypto) (bs : Array Bytes) (d o : Nat) (hb : (o + 1) * 2 ^ d ≤ bs.size)
    (h : totalBytes bs < 2 ^ 64) : (nodeAt C bs d o).length < 2 ^ 64 := by
  exact Nat.lt_of_le_of_lt (Nat.le_trans (nodeAt_length_le C bs d o) (psum_total bs ▸ psum_mono bs hb)) h

/-- reference nodes of a log that fits the format keep the unflushed map well formed -/
theorem mapWF_insertAll_ref (C : Crypto) (hC : HashWF C) (bs : Array Bytes) (more : List Bytes) (m : NMap) (l : List Node)
    (hm : MapWF m) (hsmall : totalBytes (bs ++ more.toArray) < 2 ^ 64)
    (sound : ∀ n ∈ l, ∃ d o, n = nodeAt C (bs ++ more.toArray) d o ∧ (o + 1) * 2 ^ d ≤ bs.size + more.length) :
    MapWF (insertAll m l) :=
  mapWF_insertAll l m hm fun n hn => by
    obtain ⟨d, o, rfl, hb⟩ := sound n hn
    exact ⟨nodeAt_hash_len C hC _ _ _, nodeAt_length_lt C _ d o (by rw [size_append_list]; exact hb) hsmall⟩

/-- signatures are 64 bytes (Ed25519) -/
def SignWF (C : Crypto) : Prop := ∀ seed msg, (C.sign seed msg).length = 64

theorem foldl_append_batchLength (C : Crypto) (batch : List Bytes) (cs : Changeset) :
    (batch.foldl (Tree.append C) cs).batchLength = cs.batchLength + batch.length := by
  induction batch generalizing cs with
  | nil => rfl
  | cons b rest ih => rw [List.foldl_cons, ih, List.length_cons, Nat.add_comm rest.length, ← Nat.add_assoc]; rfl

/-- the nodes a batch adds: reference nodes of the extended log, all of those above the old length, and not many -/
theorem append_nodes (C : Crypto) (bs : Array Bytes) (t : Tree) (hT : RootsOK C bs t.changeset) (hs : bs.size < 2 ^ 64)
    (batch : List Bytes) :
    (∀ n ∈ (batch.foldl (Tree.append C) t.changeset).nodes,
        ∃ d o, n = nodeAt C (bs ++ batch.toArray) d o ∧ (o + 1) * 2 ^ d ≤ bs.size + batch.length)
      ∧ (∀ d o, bs.size < (o + 1) * 2 ^ d → (o + 1) * 2 ^ d ≤ bs.size + batch.length →
          nodeAt C (bs ++ batch.toArray) d o ∈ (batch.foldl (Tree.append C) t.changeset).nodes)
      ∧ (batch.foldl (Tree.append C) t.changeset).nodes.length ≤ 2 * batch.length + 64 := by
  obtain ⟨added, eadd, sound, compl⟩ := appendMany_nodes C batch bs t.changeset hT
  have hnodes : (batch.foldl (Tree.append C) t.changeset).nodes = added.reverse := by
    rw [Changeset.nodes, eadd]; exact congrArg List.reverse (List.append_nil added)
  rw [hnodes]
  refine ⟨fun n hn => sound n (List.mem_reverse.mp hn), fun d o h1 h2 => List.mem_reverse.mpr (compl d o h1 h2), ?_⟩
  -- at most 64 roots before, two nodes per block
  have hc := appendMany_count C batch t.changeset
  have hr : t.changeset.roots.length ≤ 64 := by
    have := congrArg List.length hT.roots
    rw [List.length_reverse, List.length_map] at this
    rw [this]; exact rootsStack_length_log 64 _ hs
  have hrn : t.changeset.rnodes.length = 0 := rfl
  rw [eadd, hrn] at hc
  rw [List.length_reverse]
  simp only [List.length_append] at hc
  omega

theorem append_changeset (C : Crypto) (bs : Array Bytes) (t : Tree) (hT : RootsOK C bs t.changeset) (batch : List Bytes)
    (hne : batch ≠ []) (seed : Bytes) (cs : Changeset)
    (hcs : hashAndSign C (batch.foldl (Tree.append C) t.changeset) seed = cs) :
    cs.ancestors = bs.size ∧ cs.batchLength = batch.length ∧ cs.upgraded = true ∧ cs.fork = t.fork
      ∧ cs.length = bs.size + batch.length ∧ cs.nodes = (batch.foldl (Tree.append C) t.changeset).nodes
      ∧ ∃ sig l, cs.signature = some sig ∧ (SignWF C → sig.length = 64) ∧ cs.hash = some (C.tree l) := by
  obtain ⟨-, -, f1, f3, f4⟩ := appendMany_meta C batch t.changeset
  have f2 := foldl_append_batchLength C batch t.changeset
  have hlen := (appendMany_ref C batch bs t.changeset hT).length
  subst hcs
  refine ⟨f1.trans hT.length, f2.trans (Nat.zero_add _), f4 hne, f3, hlen.trans (size_append_list bs batch), rfl,
    _, _, rfl, fun hS => hS _ _, rfl⟩

theorem appendBatch_eq (C : Crypto) (c : Core) (batch : List Bytes) (seed : Bytes) (cs : Changeset) (t' : Tree)
    (hs : c.secret = some seed) (hne : batch ≠ [])
    (hcs : hashAndSign C (batch.foldl (Tree.append C) c.tree.changeset) seed = cs)
    (hcommit : c.tree.commit cs = .ok t') :
    c.appendBatch C batch =
      { core := (afterApply c cs (some ⟨false, cs.ancestors, cs.batchLength⟩) t').maybeFlush.1
        result := .ok ⟨(afterApply c cs (some ⟨false, cs.ancestors, cs.batchLength⟩) t').maybeFlush.1.tree.length,
                       (afterApply c cs (some ⟨false, cs.ancestors, cs.batchLength⟩) t').maybeFlush.1.tree.byteLength⟩
        journal := [.write .data c.tree.byteLength batch.flatten]
          ++ (Oplog.appendEntry c.oplog (entryOf cs (some ⟨false, cs.ancestors, cs.batchLength⟩) c.header).1).2
          ++ (afterApply c cs (some ⟨false, cs.ancestors, cs.batchLength⟩) t').maybeFlush.2
        events := [.upgrade, .have cs.ancestors cs.batchLength] } := by
  have hemp : batch.isEmpty = false := List.isEmpty_eq_false_iff.mpr hne
  obtain ⟨pk, sec, ol, hd, tr, bf, sk⟩ := c
  cases hs
  -- `Core.appendBatch` unfolded once; the core is taken apart so that the match on its secret reduces
  simp only [Core.appendBatch, hemp, Bool.false_eq_true, ite_false, hcs, hcommit]
  rfl

/-- the header after an accepted upgrade: root hash, signature and length from the changeset, a new hint -/
theorem afterApply_header (c : Core) (cs : Changeset) (u : BitfieldUpdate) (t : Tree) (hu : cs.upgraded = true) :
    ∃ cc, (afterApply c cs (some u) t).header =
      { c.header with tree := { c.header.tree with rootHash := cs.hash.getD [], signature := cs.signature.getD [], length := cs.length },
                      contiguous := cc } := by
  have e : (afterApply c cs (some u) t).header
      = updateContiguous (entryOf cs (some u) c.header).2 (c.bitfield.setRange u.start u.length true) u := rfl
  rw [e, updateContiguous_only, entryOf_upgraded _ _ _ hu]
  exact ⟨_, rfl⟩

theorem append_rep (C : Crypto) (hC : HashWF C) (c : Core) (d d1 : Disk) (a : Abs) (h : Rep C c d a) (batch : List Bytes)
    (hne : batch ≠ []) (hv : Valid a (.append batch)) (cs : Changeset) (t' : Tree)
    (hnodes : cs.nodes = (batch.foldl (Tree.append C) c.tree.changeset).nodes)
    (hcommit : c.tree.commit cs = .ok t') (hT' : RootsOK C (a.blocks ++ batch.toArray) t'.changeset)
    (htree : d1.tree = d.tree) (hdata : d1.data = d.data.write (totalBytes a.blocks) batch.flatten) :
    Rep C (afterApply c cs (some ⟨false, a.blocks.size, batch.length⟩) t') d1
      { a with blocks := a.blocks ++ batch.toArray,
               held := fun i => a.held i || (decide (a.blocks.size ≤ i) && decide (i < a.blocks.size + batch.length)) } := by
  have hunfl : t'.unflushed = insertAll c.tree.unflushed (batch.foldl (Tree.append C) c.tree.changeset).nodes := by
    rw [← hnodes]; exact Tree.commit_unflushed hcommit
  exact {
    writer := h.writer
    tree := hT'
    nodes := by
      rw [htree]
      exact nodesOK_insert C hC a.blocks batch c.tree t' d.tree c.tree.changeset h.tree rfl hunfl h.nodes
    mapwf := by
      show MapWF t'.unflushed
      rw [hunfl]
      exact mapWF_insertAll_ref C hC a.blocks batch _ _ h.mapwf hv.2 (append_nodes C a.blocks c.tree h.tree h.small.1 batch).1
    bits := fun i => by
      show (c.bitfield.setRange a.blocks.size batch.length true).get i = (a.held i || _)
      rw [get_setRange_true, h.bits]
    heldLt := fun i hi => by
      show i < (a.blocks ++ batch.toArray).size
      rw [size_append_list]
      simp only [Bool.or_eq_true, Bool.and_eq_true, decide_eq_true_eq] at hi
      rcases hi with hi | hi
      · exact Nat.lt_of_lt_of_le (h.heldLt i hi) (Nat.le_add_right _ _)
      · exact hi.2
    contig := updateContiguous_spec (entryOf cs _ c.header).2 c.bitfield ⟨false, a.blocks.size, batch.length⟩
      (by rw [entryOf_contiguous]; exact h.contig) (List.length_pos_iff.mpr hne)
    data := by
      show DataOK _ _ d1.data
      rw [hdata]; exact dataOK_append _ _ _ batch h.data h.heldLt
    small := ⟨by show (a.blocks ++ batch.toArray).size < _; rw [size_append_list]; exact hv.1, hv.2⟩ }

/-- `h62`: flat indices are below twice the length and must fit 64 bits; `h20` bounds the node count for
    `FormatLimits.appendEntry_ok`.  Both are the round bounds that `Persist.Limits` asks of a call. -/
theorem append_entryOK (C : Crypto) (hC : HashWF C) (bs : Array Bytes) (batch : List Bytes) (nodes : List Node)
    (fk : Nat) (sig : Bytes) (hsmall : totalBytes (bs ++ batch.toArray) < 2 ^ 64)
    (sound : ∀ n ∈ nodes, ∃ d o, n = nodeAt C (bs ++ batch.toArray) d o ∧ (o + 1) * 2 ^ d ≤ bs.size + batch.length)
    (hcount : nodes.length ≤ 2 * batch.length + 64) (hsig : sig.length = 64)
    (h62 : bs.size + batch.length < 2 ^ 62) (h20 : batch.length < 2 ^ 20) (hfk : U64 fk) :
    OplogBytes.EntryOK { treeNodes := nodes, treeUpgrade := some ⟨fk, bs.size, bs.size + batch.length, sig⟩,
                         bitfield := some ⟨false, bs.size, batch.length⟩ } := by
  have hU : ∀ x, x ≤ bs.size + batch.length → U64 x := fun x hx => Nat.lt_trans (Nat.lt_of_le_of_lt hx h62) (by decide)
  have hc22 : nodes.length ≤ 2 ^ 22 :=
    Nat.le_trans hcount (Nat.le_trans (Nat.add_le_add_right (Nat.mul_le_mul_left 2 (Nat.le_of_lt h20)) 64) (by decide))
  refine FormatLimits.appendEntry_ok _ _ _ _ _ _ _ ⟨Nat.lt_of_le_of_lt hc22 (by decide), fun x hx => ?_⟩ hc22 hfk
    (hU _ (Nat.le_add_right _ _)) (hU _ (Nat.le_refl _)) hsig (hU _ (Nat.le_add_right _ _)) (hU _ (Nat.le_add_left _ _))
  obtain ⟨d, o, rfl, hb⟩ := sound x hx
  have hi := Nat.lt_of_lt_of_le (index_lt_end d o) (Nat.mul_le_mul_left 2 hb)
  exact ⟨by
      show _ < 2 ^ 64
      rw [nodeAt_index]
      exact Nat.lt_trans hi (Nat.lt_of_lt_of_le (Nat.mul_lt_mul_of_pos_left h62 Nat.two_pos) (by decide)),
    nodeAt_length_lt C _ d o (by rw [size_append_list]; exact hb) hsmall, nodeAt_hash_len C hC _ _ _⟩


/-- a non-empty `append_batch` up to its flush decision: the state `c1`, the journal `j01` (data write and
    oplog entry), the logged entry -/
theorem append_shape (C : Crypto) (hC : HashWF C) (c : Core) (d : Disk) (a : Abs) (h : Rep C c d a)
    (batch : List Bytes) (hne : batch ≠ []) (hv : Valid a (.append batch)) (hw : a.writable = true) :
    ∃ (c1 : Core) (j01 : List SOp) (entry : Entry),
      stepC C (c, d) (.append batch) = ((c1.maybeFlush.1, d.applyAll (j01 ++ c1.maybeFlush.2)),
        Obs.appended c1.maybeFlush.1.tree.length c1.maybeFlush.1.tree.byteLength)
      ∧ Rep C c1 (d.applyAll j01) (a.step (.append batch)).1
      ∧ (d.applyAll j01).tree = d.tree ∧ (d.applyAll j01).bitfield = d.bitfield
      ∧ c1.bitfield = c.bitfield.setRange a.blocks.size batch.length true
      ∧ (SignWF C → EntryStep C a entry (a.step (.append batch)).1)
      ∧ c1.header.tree.length = a.blocks.size + batch.length ∧ (SignWF C → c1.header.tree.signature.length = 64)
      ∧ c1.header.secret = c.header.secret ∧ c1.secret = c.secret
      ∧ c1.oplog = (Oplog.appendEntry c.oplog entry).1
      ∧ (d.applyAll j01).oplog = d.oplog.write (Spec.entriesOffset + c.oplog.entriesByteLength)
          (frame (encEntry entry) c.oplog.currentBit false)
      ∧ c1.tree.fork = c.tree.fork
      ∧ (∃ rh sg cc, c1.header = { c.header with tree := { c.header.tree with rootHash := rh, signature := sg, length := a.blocks.size + batch.length }, contiguous := cc }
          ∧ (∃ l, rh = C.tree l) ∧ (SignWF C → sg.length = 64))
      ∧ (SignWF C → a.blocks.size + batch.length < 2 ^ 62 → batch.length < 2 ^ 20 → U64 c.tree.fork → OplogBytes.EntryOK entry)
      ∧ (c.appendBatch C batch).journal = j01 ++ c1.maybeFlush.2
      ∧ j01 = [SOp.write .data (totalBytes a.blocks) batch.flatten,
               SOp.write .oplog (Spec.entriesOffset + c.oplog.entriesByteLength) (frame (encEntry entry) c.oplog.currentBit false)] := by
  obtain ⟨seed, hseed⟩ : ∃ seed, c.secret = some seed := Option.isSome_iff_exists.mp (by rw [h.writer]; exact hw)
  obtain ⟨t', hcommit, hT'⟩ := commit_ref C a.blocks c.tree batch seed hne h.tree
  generalize hcs : hashAndSign C (batch.foldl (Tree.append C) c.tree.changeset) seed = cs at hcommit
  obtain ⟨hanc, hbl, hup, hfork, hlen, hnodes, sig, l, hsig, hsiglen, hhash⟩ :=
    append_changeset C a.blocks c.tree h.tree batch hne seed cs hcs
  have heq := appendBatch_eq C c batch seed cs t' hseed hne hcs hcommit
  rw [hanc, hbl, show c.tree.byteLength = totalBytes a.blocks from h.tree.bytes] at heq
  obtain ⟨sound, compl, hcount⟩ := append_nodes C a.blocks c.tree h.tree h.small.1 batch
  have hentry : (entryOf cs (some ⟨false, a.blocks.size, batch.length⟩) c.header).1
      = { treeNodes := (batch.foldl (Tree.append C) c.tree.changeset).nodes,
          treeUpgrade := some ⟨c.tree.fork, a.blocks.size, a.blocks.size + batch.length, sig⟩,
          bitfield := some ⟨false, a.blocks.size, batch.length⟩ } := by
    rw [entryOf_upgraded _ _ _ hup, hanc, hfork, hlen, hnodes, hsig]; rfl
  have hhdr : ∃ rh sg cc, (afterApply c cs (some ⟨false, a.blocks.size, batch.length⟩) t').header
      = { c.header with tree := { c.header.tree with rootHash := rh, signature := sg, length := a.blocks.size + batch.length }, contiguous := cc }
        ∧ (∃ l, rh = C.tree l) ∧ (SignWF C → sg.length = 64) := by
    obtain ⟨cc, e⟩ := afterApply_header c cs ⟨false, a.blocks.size, batch.length⟩ t' hup
    rw [hlen, hsig, hhash] at e
    exact ⟨_, _, cc, e, ⟨l, rfl⟩, hsiglen⟩
  obtain ⟨rh, sg, cc, e, _, hsg⟩ := hhdr
  have hrep := append_rep C hC c d
    (d.applyAll [SOp.write .data (totalBytes a.blocks) batch.flatten,
      SOp.write .oplog (Spec.entriesOffset + c.oplog.entriesByteLength)
        (frame (encEntry (entryOf cs (some ⟨false, a.blocks.size, batch.length⟩) c.header).1) c.oplog.currentBit false)])
    a h batch hne hv cs t' hnodes hcommit hT' rfl rfl
  refine ⟨afterApply c cs (some ⟨false, a.blocks.size, batch.length⟩) t', _, (entryOf cs (some ⟨false, a.blocks.size, batch.length⟩) c.header).1,
    ?_, ?_, rfl, rfl, rfl, fun hS => ?_, ?_, ?_, ?_, rfl, rfl, rfl, ?_, ⟨rh, sg, cc, e, ‹_›, hsg⟩, fun hS h62 h20 hfk => ?_, congrArg Step.journal heq, rfl⟩
  · show (((c.appendBatch C batch).core, d.applyAll (c.appendBatch C batch).journal), obsOf (c.appendBatch C batch).result _) = _
    rw [heq]; rfl
  · rw [step_append a batch hw hne]; exact hrep
  · rw [hentry]; exact EntryStep.append a batch _ sig c.tree.fork hne hw (hsiglen hS) sound compl hcount
  · rw [e]
  · intro hS; rw [e]; exact hsg hS
  · rw [e]
  · show t'.fork = c.tree.fork
    rw [Tree.commit_upgraded hcommit hup, ← hfork]
  · rw [hentry]
    exact append_entryOK C hC a.blocks batch _ c.tree.fork sig hv.2 sound hcount (hsiglen hS) h62 h20 hfk

theorem append_refines (C : Crypto) (hC : HashWF C) (c : Core) (d : Disk) (a : Abs) (h : Rep C c d a) (batch : List Bytes)
    (hv : Valid a (.append batch)) :
    (stepC C (c, d) (.append batch)).2 = (a.step (.append batch)).2
      ∧ Rep C (stepC C (c, d) (.append batch)).1.1 (stepC C (c, d) (.append batch)).1.2 (a.step (.append batch)).1 := by
  by_cases hi : Idle a (.append batch)
  · obtain ⟨e1, e2, _⟩ := idle_step C c d a h _ hi
    rw [e1, e2]; exact ⟨rfl, h⟩
  obtain ⟨hw, hne⟩ := not_idle_append hi
  obtain ⟨c1, j01, entry, hstep, hrep, _⟩ := append_shape C hC c d a h batch hne hv hw
  have hfl := maybeFlush_rep C hC c1 (d.applyAll j01) _ hrep
  rw [hstep, Journal.applyAll_append]
  rw [step_append a batch hw hne] at hfl ⊢
  -- the answer reports the tree's length and byte length, which are those of the extended log
  exact ⟨congrArg₂ Obs.appended hfl.tree.length hfl.tree.bytes, hfl⟩

/-- `Oplog::open` with a key pair on an empty store writes a fresh header -/
theorem openLog_create (pk : Bytes) (sec : Option Bytes) :
    Oplog.openLog (some (pk, sec)) [] =
      .ok ⟨{ bits := (Oplog.insertHeader (Header.new pk sec) 0 Spec.initialBits false).1 }, Header.new pk sec,
           (Oplog.insertHeader (Header.new pk sec) 0 Spec.initialBits false).2, []⟩ := by
  simp [Oplog.openLog, Oplog.readLog, Spec.headerSize, Spec.entriesOffset]

/-- `Hypercore::new` with a key pair on empty storage: an empty core, and a journal that writes the header only -/
theorem openCore_create (C : Crypto) (pk : Bytes) (sec : Option Bytes) :
    Core.openCore C (some (pk, sec)) {} =
      .ok ({ publicKey := pk, secret := sec, oplog := { bits := (Oplog.insertHeader (Header.new pk sec) 0 Spec.initialBits false).1 },
             header := Header.new pk sec, tree := {}, bitfield := {}, skipFlush := 0 },
           (Oplog.insertHeader (Header.new pk sec) 0 Spec.initialBits false).2) := by
  have hops := Journal.insertHeader_store (Header.new pk sec) 0 Spec.initialBits false
  have htree : Tree.openTree (Header.new pk sec).tree
      (({} : Disk).applyAll (Oplog.insertHeader (Header.new pk sec) 0 Spec.initialBits false).2).tree = .ok {} := by
    rw [Journal.applyAll_tree hops]
    simp [Tree.openTree, Header.new, Flat.fullRoots, Flat.fullRootsAux, Tree.openTree.load]
  have hbf : Bitfield.ofFile (({} : Disk).applyAll (Oplog.insertHeader (Header.new pk sec) 0 Spec.initialBits false).2).bitfield = {} := by
    rw [Journal.applyAll_bitfield hops]
    exact Bitfield.ofFile_empty
  have hdisk : (({} : Disk).oplog.toList) = [] := rfl
  simp only [Core.openCore, hdisk, openLog_create, htree, hbf, Core.openCore.replay]
  rfl

/-- any core with an empty tree, no bits and hint 0 represents the empty log -/
theorem rep_empty (C : Crypto) (c : Core) (d : Disk) (hs : c.secret.isSome = true) (ht : c.tree = {}) (hb : c.bitfield = {})
    (hc : c.header.contiguous = 0) : Rep C c d {} :=
  { writer := hs
    tree := by rw [ht]; exact ⟨rfl, by rw [show (#[] : Array Bytes).size = 0 from rfl, rootsStack_zero]; rfl, rfl⟩
    nodes := fun dd o hb => absurd hb (Nat.not_le.mpr (Nat.mul_pos (Nat.succ_pos o) (pow_pos' dd)))
    mapwf := by rw [ht]; exact fun k n hk => by rw [Std.HashMap.getElem?_empty] at hk; cases hk
    bits := fun i => by rw [hb]; rfl
    heldLt := fun i hi => nomatch hi
    contig := by rw [hb, hc]; exact ⟨fun i hi => absurd hi (Nat.not_lt_zero i), rfl⟩
    data := fun i hi => nomatch hi
    small := ⟨Nat.two_pow_pos 64, Nat.two_pow_pos 64⟩ }

theorem init_rep (C : Crypto) (pk sk : Bytes) :
    ∃ c j, Core.openCore C (some (pk, some sk)) {} = .ok (c, j) ∧ Rep C c (({} : Disk).applyAll j) {} :=
  ⟨_, _, openCore_create C pk (some sk), rep_empty C _ _ rfl rfl rfl rfl⟩

end HC.LiveRefine
