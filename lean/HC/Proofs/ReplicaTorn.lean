import HC.Proofs.ReplicaCrash
/-!
Torn page and node writes inside the periodic flush of a replica (C07).  A half-written page or node leaves stores that
are no longer whole pages / whole slots, so the ghost invariant of `ReplicaCrash` is not re-established; what is proved
is that `Hypercore::new` succeeds and the replica *shows* (`ShowsR`) the state the completed application leaves.  The
half-written page holds, bit by bit, the old or the new value, both of which the replay of the old header's entries
tolerates (`replays_ahead`); the half-written node is one the entries re-insert into the unflushed map, which shadows
the store.  The `_congr` lemmas at the top (reads depend on the tree store only through node lookups) are about `Tree`.
-/
namespace HC.ReplicaTorn
open HC HC.Codec HC.Flat HC.Tree HC.RefTree HC.RefProof HC.Sound HC.Offsets HC.TreeStore HC.Complete HC.UpgradeSound HC.CreateTotal
  HC.Replica HC.Growth HC.HashReq HC.Oplog HC.Core HC.OplogBytes HC.FormatLimits HC.BitfieldPages HC.Touch HC.ReplicaReopen HC.ReplicaCrash

theorem requiredNode_congr (t : Tree) (f f' : File) (h : ∀ i, t.node? f' i = t.node? f i) (i : Nat) :
    t.requiredNode f' i = t.requiredNode f i := by
  simp only [Tree.requiredNode, h]

theorem offsetDescend_congr (t : Tree) (f f' : File) (h : ∀ i, t.node? f' i = t.node? f i) (target : Nat) :
    ∀ (fuel : Nat) (it : Iter) (acc : Nat), t.offsetDescend f' target fuel it acc = t.offsetDescend f target fuel it acc := by
  intro fuel
  induction fuel with
  | zero => intro it acc; rfl
  | succ fuel ih =>
    intro it acc
    simp only [Tree.offsetDescend, requiredNode_congr t f f' h, ih]

theorem byteOffsetFromNodes_congr (t : Tree) (f f' : File) (h : ∀ i, t.node? f' i = t.node? f i) (index : Nat) :
    t.byteOffsetFromNodes f' index = t.byteOffsetFromNodes f index := by
  unfold Tree.byteOffsetFromNodes
  simp only []
  generalize (if index % 2 = 1 then leftSpan index else index) = ix
  generalize t.roots = rs
  have : ∀ (rs : List Node) (head acc : Nat), Tree.byteOffsetFromNodes.go t f' ix rs head acc = Tree.byteOffsetFromNodes.go t f ix rs head acc := by
    intro rs
    induction rs with
    | nil => intro head acc; rfl
    | cons r rs ih =>
      intro head acc
      simp only [Tree.byteOffsetFromNodes.go, ih, offsetDescend_congr t f f' h]
  exact this rs 0 0

theorem byteRange_congr (t : Tree) (f f' : File) (h : ∀ i, t.node? f' i = t.node? f i) (i : Nat) :
    t.byteRange f' i = t.byteRange f i := by
  simp only [Tree.byteRange, requiredNode_congr t f f' h, byteOffsetFromNodes_congr t f f' h]

theorem getBlock_congr (c : Core) (d d' : Disk) (h : ∀ i, c.tree.node? d'.tree i = c.tree.node? d.tree i) (hd : d'.data = d.data) (i : Nat) :
    (c.getBlock d' i).result = (c.getBlock d i).result := by
  simp only [Core.getBlock, byteRange_congr c.tree d.tree d'.tree h, hd]

/-- what a recovered replica shows (the components of `C02.Shows`) -/
structure ShowsR (bs : Array Bytes) (m : Nat) (held : Nat → Bool) (c : Core) (d : Disk) : Prop where
  length : c.tree.length = m
  bytes : c.tree.byteLength = psum bs m
  get : ∀ i, held i = true → (c.getBlock d i).result = .ok (some (bs.getD i []))
  miss : ∀ i, held i = false → (c.getBlock d i).result = .ok none
  has : ∀ i, c.bitfield.get i = held i
  contig : Core.FirstMissing c.bitfield c.header.contiguous

theorem showsR_of_reprAt {C : Crypto} {bs : Array Bytes} {m : Nat} {held : Nat → Bool} {c : Core} {d : Disk} (h : RepRAt C bs m c d held)
    (d' : Disk) (hl : ∀ i, c.tree.node? d'.tree i = c.tree.node? d.tree i) (hd : d'.data = d.data) : ShowsR bs m held c d' :=
  ⟨h.closed.sparse.length, h.bytes, fun i hi => (getBlock_congr c d d' hl hd i).trans (get_held_at C bs m c d held h i hi),
    fun i hi => (getBlock_congr c d d' hl hd i).trans (get_missing_at C bs m c d held h i hi), h.bits, h.contig⟩

/-- **recovery from stores that differ from a crash image in ways the replay and the lookups do not notice** -/
theorem open_torn (C : Crypto) (bs : Array Bytes) (m : Nat) (held : Nat → Bool) (dk dt : Disk) (c : Core) (hf : Header) (es : List Entry)
    (hg : DurG C bs m held dk c hf es) (ho : dt.oplog = dk.oplog) (hd : dt.data = dk.data)
    (hT : ∀ T0, Tree.openTree hf.tree dk.tree = .ok T0 → Tree.openTree hf.tree dt.tree = .ok T0) (hext : FileExt dk.tree dt.tree)
    (hlook : ∀ i, c.tree.node? dt.tree i = c.tree.node? dk.tree i)
    (hA : ∀ i, (Bitfield.ofFile dk.bitfield).get i = true → (Bitfield.ofFile dt.bitfield).get i = true)
    (hB : ∀ i, (Bitfield.ofFile dt.bitfield).get i = true → c.bitfield.get i = true) :
    ∃ c' j, openCore C none dt = .ok (c', j) ∧ ShowsR bs m held c' (dt.applyAll j) ∧ c'.publicKey = c.publicKey ∧ c'.tree.fork = c.tree.fork := by
  have hrepl := replays_ahead C bs c dk dt hf es hg.replay hg.extra hg.rep.contig hT hext hA hB
  obtain ⟨ost, ops, b, hopen, hops, _, hb2, _⟩ := open_of_replays C c dt hf es (by rw [ho]; exact hg.oplog) hrepl
  -- the recovered core over the crash image's stores satisfies the replica invariant
  have hrk : RepRAt C bs m ⟨c.header.publicKey, c.header.secret, ost, c.header, c.tree, b, 0⟩ dk held :=
    reprAt_core hg.rep _ rfl rfl hb2
  have hl' : ∀ i, c.tree.node? (dt.applyAll ops).tree i = c.tree.node? dk.tree i := fun i => by
    rw [Journal.applyAll_tree hops]; exact hlook i
  have hdat : (dt.applyAll ops).data = dk.data := by rw [Journal.applyAll_data hops, hd]
  exact ⟨_, ops, hopen, showsR_of_reprAt hrk _ hl' hdat, hg.keys.1, rfl⟩

/-- **a torn page write of a replica's flush**: after the pages `ps` and the nodes `L` of the flush have been written, a
    further page reaches the store only as a byte prefix -/
theorem torn_pageR (C : Crypto) (bs : Array Bytes) (m : Nat) (c : Core) (d : Disk) (held : Nat → Bool) (hf : Header) (es : List Entry)
    (hr : RepRAt C bs m c d held) (hp : PersistR C c d hf es) (hx : Extra C bs c d hf es) (hsize : bs.size < 2 ^ 62)
    (ps : List Nat) (L : List Node) (hW : Written c.tree L) (p t : Nat) :
    ∃ c' j, openCore C none { d with bitfield := (writePages c.bitfield d.bitfield ps).write (p * Spec.pageBytes) ((c.bitfield.pageBytes p).take t), tree := writeSlots d.tree L } = .ok (c', j)
      ∧ ShowsR bs m held c' (({ d with bitfield := (writePages c.bitfield d.bitfield ps).write (p * Spec.pageBytes) ((c.bitfield.pageBytes p).take t), tree := writeSlots d.tree L } : Disk).applyAll j)
      ∧ c'.publicKey = c.publicKey ∧ c'.tree.fork = c.tree.fork := by
  have hg := durG_ahead C bs m held c hf es d hr hp hx hsize ps L hW
  obtain ⟨_, w2⟩ := writePages_bits c.bitfield d.bitfield hp.bfSize ps
  have hbits := replays_bits C c _ hf es hg.replay hg.extra.setOnly
  have htp := tornPage_bits c.bitfield (writePages c.bitfield d.bitfield ps) w2 p t
  have hAB := fun i => bit_between (fun hi => (hbits i).mpr (Or.inl hi)) (htp i)
  exact open_torn C bs m held { d with bitfield := writePages c.bitfield d.bitfield ps, tree := writeSlots d.tree L }
    { d with bitfield := (writePages c.bitfield d.bitfield ps).write (p * Spec.pageBytes) ((c.bitfield.pageBytes p).take t),
             tree := writeSlots d.tree L }
    c hf es hg rfl rfl (fun T0 h => h) (fileExt_refl _) (fun i => rfl) (fun i => (hAB i).1) (fun i => (hAB i).2)

/-- slots other than the one being written answer as before, also when the write extends the store -/
theorem tornSlot_other (g : File) (hal : g.size % 40 = 0) (n : Node) (hw : n.hash.length = 32) (t i : Nat) (hi : n.index ≠ i) :
    ({} : Tree).node? (g.write (n.index * Spec.nodeSize) ((nodeBytes n).take t)) i = ({} : Tree).node? g i := by
  have hl : ((nodeBytes n).take t).length ≤ 40 := by rw [List.length_take, nodeBytes_length n hw]; exact Nat.min_le_right _ _
  refine node?_slot g _ hal i (fun bs hr => tornSlot_read g n hw t i bs hr (fun e => absurd e hi)) (fun hb k hk => ?_)
  -- the write stays inside slot `n.index`, which ends before slot `i` begins or begins after it ends
  have hout : ¬ (n.index * Spec.nodeSize ≤ i * 40 + k ∧ i * 40 + k < n.index * Spec.nodeSize + ((nodeBytes n).take t).length) := by
    rintro ⟨h1, h2⟩
    rcases Nat.lt_or_gt_of_ne hi with hlt | hgt
    · have : (n.index + 1) * 40 ≤ i * 40 := Nat.mul_le_mul_right 40 hlt
      rw [Nat.succ_mul] at this
      exact absurd (Nat.lt_of_lt_of_le h2 (Nat.le_trans (Nat.add_le_add_left hl _) this)) (Nat.not_lt.mpr (Nat.le_add_right _ _))
    · have : (i + 1) * 40 ≤ n.index * 40 := Nat.mul_le_mul_right 40 hgt
      rw [Nat.succ_mul] at this
      exact absurd (Nat.le_trans this h1) (Nat.not_le.mpr (Nat.add_lt_add_left hk _))
  -- and slot `i` lies at or beyond the end of `g`
  rw [File.byte_write, if_neg hout]
  exact byte_beyond g _ (Nat.le_trans hb (Nat.le_add_right _ _))

/-- **a torn node write of a replica's flush**: after the pages `ps` and the nodes `L` have been written, a further
    unflushed node reaches the store only as a byte prefix -/
theorem torn_slotR (C : Crypto) (bs : Array Bytes) (m : Nat) (c : Core) (d : Disk) (held : Nat → Bool) (hf : Header) (es : List Entry)
    (hr : RepRAt C bs m c d held) (hp : PersistR C c d hf es) (hx : Extra C bs c d hf es) (hsize : bs.size < 2 ^ 62)
    (ps : List Nat) (L : List Node) (hW : Written c.tree L) (n : Node) (hn : c.tree.unflushed[n.index]? = some n) (t : Nat) :
    ∃ c' j, openCore C none { d with bitfield := writePages c.bitfield d.bitfield ps, tree := (writeSlots d.tree L).write (n.index * Spec.nodeSize) ((nodeBytes n).take t) } = .ok (c', j)
      ∧ ShowsR bs m held c' (({ d with bitfield := writePages c.bitfield d.bitfield ps, tree := (writeSlots d.tree L).write (n.index * Spec.nodeSize) ((nodeBytes n).take t) } : Disk).applyAll j)
      ∧ c'.publicKey = c.publicKey ∧ c'.tree.fork = c.tree.fork := by
  have hg := durG_ahead C bs m held c hf es d hr hp hx hsize ps L hW
  have hw : n.hash.length = 32 := (hr.mapwf _ _ hn).2.1
  have hal := written_aligned c.tree hr.mapwf L hW d.tree hr.aligned
  -- where the slot already holds a node, it is this very node: both are the reference node of that index
  have hext : FileExt (writeSlots d.tree L) ((writeSlots d.tree L).write (n.index * Spec.nodeSize) ((nodeBytes n).take t)) :=
    fun i nn h0 => tornSlot_keep _ n hw t i nn h0 fun hi =>
      refNode_unique (hi ▸ hx.unflRef n.index n hn) (hg.extra.fileRef _ nn h0)
  obtain ⟨m0, hm0, hm64, hroots0⟩ := hg.extra.rootsStored
  apply open_torn C bs m held { d with bitfield := writePages c.bitfield d.bitfield ps, tree := writeSlots d.tree L } { d with bitfield := writePages c.bitfield d.bitfield ps, tree := (writeSlots d.tree L).write (n.index * Spec.nodeSize) ((nodeBytes n).take t) } c hf es hg rfl rfl
    (fun T0 h => by
      show Tree.openTree hf.tree ((writeSlots d.tree L).write _ _) = _
      rw [openTree_ext C bs hf.tree (writeSlots d.tree L) _ hext m0 hm0 hm64 hroots0]; exact h)
    hext
    (fun i => node?_shadow c.tree _ _ i fun hu => tornSlot_other (writeSlots d.tree L) hal n hw t i fun e => by
      rw [e, hu] at hn; cases hn)
    (fun i hi => hi) (fun i hi => (replays_bits C c _ hf es hg.replay hg.extra.setOnly i).mpr (Or.inl hi))

/-- a page write torn after `t` bytes, behind the first `k1` page writes of the flush (any page `p`, not only the next dirty one) -/
theorem torn_flush_pageR (C : Crypto) (bs : Array Bytes) (m : Nat) (c : Core) (d : Disk) (held : Nat → Bool) (hf : Header) (es : List Entry)
    (hr : RepRAt C bs m c d held) (hp : PersistR C c d hf es) (hx : Extra C bs c d hf es) (hsize : bs.size < 2 ^ 62) (k1 p t : Nat) :
    ∃ c' j, openCore C none ((d.applyAll (c.bitfield.flush.2.take k1)).apply (.write .bitfield (p * Spec.pageBytes) ((c.bitfield.pageBytes p).take t))) = .ok (c', j)
      ∧ ShowsR bs m held c' (((d.applyAll (c.bitfield.flush.2.take k1)).apply (.write .bitfield (p * Spec.pageBytes) ((c.bitfield.pageBytes p).take t))).applyAll j)
      ∧ c'.publicKey = c.publicKey ∧ c'.tree.fork = c.tree.fork := by
  rw [Crash.pages_journal, ← List.map_take, Crash.applyAll_page_writes, Disk.apply_write]
  exact torn_pageR C bs m c d held hf es hr hp hx hsize (c.bitfield.dirty.take k1) [] ⟨fun n hn => (by cases hn), List.Pairwise.nil⟩ p t

/-- the `k2`-th node write of the flush torn after `t` bytes (all dirty pages are written by then) -/
theorem torn_flush_slotR (C : Crypto) (bs : Array Bytes) (m : Nat) (c : Core) (d : Disk) (held : Nat → Bool) (hf : Header) (es : List Entry)
    (hr : RepRAt C bs m c d held) (hp : PersistR C c d hf es) (hx : Extra C bs c d hf es) (hsize : bs.size < 2 ^ 62) (k2 : Nat) (n : Node) (t : Nat)
    (hn : (Crash.flushList c.tree)[k2]? = some n) :
    ∃ c' j, openCore C none (((d.applyAll c.bitfield.flush.2).applyAll (c.tree.flush.2.take k2)).apply (.write .tree (n.index * Spec.nodeSize) ((nodeBytes n).take t))) = .ok (c', j)
      ∧ ShowsR bs m held c' ((((d.applyAll c.bitfield.flush.2).applyAll (c.tree.flush.2.take k2)).apply (.write .tree (n.index * Spec.nodeSize) ((nodeBytes n).take t))).applyAll j)
      ∧ c'.publicKey = c.publicKey ∧ c'.tree.fork = c.tree.fork := by
  have hmem : n ∈ Crash.flushList c.tree := List.mem_of_getElem? hn
  have hWall := written_flushList c.tree hr.mapwf
  rw [Crash.pages_journal, Crash.applyAll_page_writes, Crash.flush_journal, ← List.map_take, applyAll_tree_writes, Disk.apply_write]
  exact torn_slotR C bs m c d held hf es hr hp hx hsize c.bitfield.dirty ((Crash.flushList c.tree).take k2) (written_take _ _ k2 hWall) n
    ((Crash.flushList_mem c.tree hr.mapwf n).mp hmem) t

end HC.ReplicaTorn
