import HC.Proofs.GrowthTree
import HC.Proofs.Replica
/-!
Exchange steps at core level.  `RepRAt … m` is the invariant of a replica of the first `m` blocks (`RepR` is the case
`m = bs.size`).  `Accepts` says what is known of a proof that `verify_proof` accepted; one statement covers all of them:
if the tree `verify_and_apply_proof` commits is closed with the roots of the first `n ≥ m` blocks, the core reached
represents those (`Accepts.step`, and `Accepts.applied` with the periodic flush after it).  Block answers, growth rounds
and first contact each supply an `Accepts` (`block_accepts`, `growth_accepts`, `first_accepts`; hash answers in `HashReq`,
block + upgrade in `BlockGrowGen`).  Only first contact at a prefix is transported along `Array.extract`, because the
tree-level lemma it rests on speaks of a whole log (`first_accepts_at`).
-/
namespace HC.Growth
open HC HC.Codec HC.Flat HC.Tree HC.RefTree HC.RefProof HC.Sound HC.Offsets HC.TreeStore HC.Complete HC.UpgradeSound HC.CreateTotal HC.Replica HC.FullRoots HC.File

theorem node_extract (C : Crypto) (bs : Array Bytes) (m : Nat) (hm : m ≤ bs.size) : ∀ d o, (o + 1) * 2 ^ d ≤ m →
    RefTree.node C (bs.extract 0 m) d o = RefTree.node C bs d o := by
  intro d
  induction d with
  | zero =>
    intro o h
    simp only [RefTree.node]
    rw [extract_getD bs m o hm (by rw [Nat.pow_zero, Nat.mul_one] at h; exact h)]
  | succ d ih =>
    intro o h
    -- both children end inside the node's span
    rw [Pow2.parent_end] at h
    have h2 : (2 * o + 1 + 1) * 2 ^ d ≤ m := h
    have h1 : (2 * o + 1) * 2 ^ d ≤ m := Nat.le_trans (Nat.mul_le_mul_right _ (Nat.le_succ _)) h2
    simp only [RefTree.node, ih (2 * o) h1, ih (2 * o + 1) h2]

theorem nodeAt_extract (C : Crypto) (bs : Array Bytes) (m : Nat) (hm : m ≤ bs.size) (d o : Nat) (h : (o + 1) * 2 ^ d ≤ m) :
    nodeAt C (bs.extract 0 m) d o = nodeAt C bs d o := by
  simp only [nodeAt, node_extract C bs m hm d o h]

theorem psum_extract (bs : Array Bytes) (m : Nat) (hm : m ≤ bs.size) : ∀ i, i ≤ m → psum (bs.extract 0 m) i = psum bs i := by
  intro i
  induction i with
  | zero => intro _; rfl
  | succ i ih =>
    intro h
    simp only [psum, ih (by omega), sz]
    rw [extract_getD bs m i hm (by omega)]

theorem size_extract (bs : Array Bytes) (m : Nat) (hm : m ≤ bs.size) : (bs.extract 0 m).size = m := by simp; omega

theorem small_extract (bs : Array Bytes) (n : Nat) (hn : n ≤ bs.size) (hs : bs.size < 2 ^ 64 ∧ psum bs bs.size < 2 ^ 64) :
    (bs.extract 0 n).size < 2 ^ 64 ∧ psum (bs.extract 0 n) (bs.extract 0 n).size < 2 ^ 64 := by
  rw [size_extract bs n hn, psum_extract bs n hn n (Nat.le_refl _)]
  exact ⟨Nat.lt_of_le_of_lt hn hs.1, Nat.lt_of_le_of_lt (psum_mono bs hn) hs.2⟩

theorem roots_extract (C : Crypto) (bs : Array Bytes) (m : Nat) (hm : m ≤ bs.size) : RefTree.roots C (bs.extract 0 m) = rootsAt C bs m := by
  simp only [RefTree.roots, rootsAt, size_extract bs m hm]
  apply List.map_congr_left
  intro p hp
  exact nodeAt_extract C bs m hm p.1 p.2 (rootsStack_bound m p (List.mem_reverse.mp hp))

/-- the replica's invariant relative to the whole log: it represents the first `m` blocks -/
structure RepRAt (C : Crypto) (bs : Array Bytes) (m : Nat) (c : Core) (d : Disk) (held : Nat → Bool) : Prop where
  le : m ≤ bs.size
  closed : ClosedAt C bs m c.tree d.tree
  roots : c.tree.roots = rootsAt C bs m
  bytes : c.tree.byteLength = psum bs m
  mapwf : MapWF c.tree.unflushed
  aligned : d.tree.size % 40 = 0
  bits : ∀ i, c.bitfield.get i = held i
  heldLt : ∀ i, held i = true → i < m
  leaf : ∀ i, held i = true → c.tree.node? d.tree (Flat.index 0 i) = some (nodeAt C bs 0 i)
  data : ∀ i, held i = true → ∀ k, k < sz bs i →
    psum bs i + k < d.data.size ∧ d.data.byte (psum bs i + k) = (bs.getD i []).getD k 0
  contig : Core.FirstMissing c.bitfield c.header.contiguous
  small : bs.size < 2 ^ 64 ∧ psum bs bs.size < 2 ^ 64

theorem reprAt_full (C : Crypto) (bs : Array Bytes) (c : Core) (d : Disk) (held : Nat → Bool) :
    RepRAt C bs bs.size c d held ↔ RepR C bs c d held :=
  ⟨fun h => ⟨(closedAt_full C bs _ _).mp h.closed, h.roots, h.bytes, h.mapwf, h.aligned, h.bits, h.heldLt, h.leaf, h.data,
      h.contig, h.small⟩,
    fun h => ⟨Nat.le_refl _, (closedAt_full C bs _ _).mpr h.closed, h.roots, h.bytes, h.mapwf, h.aligned, h.bits, h.heldLt,
      h.leaf, h.data, h.contig, h.small⟩⟩

/-- the replica's roots are the at most 64 roots of its length -/
theorem roots_length_le (C : Crypto) (bs : Array Bytes) (m : Nat) (c : Core) (d : Disk) (held : Nat → Bool) (h : RepRAt C bs m c d held) :
    c.tree.roots.length ≤ 64 := by
  rw [h.roots, rootsAt_length]
  exact rootsStack_length_log 64 m (Nat.lt_of_le_of_lt h.le h.small.1)

/-! `Sparse`, `ClosedAt` and `RepRAt` for the first `m` blocks read the log only through those blocks and the reference
nodes inside them: two logs that agree there are interchangeable. -/

theorem sparse_agree (C : Crypto) (bs bs' : Array Bytes) (m : Nat) (t : Tree) (f : File)
    (hag : ∀ d o, (o + 1) * 2 ^ d ≤ m → nodeAt C bs' d o = nodeAt C bs d o) (h : Sparse C bs m t f) : Sparse C bs' m t f := by
  refine ⟨h.length, fun i n hn => ?_, fun p hp => ?_⟩
  · obtain ⟨d, o, e1, e2, hb⟩ := h.sound i n hn
    exact ⟨d, o, e1, by rw [e2, hag d o hb], hb⟩
  · rw [h.roots p hp, hag p.1 p.2 (rootsStack_bound m p hp)]

theorem closedAt_agree (C : Crypto) (bs bs' : Array Bytes) (m : Nat) (t : Tree) (f : File)
    (hag : ∀ d o, (o + 1) * 2 ^ d ≤ m → nodeAt C bs' d o = nodeAt C bs d o) (h : ClosedAt C bs m t f) : ClosedAt C bs' m t f := by
  refine ⟨sparse_agree C bs bs' m t f hag h.sparse, fun d o hst hpar => ?_⟩
  -- node and sibling lie inside their parent
  rw [hag d o (Nat.le_trans (Pow2.child_span_le d o) hpar)] at hst
  rw [hag d (sib o) (Nat.le_trans (sib_bound o d) hpar), hag (d + 1) (o / 2) hpar]
  exact h.closed d o hst hpar

theorem reprAt_agree (C : Crypto) (bs bs' : Array Bytes) (m : Nat) (c : Core) (d : Disk) (held : Nat → Bool)
    (hag : ∀ dd o, (o + 1) * 2 ^ dd ≤ m → nodeAt C bs' dd o = nodeAt C bs dd o) (hget : ∀ i, i < m → bs'.getD i [] = bs.getD i [])
    (hps : ∀ i, i ≤ m → psum bs' i = psum bs i) (hle : m ≤ bs'.size) (hs : bs'.size < 2 ^ 64 ∧ psum bs' bs'.size < 2 ^ 64)
    (h : RepRAt C bs m c d held) : RepRAt C bs' m c d held := by
  refine ⟨hle, closedAt_agree C bs bs' m _ _ hag h.closed, ?_, by rw [h.bytes, hps m (Nat.le_refl _)], h.mapwf, h.aligned, h.bits,
    h.heldLt, fun i hi => ?_, fun i hi k hk => ?_, h.contig, hs⟩
  · rw [h.roots]
    exact List.map_congr_left fun p hp => (hag p.1 p.2 (rootsStack_bound m p (List.mem_reverse.mp hp))).symm
  · rw [h.leaf i hi, hag 0 i (by rw [Nat.pow_zero, Nat.mul_one]; exact h.heldLt i hi)]
  · have hi' := h.heldLt i hi
    rw [sz, hget i hi'] at hk
    rw [hps i (Nat.le_of_lt hi'), hget i hi']
    exact h.data i hi k hk

theorem repr_extract (C : Crypto) (bs : Array Bytes) (m : Nat) (hm : m ≤ bs.size) (hs : bs.size < 2 ^ 64 ∧ psum bs bs.size < 2 ^ 64)
    (c : Core) (d : Disk) (held : Nat → Bool) :
    RepR C (bs.extract 0 m) c d held ↔ RepRAt C bs m c d held := by
  have hsz := size_extract bs m hm
  have hps := psum_extract bs m hm
  have hget : ∀ i, i < m → (bs.extract 0 m).getD i [] = bs.getD i [] := fun i hi => extract_getD bs m i hm hi
  rw [← reprAt_full, hsz]
  constructor
  · exact reprAt_agree C _ bs m c d held (fun dd o hb => (nodeAt_extract C bs m hm dd o hb).symm) (fun i hi => (hget i hi).symm)
      (fun i hi => (hps i hi).symm) hm hs
  · have hpm : psum bs m ≤ psum bs bs.size := psum_mono bs hm
    exact reprAt_agree C bs _ m c d held (nodeAt_extract C bs m hm) hget hps (Nat.le_of_eq hsz.symm)
      (by rw [hsz, hps m (Nat.le_refl _)]; exact ⟨by omega, by omega⟩)

theorem closedAt_congr (C : Crypto) (bs : Array Bytes) (L : Nat) (t t' : Tree) (f f' : File) (h : ClosedAt C bs L t f)
    (hn : ∀ i, t'.node? f' i = t.node? f i) (hl : t'.length = t.length) : ClosedAt C bs L t' f' := by
  refine ⟨⟨by rw [hl]; exact h.sparse.length, fun i n hi => h.sparse.sound i n (by rw [← hn]; exact hi),
    fun p hp => by rw [hn]; exact h.sparse.roots p hp⟩, fun d o hst hpar => ?_⟩
  rw [hn] at hst
  have := h.closed d o hst hpar
  rw [hn, hn]; exact this

/-- the invariant reads core and stores only through the tree's lookups and metadata, the bits, the `contiguous` hint and
    the data store -/
theorem reprAt_congr (C : Crypto) (bs : Array Bytes) (m : Nat) (c : Core) (d : Disk) (held : Nat → Bool) (h : RepRAt C bs m c d held)
    (c1 : Core) (d1 : Disk) (hlook : ∀ i, c1.tree.node? d1.tree i = c.tree.node? d.tree i) (hlen : c1.tree.length = c.tree.length)
    (hroots : c1.tree.roots = c.tree.roots) (hbytes : c1.tree.byteLength = c.tree.byteLength) (hwf : MapWF c1.tree.unflushed)
    (hal : d1.tree.size % 40 = 0) (hbits : ∀ i, c1.bitfield.get i = c.bitfield.get i)
    (hh : c1.header.contiguous = c.header.contiguous) (hdata : d1.data = d.data) : RepRAt C bs m c1 d1 held :=
  ⟨h.le, closedAt_congr C bs m c.tree c1.tree d.tree d1.tree h.closed hlook hlen, by rw [hroots]; exact h.roots,
    by rw [hbytes]; exact h.bytes, hwf, hal, fun i => by rw [hbits]; exact h.bits i, h.heldLt,
    fun i hi => by rw [hlook]; exact h.leaf i hi, by rw [hdata]; exact h.data,
    ⟨fun i hi => by rw [hbits]; exact h.contig.1 i (hh ▸ hi), by rw [hbits, hh]; exact h.contig.2⟩, h.small⟩

/-- its two everyday cases: other stores with the same tree and data store; another core with the same tree, header and bits -/
theorem reprAt_stores {C : Crypto} {bs : Array Bytes} {m : Nat} {c : Core} {d : Disk} {held : Nat → Bool} (h : RepRAt C bs m c d held)
    (d' : Disk) (ht : d'.tree = d.tree) (hdata : d'.data = d.data) : RepRAt C bs m c d' held :=
  reprAt_congr C bs m c d held h c d' (fun i => by rw [ht]) rfl rfl rfl h.mapwf (by rw [ht]; exact h.aligned) (fun _ => rfl) rfl hdata

theorem reprAt_core {C : Crypto} {bs : Array Bytes} {m : Nat} {c : Core} {d : Disk} {held : Nat → Bool} (h : RepRAt C bs m c d held)
    (c' : Core) (ht : c'.tree = c.tree) (hh : c'.header = c.header) (hb : ∀ i, c'.bitfield.get i = c.bitfield.get i) :
    RepRAt C bs m c' d held :=
  reprAt_congr C bs m c d held h c' d (fun i => by rw [ht]) (by rw [ht]) (by rw [ht]) (by rw [ht]) (by rw [ht]; exact h.mapwf) h.aligned hb
    (by rw [hh]) rfl

/-- the periodic flush keeps the invariant: it empties the map of unflushed nodes into their slots (`flush_lookup`) -/
theorem maybeFlush_reprAt (C : Crypto) (bs : Array Bytes) (m : Nat) (c : Core) (d : Disk) (held : Nat → Bool) (h : RepRAt C bs m c d held) :
    RepRAt C bs m c.maybeFlush.1 (d.applyAll c.maybeFlush.2) held := by
  by_cases hf : c.skipFlush = 0 ∨ c.oplog.entriesByteLength ≥ Spec.maxEntriesBytes
  · obtain ⟨hlook, hal⟩ := flushList_lookup c.tree d.tree h.mapwf h.aligned
    have htree : (d.applyAll (c.bitfield.flush.2 ++ c.tree.flush.2 ++ (Oplog.flush c.oplog c.header false).2)).tree
        = writeSlots d.tree (Crash.flushList c.tree) := by
      rw [Journal.applyAll_append, Journal.applyAll_append, Journal.applyAll_tree (Journal.oplogFlush_store _ _ _), Crash.flush_journal,
        applyAll_tree_writes]
      exact congrArg (writeSlots · _) (Journal.applyAll_tree (Journal.bitfieldFlush_store _))
    rw [Core.maybeFlush_flush c hf]
    refine reprAt_congr C bs m c d held h _ _ ?_ rfl rfl rfl (fun k n hk => by simp at hk) ?_ (fun _ => rfl) rfl
      (Journal.applyAll_data_off (Core.flushAll_off_data _ _))
    · intro i; rw [Core.flushAll_snd, htree]; exact hlook i
    · rw [Core.flushAll_snd, htree]; exact hal
  · rw [Core.maybeFlush_skip c hf]
    exact reprAt_core h _ rfl rfl fun _ => rfl

/-! ### applying an accepted proof keeps the invariant -/

theorem freshR_reprAt (C : Crypto) (bs : Array Bytes) (c : Core) (d : Disk) (h : FreshR C bs c d) :
    RepRAt C bs 0 c d (fun _ => false) := by
  refine ⟨Nat.zero_le _, ⟨h.empty, fun dd o _ hpar => ?_⟩, by rw [h.roots, rootsAt_zero], h.bytes0, h.mapwf, h.aligned, h.bits,
    fun i hi => (by cases hi), fun i hi => (by cases hi), fun i hi => (by cases hi), h.contig, h.small⟩
  -- no parent lies inside the empty log
  have : 0 < (o / 2 + 1) * 2 ^ (dd + 1) := Nat.mul_pos (Nat.succ_pos _) (pow_pos' _)
  omega

/-- a replica of the first 0 blocks holds nothing … -/
theorem reprAt0_held {C : Crypto} {bs : Array Bytes} {c : Core} {d : Disk} {held : Nat → Bool} (h : RepRAt C bs 0 c d held) :
    held = fun _ => false :=
  funext fun i => Bool.eq_false_iff.mpr fun hh => Nat.not_lt_zero i (h.heldLt i hh)

/-- … and is one of any other log within the format's limits: nothing of the log is read (`reprAt_agree` at length 0) -/
theorem reprAt0_agree {C : Crypto} {bs : Array Bytes} {c : Core} {d : Disk} {held : Nat → Bool} (h : RepRAt C bs 0 c d held)
    (bs' : Array Bytes) (hs' : bs'.size < 2 ^ 64 ∧ psum bs' bs'.size < 2 ^ 64) : RepRAt C bs' 0 c d held :=
  reprAt_agree C bs bs' 0 c d held (fun dd o hb => absurd hb (Nat.not_le.mpr (Nat.mul_pos (Nat.succ_pos o) (pow_pos' dd))))
    (fun i hi => absurd hi (Nat.not_lt_zero i)) (fun i hi => by rw [Nat.le_zero.mp hi]; rfl) (Nat.zero_le _) hs' h

/-- **the tree part of a step**: a commit that adds reference nodes inside `n` and leaves a closed tree with the
    roots and byte length of the first `n` blocks, while bitfield, `contiguous` hint, tree store and data store stay,
    takes a replica of the first `m ≤ n` blocks to one of the first `n` with the same blocks held -/
theorem commit_reprAt (C : Crypto) (hC : HashWF C) (bs : Array Bytes) (m n : Nat) (c : Core) (d : Disk) (held : Nat → Bool)
    (h : RepRAt C bs m c d held) (hmn : m ≤ n) (hn : n ≤ bs.size) (nodes : List Node)
    (href : ∀ x ∈ nodes, ∃ dd o, x = nodeAt C bs dd o ∧ (o + 1) * 2 ^ dd ≤ n) (c1 : Core) (d1 : Disk)
    (hu : c1.tree.unflushed = insertAll c.tree.unflushed nodes) (hcl : ClosedAt C bs n c1.tree d.tree)
    (hroots : c1.tree.roots = rootsAt C bs n) (hbytes : c1.tree.byteLength = psum bs n)
    (hb : c1.bitfield = c.bitfield) (hh : c1.header.contiguous = c.header.contiguous)
    (hdt : d1.tree = d.tree) (hdd : d1.data = d.data) : RepRAt C bs n c1 d1 held := by
  obtain ⟨_, hold, _⟩ := insert_lookup C hC bs c.tree c1.tree d.tree nodes
    (fun x hx => by obtain ⟨dd, o, e, _⟩ := href x hx; exact ⟨dd, o, e⟩) hu
  refine ⟨hn, by rw [hdt]; exact hcl, hroots, hbytes, ?_, by rw [hdt]; exact h.aligned, by rw [hb]; exact h.bits,
    fun i hi => Nat.lt_of_lt_of_le (h.heldLt i hi) hmn, fun i hi => by rw [hdt]; exact hold _ _ (h.leaf i hi),
    by rw [hdd]; exact h.data, by rw [hb, hh]; exact h.contig, h.small⟩
  rw [hu]
  apply mapWF_insertAll _ _ h.mapwf
  intro x hx
  obtain ⟨dd, o, rfl, hb'⟩ := href x hx
  -- a node inside the log is no longer than the log
  have a1 := nodeAt_length_le C bs dd o
  have a2 := psum_mono bs (Nat.le_trans hb' hn)
  have := h.small.2
  exact ⟨nodeAt_hash_len C hC bs dd o, by omega⟩

/-- a byte of block `j` that the data store holds at its place is still there after (a prefix of) block `i` is written at
    its place: blocks do not overlap, and block `i`'s own bytes are written with their own values -/
theorem data_write_prefix (bs : Array Bytes) (g : File) (i t j k : Nat) (hk : k < sz bs j)
    (hd : psum bs j + k < g.size ∧ g.byte (psum bs j + k) = (bs.getD j []).getD k 0) :
    psum bs j + k < (g.write (psum bs i) ((bs.getD i []).take t)).size
      ∧ (g.write (psum bs i) ((bs.getD i []).take t)).byte (psum bs j + k) = (bs.getD j []).getD k 0 := by
  have htl : ((bs.getD i []).take t).length = min t (sz bs i) := List.length_take
  have hq1 : min t (sz bs i) ≤ t := Nat.min_le_left _ _
  have hq2 : min t (sz bs i) ≤ sz bs i := Nat.min_le_right _ _
  rw [File.size_write, File.byte_write, htl]
  generalize min t (sz bs i) = q at hq1 hq2
  refine ⟨Nat.lt_of_lt_of_le hd.1 (Nat.le_max_left _ _), ?_⟩
  by_cases hin : psum bs i ≤ psum bs j + k ∧ psum bs j + k < psum bs i + q
  · rw [if_pos hin]
    rcases Nat.lt_trichotomy j i with hlt | rfl | hgt
    · -- block `j` ends before the write begins
      exact absurd (Nat.le_trans (psum_succ_le bs hlt) hin.1) (Nat.not_le.mpr (Nat.add_lt_add_left hk _))
    · have hk2 : psum bs j + k - psum bs j = k := Nat.add_sub_cancel_left _ _
      have hkt : k < t := Nat.lt_of_lt_of_le (Nat.lt_of_add_lt_add_left hin.2) hq1
      rw [hk2, List.getD_eq_getElem?_getD, List.getElem?_take, if_pos hkt, ← List.getD_eq_getElem?_getD]
    · -- block `j` begins after the write ends
      exact absurd (Nat.lt_of_lt_of_le hin.2 (Nat.le_trans (Nat.add_le_add_left hq2 _) (psum_succ_le bs hgt)))
        (Nat.not_lt.mpr (Nat.le_add_right _ _))
  · rw [if_neg hin]; exact hd.2

/-- writing a block's bytes — or, when the write is torn, a prefix of them — where they belong does not disturb what
    the replica holds -/
theorem reprAt_data_write_prefix (C : Crypto) (bs : Array Bytes) (m : Nat) (c : Core) (d : Disk) (held : Nat → Bool) (h : RepRAt C bs m c d held)
    (i t : Nat) : RepRAt C bs m c (d.apply (SOp.write .data (psum bs i) ((bs.getD i []).take t))) held :=
  ⟨h.le, h.closed, h.roots, h.bytes, h.mapwf, h.aligned, h.bits, h.heldLt, h.leaf,
    fun j hj k hk => data_write_prefix bs d.data i t j k hk (h.data j hj k hk), h.contig, h.small⟩

theorem reprAt_data_write (C : Crypto) (bs : Array Bytes) (m : Nat) (c : Core) (d : Disk) (held : Nat → Bool) (h : RepRAt C bs m c d held)
    (i : Nat) : RepRAt C bs m c (d.apply (SOp.write .data (psum bs i) (bs.getD i []))) held := by
  have := reprAt_data_write_prefix C bs m c d held h i (bs.getD i []).length
  rw [List.take_length] at this
  exact this

theorem get_setRange_one (b : Bitfield) (i j : Nat) : (b.setRange i 1 true).get j = (b.get j || j == i) := by
  rw [Bitfield.get_setRange]
  by_cases hji : j = i
  · subst hji; simp
  · rw [if_neg (by omega), beq_eq_false_iff_ne.mpr hji, Bool.or_false]

/-- **the block part of a step**: once the leaf of block `i` is stored, setting its bit, moving the `contiguous` hint and
    writing its bytes at the writer's byte offset adds `i` to the blocks held (`H` is the header once the entry
    is logged: another header with the old hint) -/
theorem hold_block_reprAt (C : Crypto) (bs : Array Bytes) (n : Nat) (c : Core) (d : Disk) (held : Nat → Bool)
    (h : RepRAt C bs n c d held) (i : Nat) (hi : i < n)
    (hleaf : c.tree.node? d.tree (Flat.index 0 i) = some (nodeAt C bs 0 i)) (H : Oplog.Header)
    (hH : H.contiguous = c.header.contiguous) (c1 : Core) (d1 : Disk) (ht : c1.tree = c.tree)
    (hb : c1.bitfield = c.bitfield.setRange i 1 true)
    (hh : c1.header.contiguous = (Core.updateContiguous H (c.bitfield.setRange i 1 true) ⟨false, i, 1⟩).contiguous)
    (hdt : d1.tree = d.tree) (hdd : d1.data = d.data.write (psum bs i) (bs.getD i [])) :
    RepRAt C bs n c1 d1 (fun j => held j || j == i) := by
  have hor : ∀ j, (held j || j == i) = true → held j = true ∨ j = i := fun j hj => by
    simpa only [Bool.or_eq_true, beq_iff_eq] using hj
  refine ⟨h.le, by rw [ht, hdt]; exact h.closed, by rw [ht]; exact h.roots, by rw [ht]; exact h.bytes, by rw [ht]; exact h.mapwf,
    by rw [hdt]; exact h.aligned, fun j => by rw [hb, get_setRange_one, h.bits j], fun j hj => ?_, fun j hj => ?_, fun j hj k hk => ?_, ?_, h.small⟩
  · rcases hor j hj with hj | rfl
    · exact h.heldLt j hj
    · exact hi
  · rw [ht, hdt]
    rcases hor j hj with hj | rfl
    · exact h.leaf j hj
    · exact hleaf
  · rw [hdd]
    rcases hor j hj with hj | rfl
    · exact (reprAt_data_write C bs n c d held h i).data j hj k hk
    · exact File.write_inside d.data _ _ k hk
  · rw [hb, hh]
    exact Core.updateContiguous_spec H c.bitfield ⟨false, i, 1⟩ (by rw [hH]; exact h.contig) (by simp)

/-- a closed virtual tree of a changeset is what the commit of that changeset leaves -/
theorem closedAt_of_vt (C : Crypto) (bs : Array Bytes) (n : Nat) (t tr : Tree) (f : File) (cs : Changeset)
    (h : ClosedAt C bs n (vt t cs) f) (hu : tr.unflushed = insertAll t.unflushed cs.nodes) (hl : tr.length = cs.length) :
    ClosedAt C bs n tr f :=
  closedAt_congr C bs n (vt t cs) tr f f h (fun i => node?_congr _ _ _ _ (by rw [hu]; rfl)) hl

/-! ### one interface for every accepted proof

A proof carries a block or not (`blk`); the three functions below say what that means for the step: the bitfield
update it logs, what it writes to the data store, and what the replica holds afterwards. -/

def buOf : Option Nat → Option Oplog.BitfieldUpdate
  | none => none
  | some i => some ⟨false, i, 1⟩

def dataOf (bs : Array Bytes) : Option Nat → List SOp
  | none => []
  | some i => [.write .data (psum bs i) (bs.getD i [])]

def heldWith (held : Nat → Bool) : Option Nat → Nat → Bool
  | none => held
  | some i => fun j => held j || j == i

/-- **what is known of an accepted proof**: `verify_proof` accepts `p` on the replica `(c, d)` with the changeset `cs`, which
    commits to `tr`; the data step writes the block `blk` (if any) at the writer's byte offset; the changeset's nodes are
    reference nodes inside the first `n` blocks, the block's leaf among them; and `tr` is closed with the roots and byte
    length of the first `n` blocks.  Every honest answer the replica applies gives one of these. -/
structure Accepts (C : Crypto) (bs : Array Bytes) (n : Nat) (c : Core) (d : Disk) (p : Proof) (cs : Changeset) (tr : Tree)
    (blk : Option Nat) : Prop where
  fork : p.fork = c.tree.fork
  verified : c.tree.verifyProof C d.tree p c.publicKey = .ok cs
  commit : c.tree.commit cs = .ok tr
  data : Core.dataStep c d p cs = .ok (dataOf bs blk, buOf blk)
  leaf : ∀ i ∈ blk, i < n ∧ nodeAt C bs 0 i ∈ cs.nodes
  nodesRef : ∀ x ∈ cs.nodes, ∃ dd o, x = nodeAt C bs dd o ∧ (o + 1) * 2 ^ dd ≤ n
  closed : ClosedAt C bs n tr d.tree
  roots : tr.roots = rootsAt C bs n
  bytes : tr.byteLength = psum bs n
  treeFork : tr.fork = c.tree.fork

/-- what the log wants of the changeset besides: its entry is small, and an upgrade is signed and starts at the replica's length -/
structure Loggable (C : Crypto) (c : Core) (cs : Changeset) : Prop where
  count : cs.nodes.length ≤ 2 ^ 22
  signed : cs.upgraded = true → ∃ sig, sig.length = 64 ∧ cs.signature = some sig ∧ cs.hash = some (rootsHash C cs.roots)
    ∧ cs.ancestors = c.tree.length

theorem Loggable.plain {C : Crypto} {c : Core} {cs : Changeset} (hup : cs.upgraded = false) (hcount : cs.nodes.length ≤ 2 ^ 22) :
    Loggable C c cs :=
  ⟨hcount, fun hu => by rw [hup] at hu; cases hu⟩

theorem downPath_length (C : Crypto) (bs : Array Bytes) : ∀ (k d o : Nat), (downPath C bs d o k).length = 2 * k := by
  intro k
  induction k with
  | zero => intro d o; rfl
  | succ k ih => intro d o; simp only [downPath, List.length_cons, ih]; omega

/-- a node and a path of a depth below 64 are far fewer nodes than an entry may carry -/
theorem downPath_count (C : Crypto) (bs : Array Bytes) (x : Node) (d o k : Nat) (hk : k < 64) :
    (x :: downPath C bs d o k).length ≤ 2 ^ 22 := by
  rw [List.length_cons, downPath_length]
  exact Nat.le_trans (Nat.succ_le_succ (Nat.mul_le_mul_left 2 (Nat.le_of_lt hk))) (by decide)

/-- the nodes of an upgrade (`a` of them, along `b` positions over `c` roots; the bounds are those of `grow_upgrade_accepted`,
    `up_length` and `rootsStack_length_log`) are far fewer than an entry may carry -/
theorem upgrade_count {a b c : Nat} (h1 : a ≤ 64 + 2 * b) (h2 : b ≤ 64 + c) (h3 : c ≤ 64) : a ≤ 2 ^ 22 :=
  Nat.le_trans h1 (Nat.le_trans (Nat.add_le_add_left (Nat.mul_le_mul_left 2 (Nat.le_trans h2 (Nat.add_le_add_left h3 64))) 64) (by decide))

theorem dataStep_at (c : Core) (d : Disk) (p : Proof) (cs : Changeset) (i off : Nat) (v : Bytes) (nodes : List Node)
    (hb : p.block = some ⟨i, v, nodes⟩) (hoff : c.tree.byteOffsetInChangeset d.tree i cs = .ok off) :
    Core.dataStep c d p cs = .ok ([.write .data off v], some ⟨false, i, 1⟩) := by
  rw [Core.dataStep_block c d p cs _ hb, hoff]; rfl

theorem Accepts.refs {C : Crypto} {bs : Array Bytes} {n : Nat} {c : Core} {d : Disk} {p : Proof} {cs : Changeset} {tr : Tree}
    {blk : Option Nat} (a : Accepts C bs n c d p cs tr blk) : ∀ x ∈ cs.nodes, ∃ dd o, x = nodeAt C bs dd o := fun x hx => by
  obtain ⟨dd, o, e, _⟩ := a.nodesRef x hx; exact ⟨dd, o, e⟩

/-- **an accepted proof, applied**: the explicit step of `verify_and_apply_proof` (`verifyAndApply_accept`) and the
    invariant of the core it reaches before the periodic flush — the tree part (`commit_reprAt`), then the block
    part on top of it (`hold_block_reprAt`) -/
theorem Accepts.step {C : Crypto} (hC : HashWF C) {bs : Array Bytes} {m n : Nat} {c : Core} {d : Disk} {held : Nat → Bool} {p : Proof}
    {cs : Changeset} {tr : Tree} {blk : Option Nat} (h : RepRAt C bs m c d held) (hmn : m ≤ n) (hn : n ≤ bs.size)
    (a : Accepts C bs n c d p cs tr blk) :
    c.verifyAndApply C d p
        = { core := (Core.afterApply c cs (buOf blk) tr).maybeFlush.1, result := .ok true,
            journal := dataOf bs blk ++ (Oplog.appendEntry c.oplog (Core.entryOf cs (buOf blk) c.header).1).2
              ++ (Core.afterApply c cs (buOf blk) tr).maybeFlush.2,
            events := Core.appliedEvents p (buOf blk) }
      ∧ RepRAt C bs n (Core.afterApply c cs (buOf blk) tr)
          (d.applyAll (dataOf bs blk ++ (Oplog.appendEntry c.oplog (Core.entryOf cs (buOf blk) c.header).1).2)) (heldWith held blk) := by
  refine ⟨Core.verifyAndApply_accept C c d p cs _ _ tr a.fork a.verified (Tree.commit_commitable a.commit) a.data
    (encodable_of_ref C hC bs cs a.refs) a.commit, ?_⟩
  have hj := Journal.appendEntry_store c.oplog (Core.entryOf cs (buOf blk) c.header).1
  cases blk with
  | none =>
    exact commit_reprAt C hC bs m n c d held h hmn hn cs.nodes a.nodesRef _ _ (Tree.commit_unflushed a.commit) a.closed a.roots a.bytes rfl
      (Core.entryOf_contiguous cs none c.header) (Journal.applyAll_tree hj) (Journal.applyAll_data hj)
  | some i =>
    obtain ⟨hi, hleaf⟩ := a.leaf i rfl
    have hT := commit_reprAt C hC bs m n c d held h hmn hn cs.nodes a.nodesRef { c with tree := tr } d (Tree.commit_unflushed a.commit)
      a.closed a.roots a.bytes rfl rfl rfl rfl
    have hnew := (insert_lookup C hC bs c.tree tr d.tree cs.nodes a.refs (Tree.commit_unflushed a.commit)).1 0 i hleaf
    refine hold_block_reprAt C bs n _ d held hT i hi hnew (Core.entryOf cs (some ⟨false, i, 1⟩) c.header).2
      (Core.entryOf_contiguous cs _ c.header) _ _ rfl rfl rfl ?_ ?_
    · rw [Journal.applyAll_append, Journal.applyAll_tree hj]; rfl
    · rw [Journal.applyAll_append, Journal.applyAll_data hj]; rfl

/-- **an accepted proof, applied, as the caller sees it**: `verify_and_apply_proof` answers `true`, the replica then
    represents the first `n` blocks with the block held, and fork and key stay -/
theorem Accepts.applied {C : Crypto} (hC : HashWF C) {bs : Array Bytes} {m n : Nat} {c : Core} {d : Disk} {held : Nat → Bool} {p : Proof}
    {cs : Changeset} {tr : Tree} {blk : Option Nat} (h : RepRAt C bs m c d held) (hmn : m ≤ n) (hn : n ≤ bs.size)
    (a : Accepts C bs n c d p cs tr blk) :
    (c.verifyAndApply C d p).result = .ok true
      ∧ RepRAt C bs n (c.verifyAndApply C d p).core (d.applyAll (c.verifyAndApply C d p).journal) (heldWith held blk)
      ∧ (c.verifyAndApply C d p).core.tree.fork = c.tree.fork ∧ (c.verifyAndApply C d p).core.publicKey = c.publicKey := by
  obtain ⟨hshape, hrep⟩ := a.step hC h hmn hn
  rw [hshape]
  exact ⟨rfl, by rw [Journal.applyAll_append]; exact maybeFlush_reprAt C bs n _ _ _ hrep, (Core.maybeFlush_fork _).trans a.treeFork,
    Core.maybeFlush_publicKey _⟩

/-- **what the replica holds reads back byte-identical** -/
theorem get_held_at (C : Crypto) (bs : Array Bytes) (m : Nat) (c : Core) (d : Disk) (held : Nat → Bool) (h : RepRAt C bs m c d held)
    (i : Nat) (hi : held i = true) : (c.getBlock d i).result = .ok (some (bs.getD i [])) := by
  have hr := byteRange_closed C bs m c.tree d.tree h.closed (Nat.lt_of_le_of_lt h.le h.small.1) h.roots i (h.heldLt i hi) (h.leaf i hi)
  unfold Core.getBlock
  simp only [h.bits i, hi, Bool.not_true, Bool.false_eq_true, ite_false, hr]
  by_cases hz : sz bs i = 0
  · have : bs.getD i [] = [] := List.eq_nil_of_length_eq_zero hz
    simp [hz, this]
  · simp only [hz, ite_false, LiveRefine.DataOK.read_block h.data i hi hz]

/-- and what it does not hold is not served -/
theorem get_missing_at (C : Crypto) (bs : Array Bytes) (m : Nat) (c : Core) (d : Disk) (held : Nat → Bool) (h : RepRAt C bs m c d held)
    (i : Nat) (hi : held i = false) : (c.getBlock d i).result = .ok none := by
  unfold Core.getBlock
  simp [h.bits i, hi]

/-- **a path answer is accepted**: a proof (for a block or for a hash) that `verify_proof` turns into the node `(d0, o0)` and the
    path from it up to an ancestor the replica stores; the changeset does not upgrade, the commit adds those nodes and
    leaves the replica closed -/
theorem path_accepts {C : Crypto} (hC : HashWF C) {bs : Array Bytes} {m : Nat} {c : Core} {d : Disk} {held : Nat → Bool}
    (h : RepRAt C bs m c d held) {p : Proof} {d0 o0 k : Nat} {blk : Option Nat} (hf : p.fork = c.tree.fork)
    (hv : c.tree.verifyProof C d.tree p c.publicKey = .ok { c.tree.changeset with rnodes := upPath C bs d0 o0 k ++ [nodeAt C bs d0 o0] })
    (hstored : c.tree.node? d.tree (Flat.index (d0 + k) (o0 / 2 ^ k)) = some (nodeAt C bs (d0 + k) (o0 / 2 ^ k)))
    (hin : (o0 / 2 ^ k + 1) * 2 ^ (d0 + k) ≤ m)
    (hdata : Core.dataStep c d p { c.tree.changeset with rnodes := upPath C bs d0 o0 k ++ [nodeAt C bs d0 o0] } = .ok (dataOf bs blk, buOf blk))
    (hleaf : ∀ i ∈ blk, i < m ∧ nodeAt C bs 0 i = nodeAt C bs d0 o0) :
    ∃ cs : Changeset, Accepts C bs m c d p cs { c.tree with unflushed := insertAll c.tree.unflushed cs.nodes } blk ∧ Loggable C c cs
      ∧ cs.upgraded = false ∧ cs.nodes = nodeAt C bs d0 o0 :: downPath C bs d0 o0 k := by
  have hnodes : ({ c.tree.changeset with rnodes := upPath C bs d0 o0 k ++ [nodeAt C bs d0 o0] } : Changeset).nodes
      = nodeAt C bs d0 o0 :: downPath C bs d0 o0 k := path_reverse C bs d0 o0 k
  refine ⟨_, ⟨hf, hv, Tree.commit_plain _ _ (Tree.commitable_of_orig _ _ rfl rfl) rfl, hdata, fun i hi => ?_, ?_, ?_,
    h.roots, h.bytes, rfl⟩, Loggable.plain rfl ?_, rfl, hnodes⟩
  · obtain ⟨hi', e⟩ := hleaf i hi
    exact ⟨hi', by rw [hnodes, e]; exact List.mem_cons_self ..⟩
  · rw [hnodes]; exact pathNodes_inside C bs d0 o0 k m hin
  · rw [hnodes]
    exact (h.closed.insert_path hC d0 o0 k hstored hin { c.tree with unflushed := insertAll c.tree.unflushed _ } rfl rfl).1
  · rw [hnodes]
    exact downPath_count C bs _ d0 o0 k
      (Nat.lt_of_le_of_lt (Nat.le_add_left k d0) (Pow2.depth_lt_of_span hin (Nat.lt_of_le_of_lt h.le h.small.1)))

/-- the honest block answer is accepted, and the byte offset computed under its changeset is the writer's -/
theorem block_accepts {C : Crypto} (hC : HashWF C) {bs : Array Bytes} {m : Nat} {c : Core} {d : Disk} {held : Nat → Bool}
    (h : RepRAt C bs m c d held) {i : Nat} (hi : i < m) :
    ∃ cs : Changeset, Accepts C bs m c d (honestBlock C bs c d i) cs { c.tree with unflushed := insertAll c.tree.unflushed cs.nodes } (some i)
      ∧ Loggable C c cs ∧ cs.upgraded = false
      ∧ cs.nodes = nodeAt C bs 0 i :: downPath C bs 0 i (c.tree.missingNodes d.tree (2 * i)) := by
  have hM : m < 2 ^ 64 := Nat.lt_of_le_of_lt h.le h.small.1
  obtain ⟨hstored, hin⟩ := missingNodes_spec C bs m c.tree d.tree h.closed.sparse hM i hi
  exact path_accepts hC h rfl (block_proof_path C bs c.tree d.tree c.publicKey i _ c.tree.fork hstored)
    (by rw [Nat.zero_add]; exact hstored) (by rw [Nat.zero_add]; exact hin)
    (dataStep_at c d _ _ i _ _ _ rfl (byteOffsetInChangeset_honest C bs m c.tree d.tree h.closed hM h.roots i _ hi hstored hin))
    (fun j hj => by cases hj; exact ⟨hi, rfl⟩)

/-- the honest block answer applied: the explicit step, and the invariant of the core it reaches before the periodic flush -/
theorem block_step (C : Crypto) (hC : HashWF C) (bs : Array Bytes) (m : Nat) (c : Core) (d : Disk) (held : Nat → Bool)
    (h : RepRAt C bs m c d held) (i : Nat) (hi : i < m) :
    c.verifyAndApply C d (honestBlock C bs c d i)
        = { core := (afterBlock C bs c d i).maybeFlush.1, result := .ok true,
            journal := blockJournal C bs c d i ++ (afterBlock C bs c d i).maybeFlush.2,
            events := Core.appliedEvents (honestBlock C bs c d i) (some ⟨false, i, 1⟩) }
      ∧ RepRAt C bs m (afterBlock C bs c d i) (d.applyAll (blockJournal C bs c d i)) (fun j => held j || j == i) := by
  obtain ⟨cs, a, _, hup, hnodes⟩ := block_accepts hC h hi
  -- the entry of a changeset that does not upgrade carries its nodes and the bitfield update; the header stays
  have hent := Core.entryOf_not_upgraded cs (some ⟨false, i, 1⟩) c.header hup
  have hcore : Core.afterApply c cs (some ⟨false, i, 1⟩) { c.tree with unflushed := insertAll c.tree.unflushed cs.nodes }
      = afterBlock C bs c d i := by
    simp only [Core.afterApply, afterBlock, hent, hnodes]
  have hjournal : [SOp.write .data (psum bs i) (bs.getD i [])] ++ (Oplog.appendEntry c.oplog (Core.entryOf cs (some ⟨false, i, 1⟩) c.header).1).2
      = blockJournal C bs c d i := by
    simp only [blockJournal, hent, hnodes]
  have hs := a.step hC h (Nat.le_refl _) h.le
  simp only [buOf, dataOf, hcore, hjournal] at hs
  exact hs

theorem apply_block_at (C : Crypto) (hC : HashWF C) (bs : Array Bytes) (m : Nat) (c : Core) (d : Disk) (held : Nat → Bool)
    (h : RepRAt C bs m c d held) (i : Nat) (hi : i < m) :
    (c.verifyAndApply C d (honestBlock C bs c d i)).result = .ok true
      ∧ RepRAt C bs m (c.verifyAndApply C d (honestBlock C bs c d i)).core
          (d.applyAll (c.verifyAndApply C d (honestBlock C bs c d i)).journal) (fun j => held j || j == i) := by
  obtain ⟨cs, a, _⟩ := block_accepts hC h hi
  obtain ⟨r1, r2, _, _⟩ := a.applied hC h (Nat.le_refl _) h.le
  exact ⟨r1, r2⟩

end HC.Growth

/-! ### a replica of the whole log: block answers and first contact -/

namespace HC.Replica
open HC HC.Codec HC.Flat HC.Tree HC.RefTree HC.RefProof HC.Sound HC.Offsets HC.TreeStore HC.Complete HC.UpgradeSound HC.CreateTotal HC.Oplog HC.Growth

theorem maybeFlush_repr (C : Crypto) (bs : Array Bytes) (c : Core) (d : Disk) (held : Nat → Bool) (h : RepR C bs c d held) :
    RepR C bs c.maybeFlush.1 (d.applyAll c.maybeFlush.2) held :=
  (reprAt_full C bs _ _ held).mp (maybeFlush_reprAt C bs bs.size c d held ((reprAt_full C bs c d held).mpr h))

theorem get_held (C : Crypto) (bs : Array Bytes) (c : Core) (d : Disk) (held : Nat → Bool) (h : RepR C bs c d held) (i : Nat)
    (hi : held i = true) : (c.getBlock d i).result = .ok (some (bs.getD i [])) :=
  get_held_at C bs bs.size c d held ((reprAt_full C bs c d held).mpr h) i hi

theorem get_missing (C : Crypto) (bs : Array Bytes) (c : Core) (d : Disk) (held : Nat → Bool) (h : RepR C bs c d held) (i : Nat)
    (hi : held i = false) : (c.getBlock d i).result = .ok none :=
  get_missing_at C bs bs.size c d held ((reprAt_full C bs c d held).mpr h) i hi

theorem apply_block_shape (C : Crypto) (hC : HashWF C) (bs : Array Bytes) (c : Core) (d : Disk) (held : Nat → Bool) (h : RepR C bs c d held)
    (i : Nat) (hi : i < bs.size) :
    c.verifyAndApply C d (honestBlock C bs c d i)
      = { core := (afterBlock C bs c d i).maybeFlush.1, result := .ok true,
          journal := blockJournal C bs c d i ++ (afterBlock C bs c d i).maybeFlush.2,
          events := Core.appliedEvents (honestBlock C bs c d i) (some ⟨false, i, 1⟩) } :=
  (block_step C hC bs bs.size c d held ((reprAt_full C bs c d held).mpr h) i hi).1

theorem afterBlock_repr (C : Crypto) (hC : HashWF C) (bs : Array Bytes) (c : Core) (d : Disk) (held : Nat → Bool) (h : RepR C bs c d held)
    (i : Nat) (hi : i < bs.size) :
    RepR C bs (afterBlock C bs c d i) (d.applyAll (blockJournal C bs c d i)) (fun j => held j || j == i) :=
  (reprAt_full C bs _ _ _).mp (block_step C hC bs bs.size c d held ((reprAt_full C bs c d held).mpr h) i hi).2

/-- **one honest block exchange at core level**: `verify_and_apply_proof` answers `true`, and afterwards the
    replica holds block `i` as well — the invariant holds again -/
theorem apply_block (C : Crypto) (hC : HashWF C) (bs : Array Bytes) (c : Core) (d : Disk) (held : Nat → Bool) (h : RepR C bs c d held)
    (i : Nat) (hi : i < bs.size) :
    (c.verifyAndApply C d (honestBlock C bs c d i)).result = .ok true
      ∧ RepR C bs (c.verifyAndApply C d (honestBlock C bs c d i)).core
          (d.applyAll (c.verifyAndApply C d (honestBlock C bs c d i)).journal) (fun j => held j || j == i) := by
  obtain ⟨r1, r2⟩ := apply_block_at C hC bs bs.size c d held ((reprAt_full C bs c d held).mpr h) i hi
  exact ⟨r1, (reprAt_full C bs _ _ _).mp r2⟩

/-- the writer's first upgrade answer is accepted by a replica of length 0 -/
theorem first_accepts {C : Crypto} (hC : HashWF C) {bs : Array Bytes} {c : Core} {d : Disk} {held : Nat → Bool} (h : RepRAt C bs 0 c d held)
    (h0 : 0 < bs.size) {sig : Bytes} (hsl : sig.length = 64)
    (hver : C.verify c.publicKey (RefTree.signableOf C bs c.tree.fork) sig = true) :
    ∃ cs : Changeset, Accepts C bs bs.size c d (honestUpgrade C bs c.tree.fork sig) cs (growCore c cs).tree none ∧ Loggable C c cs
      ∧ cs.roots = RefTree.roots C bs ∧ cs.length = bs.size ∧ cs.fork = c.tree.fork ∧ cs.signature = some sig
      ∧ cs.nodes = RefTree.roots C bs ∧ cs.upgraded = true ∧ cs.ancestors = c.tree.length ∧ cs.byteLength = psum bs bs.size
      ∧ cs.hash = some (rootsHash C cs.roots) := by
  have hr0 : c.tree.roots = [] := h.roots.trans (rootsAt_zero C bs)
  obtain ⟨cs, hvu, hroots, hlen, hfork, hsig, hrn, hupg, ho1, ho2, ha, hhash⟩ := UpgradeComplete.fresh_upgrade_accepted C bs h.small.1 h0
    c.tree.fork c.publicKey sig c.tree.changeset hr0 h.closed.sparse.length hsl hver
  obtain ⟨hvv, hcommit⟩ := Tree.upgrade_only_accepted C c.tree d.tree c.publicKey c.tree.fork _ true cs hvu hupg ho1 ho2 ha
  have hnodes : cs.nodes = RefTree.roots C bs := by
    rw [Changeset.nodes, hrn]
    exact (List.reverse_append ..).trans (List.reverse_reverse _)
  have hbytes : cs.byteLength = psum bs bs.size := by
    have hsum : UpgradeBytes.SumOK cs := UpgradeBytes.verifyUpgrade_sum C hvu
      (by simp [UpgradeBytes.SumOK, Tree.changeset, hr0, h.bytes, psum])
    rw [hsum, hroots, roots_eq_rootsAt, rootsAt_sum]
  refine ⟨cs, ⟨rfl, hvv, hcommit, Core.dataStep_none c d _ cs rfl, nofun, by rw [hnodes, roots_eq_rootsAt]; exact rootsAt_inside C bs bs.size,
    (closedAt_full C bs _ _).mpr (upgrade_commit_closed C hC bs c.tree d.tree h.closed.sparse _ (by rw [← hnodes]; rfl) hlen), hroots, hbytes,
    hfork⟩, ⟨?_, fun _ => ⟨sig, hsl, hsig, hhash, ha⟩⟩, hroots, hlen, hfork, hsig, hnodes, hupg, ha, hbytes, hhash⟩
  rw [hnodes, roots_eq_rootsAt, rootsAt_length]
  exact Nat.le_trans (rootsStack_length_log 64 _ h.small.1) (by decide)

theorem first_shape (C : Crypto) (hC : HashWF C) (bs : Array Bytes) (c : Core) (d : Disk) (h : FreshR C bs c d)
    (h0 : 0 < bs.size) (sig : Bytes) (hsl : sig.length = 64)
    (hver : C.verify c.publicKey (RefTree.signableOf C bs c.tree.fork) sig = true) :
    ∃ cs : Changeset, cs.roots = RefTree.roots C bs ∧ cs.length = bs.size ∧ cs.fork = c.tree.fork ∧ cs.signature = some sig
      ∧ cs.nodes = RefTree.roots C bs ∧ cs.upgraded = true ∧ cs.ancestors = c.tree.length ∧ cs.byteLength = psum bs bs.size
      ∧ cs.hash = some (rootsHash C cs.roots)
      ∧ c.verifyAndApply C d (honestUpgrade C bs c.tree.fork sig)
        = { core := (growCore c cs).maybeFlush.1, result := .ok true,
            journal := (Oplog.appendEntry c.oplog (Core.entryOf cs none c.header).1).2 ++ (growCore c cs).maybeFlush.2,
            events := Core.appliedEvents (honestUpgrade C bs c.tree.fork sig) none } := by
  have hr := freshR_reprAt C bs c d h
  obtain ⟨cs, a, _, h1, h2, h3, h4, h5, h6, h7, h8, h9⟩ := first_accepts hC hr h0 hsl hver
  exact ⟨cs, h1, h2, h3, h4, h5, h6, h7, h8, h9, (a.step hC hr (Nat.zero_le _) (Nat.le_refl _)).1⟩

/-- **first contact at core level**: the replica applies the writer's upgrade answer and then represents the
    writer's log with no block held -/
theorem apply_first_upgrade (C : Crypto) (hC : HashWF C) (bs : Array Bytes) (c : Core) (d : Disk) (h : FreshR C bs c d)
    (h0 : 0 < bs.size) (sig : Bytes) (hsl : sig.length = 64)
    (hver : C.verify c.publicKey (RefTree.signableOf C bs c.tree.fork) sig = true) :
    (c.verifyAndApply C d (honestUpgrade C bs c.tree.fork sig)).result = .ok true
      ∧ RepR C bs (c.verifyAndApply C d (honestUpgrade C bs c.tree.fork sig)).core
          (d.applyAll (c.verifyAndApply C d (honestUpgrade C bs c.tree.fork sig)).journal) (fun _ => false)
      ∧ (c.verifyAndApply C d (honestUpgrade C bs c.tree.fork sig)).core.tree.fork = c.tree.fork
      ∧ (c.verifyAndApply C d (honestUpgrade C bs c.tree.fork sig)).core.publicKey = c.publicKey := by
  have hr := freshR_reprAt C bs c d h
  obtain ⟨cs, a, _⟩ := first_accepts hC hr h0 hsl hver
  obtain ⟨r1, r2, r3, r4⟩ := a.applied hC hr (Nat.zero_le _) (Nat.le_refl _)
  exact ⟨r1, (reprAt_full C bs _ _ _).mp r2, r3, r4⟩

theorem fetch_repr (C : Crypto) (hC : HashWF C) (bs : Array Bytes) : ∀ (is : List Nat) (c : Core) (d : Disk) (held : Nat → Bool),
    RepR C bs c d held → (∀ i ∈ is, i < bs.size) →
      RepR C bs (fetch C bs (c, d) is).1 (fetch C bs (c, d) is).2 (fun j => held j || is.contains j)
      ∧ fetchResults C bs (c, d) is = is.map (fun _ => .ok true) := by
  intro is
  induction is with
  | nil =>
    intro c d held h _
    refine ⟨?_, rfl⟩
    have : (fun j => held j || ([] : List Nat).contains j) = held := by funext j; simp
    rw [this]; exact h
  | cons i is ih =>
    intro c d held h hlt
    obtain ⟨r1, r2⟩ := apply_block C hC bs c d held h i (hlt i (by simp))
    obtain ⟨r3, r4⟩ := ih _ _ _ r2 (fun j hj => hlt j (by simp [hj]))
    refine ⟨?_, by simp only [fetchResults, r1, r4, List.map_cons]⟩
    have : (fun j => held j || (i :: is).contains j) = (fun j => (held j || j == i) || is.contains j) := by
      funext j
      simp only [List.contains_cons, Bool.or_assoc]
    rw [this]
    exact r3

end HC.Replica

/-! ### the growth round at core level -/

namespace HC.Growth
open HC HC.Codec HC.Flat HC.Tree HC.RefTree HC.RefProof HC.Sound HC.Offsets HC.TreeStore HC.Complete HC.UpgradeSound HC.CreateTotal HC.Replica HC.FullRoots HC.Pow2 HC.File

/-- the writer's answer to "upgrade me from `m` to `n`" when its log has `n` blocks -/
def honestGrowth (C : Crypto) (bs : Array Bytes) (fork m n : Nat) (us : List (Nat × Nat)) (sig : Bytes) : Proof :=
  ⟨fork, none, none, none, some ⟨m, n - m, us.map (fun p => nodeAt C bs p.1 p.2), [], sig⟩⟩

theorem inv_changeset (C : Crypto) (bs : Array Bytes) (m : Nat) (c : Core) (d : Disk) (held : Nat → Bool) (h : RepRAt C bs m c d held) :
    Inv C bs c.tree d.tree c.tree.changeset m := by
  have hvt : vt c.tree c.tree.changeset = c.tree := by
    cases hc : c.tree
    simp [vt, Tree.changeset, Changeset.nodes, insertAll]
  refine ⟨?_, h.closed.sparse.length, h.bytes, by rw [hvt]; exact h.closed, fun x hx => by simp [Tree.changeset] at hx, ordered_nil C bs⟩
  show c.tree.roots.reverse = _
  rw [h.roots, rootsAt, ← List.map_reverse, List.reverse_reverse]

/-- the honest upgrade answer `m → n` is accepted -/
theorem growth_accepts {C : Crypto} (hC : HashWF C) {bs : Array Bytes} {m n : Nat} {c : Core} {d : Disk} {held : Nat → Bool}
    (h : RepRAt C bs m c d held) (hm0 : 0 < m) (hmn : m < n) (hn : n ≤ bs.size) {us : List (Nat × Nat)}
    (hup : Up m 0 (rootsStack n).reverse us) {sig : Bytes} (hsl : sig.length = 64)
    (hver : C.verify c.publicKey (signableAt C bs n c.tree.fork) sig = true) :
    ∃ cs : Changeset, Accepts C bs n c d (honestGrowth C bs c.tree.fork m n us sig) cs (growCore c cs).tree none ∧ Loggable C c cs
      ∧ Inv C bs c.tree d.tree cs n ∧ cs.fork = c.tree.fork ∧ cs.signature = some sig ∧ cs.upgraded = true
      ∧ cs.ancestors = c.tree.length ∧ cs.hash = some (rootsHash C cs.roots) ∧ cs.nodes.length ≤ 64 + 2 * us.length := by
  have hN : n < 2 ^ 64 := Nat.lt_of_le_of_lt hn h.small.1
  obtain ⟨cs, hvu, hinv, hfork, hsig, hupg, ho1, ho2, ha, hhash, hcnt, _⟩ := grow_upgrade_accepted C hC bs c.tree d.tree m n hN hm0 hmn
    c.tree.fork c.publicKey sig c.tree.changeset (inv_changeset C bs m c d held h) us hup hsl hver
  obtain ⟨hvv, hcommit⟩ := Tree.upgrade_only_accepted C c.tree d.tree c.publicKey c.tree.fork _ true cs hvu hupg ho1 ho2 ha
  -- at most 64 old roots, and two nodes per position of the upgrade
  have hcnt' : cs.nodes.length ≤ 64 + 2 * us.length := by
    have hrl := roots_length_le C bs m c d held h
    have hcnt' : cs.rnodes.length ≤ c.tree.roots.length + 0 + 2 * us.length := hcnt
    rw [Changeset.nodes, List.length_reverse]
    omega
  have hul := up_length m n hN (rootsStack n).reverse 0 us (cover_roots n) hup
  rw [List.length_reverse] at hul
  exact ⟨cs, ⟨rfl, hvv, hcommit, Core.dataStep_none c d _ cs rfl, nofun, inv_nodes_bound hinv,
    closedAt_of_vt C bs n c.tree _ d.tree cs hinv.closed rfl rfl, rootsAt_of_reverse hinv.roots, hinv.bytes, hfork⟩,
    ⟨upgrade_count hcnt' hul (rootsStack_length_log 64 n hN), fun _ => ⟨sig, hsl, hsig, hhash, ha⟩⟩, hinv, hfork, hsig, hupg, ha, hhash, hcnt'⟩

theorem growth_shape (C : Crypto) (hC : HashWF C) (bs : Array Bytes) (m n : Nat) (c : Core) (d : Disk) (held : Nat → Bool)
    (h : RepRAt C bs m c d held) (hm0 : 0 < m) (hmn : m < n) (hn : n ≤ bs.size) (us : List (Nat × Nat))
    (hup : Up m 0 (rootsStack n).reverse us) (sig : Bytes) (hsl : sig.length = 64)
    (hver : C.verify c.publicKey (signableAt C bs n c.tree.fork) sig = true) :
    ∃ cs : Changeset, Inv C bs c.tree d.tree cs n ∧ cs.fork = c.tree.fork ∧ cs.signature = some sig ∧ cs.upgraded = true
      ∧ cs.ancestors = c.tree.length ∧ cs.hash = some (rootsHash C cs.roots) ∧ cs.nodes.length ≤ 64 + 2 * us.length
      ∧ c.verifyAndApply C d (honestGrowth C bs c.tree.fork m n us sig)
        = { core := (growCore c cs).maybeFlush.1, result := .ok true,
            journal := (Oplog.appendEntry c.oplog (Core.entryOf cs none c.header).1).2 ++ (growCore c cs).maybeFlush.2,
            events := Core.appliedEvents (honestGrowth C bs c.tree.fork m n us sig) none } := by
  obtain ⟨cs, a, _, h1, h2, h3, h4, h5, h6, h7⟩ := growth_accepts hC h hm0 hmn hn hup hsl hver
  exact ⟨cs, h1, h2, h3, h4, h5, h6, h7, (a.step hC h (Nat.le_of_lt hmn) hn).1⟩

/-- **a growth round at core level**: the replica that represents the first `m` blocks applies the honest upgrade to
    `n` and then represents the first `n` blocks; what it holds is untouched -/
theorem apply_growth (C : Crypto) (hC : HashWF C) (bs : Array Bytes) (m n : Nat) (c : Core) (d : Disk) (held : Nat → Bool)
    (h : RepRAt C bs m c d held) (hm0 : 0 < m) (hmn : m < n) (hn : n ≤ bs.size) (us : List (Nat × Nat))
    (hup : Up m 0 (rootsStack n).reverse us) (sig : Bytes) (hsl : sig.length = 64)
    (hver : C.verify c.publicKey (signableAt C bs n c.tree.fork) sig = true) :
    (c.verifyAndApply C d (honestGrowth C bs c.tree.fork m n us sig)).result = .ok true
      ∧ RepRAt C bs n (c.verifyAndApply C d (honestGrowth C bs c.tree.fork m n us sig)).core
          (d.applyAll (c.verifyAndApply C d (honestGrowth C bs c.tree.fork m n us sig)).journal) held
      ∧ (c.verifyAndApply C d (honestGrowth C bs c.tree.fork m n us sig)).core.tree.fork = c.tree.fork
      ∧ (c.verifyAndApply C d (honestGrowth C bs c.tree.fork m n us sig)).core.publicKey = c.publicKey := by
  obtain ⟨cs, a, _⟩ := growth_accepts hC h hm0 hmn hn hup hsl hver
  exact a.applied hC h (Nat.le_of_lt hmn) hn

/-! ### the honest position list exists -/

theorem odd_decomp (L : Nat) : 0 < L → ∃ J M, L = M * 2 ^ J ∧ M % 2 = 1 := by
  induction L using Pow2.binary_induction with
  | zero => exact fun h => absurd h (Nat.lt_irrefl 0)
  | double q hq ih =>
    intro _
    obtain ⟨J, M, e, hM⟩ := ih (Nat.pos_of_ne_zero hq)
    exact ⟨J + 1, M, by rw [Pow2.mul_pow_succ, ← e], hM⟩
  | double_succ q _ => exact fun _ => ⟨0, 2 * q + 1, (Nat.mul_one _).symm, Pow2.double_succ_mod q⟩

/-- from any `L` in the last `2^d` leaves before a multiple `E` of `2^d`, right siblings lead up to `E`: the block of
    the lowest set bit of `L` is smaller than `2^d` and ends at or before `E` (`k` bounds `E - L`, the induction measure) -/
theorem grow_exists (d E : Nat) (hE : 2 ^ d ∣ E) : ∀ (k L : Nat), E - L ≤ k → E < L + 2 ^ d → L ≤ E → 0 < L →
    ∃ gs, Grow gs L E := by
  intro k
  induction k with
  | zero =>
    intro L hk _ h2 _
    obtain rfl : L = E := by omega
    exact ⟨[], Grow.nil _⟩
  | succ k ih =>
    intro L hk h1 h2 h0
    by_cases hLE : L = E
    · subst hLE; exact ⟨[], Grow.nil _⟩
    · obtain ⟨J, M, rfl, hM⟩ := odd_decomp L h0
      have hlt : M * 2 ^ J < E := Nat.lt_of_le_of_ne h2 hLE
      have hJd : J < d := by
        by_contra hge
        exact absurd (mult_gap (2 ^ d) (M * 2 ^ J) E
          (Nat.dvd_trans (Nat.pow_dvd_pow 2 (Nat.le_of_not_lt hge)) (Nat.dvd_mul_left _ _)) hE hlt) (Nat.not_le_of_lt h1)
      have hfit : M * 2 ^ J + 2 ^ J ≤ E :=
        mult_gap (2 ^ J) (M * 2 ^ J) E (Nat.dvd_mul_left _ _) (Nat.dvd_trans (Nat.pow_dvd_pow 2 (Nat.le_of_lt hJd)) hE) hlt
      have hpJ := pow_pos' J
      obtain ⟨gs, hg⟩ := ih (M * 2 ^ J + 2 ^ J) (by omega)
        (Nat.lt_of_lt_of_le h1 (Nat.add_le_add_right (Nat.le_add_right _ _) _)) hfit (Nat.add_pos_right _ hpJ)
      exact ⟨(J, M) :: gs, Grow.cons J M E gs hM hfit hg⟩

theorem up_exists (m n : Nat) (hmn : m < n) : ∀ (ln : List (Nat × Nat)) (s : Nat), Cover ln s n → DecDepth ln → s ≤ m → ∃ us, Up m s ln us := by
  intro ln
  induction ln with
  | nil => intro s hc _ hs; exact absurd (cover_nil_iff.mp hc ▸ hs) (Nat.not_le_of_lt hmn)
  | cons p ln ih =>
    intro s hc hdec hs
    obtain ⟨d, o⟩ := p
    obtain ⟨_, _, rfl⟩ := cover_lt _ s n d o ln rfl hc hdec
    have hrest : Cover ln ((o + 1) * 2 ^ d) n := hc.tail
    by_cases hend : (o + 1) * 2 ^ d ≤ m
    · obtain ⟨us, hu⟩ := ih _ hrest (List.pairwise_cons.mp hdec).2 hend
      exact ⟨us, Up.skip d o ln us hend hu⟩
    · by_cases hsm : o * 2 ^ d = m
      · exact ⟨(d, o) :: ln, by rw [hsm]; exact Up.plain _⟩
      · -- `m` lies strictly inside the root `(d, o)`
        have hlo : o * 2 ^ d < m := Nat.lt_of_le_of_ne hs hsm
        have hhi : m < (o + 1) * 2 ^ d := Nat.lt_of_not_le hend
        obtain ⟨gs, hg⟩ := grow_exists d ((o + 1) * 2 ^ d) (Nat.dvd_mul_left _ _) _ m (Nat.le_refl _)
          (by rw [Pow2.succ_mul_pow]; exact Nat.add_lt_add_right hlo _) (Nat.le_of_lt hhi) (Nat.lt_of_le_of_lt (Nat.zero_le _) hlo)
        exact ⟨gs ++ ln, Up.grow d o ln gs hlo hhi hg⟩

theorem up_exists0 (m n : Nat) (hmn : m < n) : ∃ us, Up m 0 (rootsStack n).reverse us :=
  up_exists m n hmn _ 0 (cover_roots n) (rootsStack_rev_dec n) (Nat.zero_le _)

theorem sibPath_extract (C : Crypto) (bs : Array Bytes) (m : Nat) (hm : m ≤ bs.size) : ∀ (k d o : Nat), (o / 2 ^ k + 1) * 2 ^ (d + k) ≤ m →
    sibPath C (bs.extract 0 m) d o k = sibPath C bs d o k := by
  intro k
  induction k with
  | zero => intro d o _; rfl
  | succ k ih =>
    intro d o h
    have h' : (o / 2 / 2 ^ k + 1) * 2 ^ (d + 1 + k) ≤ m := by
      rw [div_pow_succ, Nat.succ_add_eq_add_succ d k]; exact h
    have hsp := span_le (o / 2) (d + 1) k
    have hsb := sib_bound o d
    simp only [sibPath, ih (d + 1) (o / 2) h']
    rw [nodeAt_extract C bs m hm d (sib o) (by omega)]

theorem signable_extract (C : Crypto) (bs : Array Bytes) (n : Nat) (hn : n ≤ bs.size) (fork : Nat) :
    RefTree.signableOf C (bs.extract 0 n) fork = signableAt C bs n fork := by
  simp only [RefTree.signableOf, signableAt, rootsHash, roots_extract C bs n hn, size_extract bs n hn]

/-- the writer's answer to "upgrade me from 0 to `n`" when its log has `n` blocks -/
def honestFirst (C : Crypto) (bs : Array Bytes) (fork n : Nat) (sig : Bytes) : Proof :=
  ⟨fork, none, none, none, some ⟨0, n, rootsAt C bs n, [], sig⟩⟩

/-- first contact at a prefix: the first `n` blocks, as a log of their own, agree with the log on everything `Accepts … n` reads -/
theorem first_accepts_at {C : Crypto} (hC : HashWF C) {bs : Array Bytes} {n : Nat} {c : Core} {d : Disk} {held : Nat → Bool}
    (h : RepRAt C bs 0 c d held) (h0 : 0 < n) (hn : n ≤ bs.size) {sig : Bytes} (hsl : sig.length = 64)
    (hver : C.verify c.publicKey (signableAt C bs n c.tree.fork) sig = true) :
    ∃ cs tr, Accepts C bs n c d (honestFirst C bs c.tree.fork n sig) cs tr none ∧ Loggable C c cs := by
  have hsz := size_extract bs n hn
  have hp : honestUpgrade C (bs.extract 0 n) c.tree.fork sig = honestFirst C bs c.tree.fork n sig := by
    simp only [honestFirst, honestUpgrade, roots_extract C bs n hn, hsz]
  obtain ⟨cs, a, l, _⟩ := first_accepts hC (reprAt0_agree h _ (small_extract bs n hn h.small)) (by rw [hsz]; exact h0) hsl
    (by rw [signable_extract C bs n hn]; exact hver)
  rw [hsz, hp] at a
  refine ⟨cs, _, ⟨a.fork, a.verified, a.commit, a.data, nofun, fun x hx => ?_,
    closedAt_agree C _ bs n _ _ (fun dd o hb => (nodeAt_extract C bs n hn dd o hb).symm) a.closed, ?_,
    a.bytes.trans (psum_extract bs n hn n (Nat.le_refl _)), a.treeFork⟩, l⟩
  · obtain ⟨dd, o, e, hb⟩ := a.nodesRef x hx
    exact ⟨dd, o, e.trans (nodeAt_extract C bs n hn dd o hb), hb⟩
  · rw [a.roots]
    exact List.map_congr_left fun q hq => nodeAt_extract C bs n hn q.1 q.2 (rootsStack_bound n q (List.mem_reverse.mp hq))

theorem first_contact_at (C : Crypto) (hC : HashWF C) (bs : Array Bytes) (hs : bs.size < 2 ^ 64 ∧ psum bs bs.size < 2 ^ 64) (n : Nat) (h0 : 0 < n)
    (hn : n ≤ bs.size) (c : Core) (d : Disk) (h : FreshR C (bs.extract 0 n) c d) (sig : Bytes) (hsl : sig.length = 64)
    (hver : C.verify c.publicKey (signableAt C bs n c.tree.fork) sig = true) :
    (c.verifyAndApply C d (honestFirst C bs c.tree.fork n sig)).result = .ok true
      ∧ RepRAt C bs n (c.verifyAndApply C d (honestFirst C bs c.tree.fork n sig)).core
          (d.applyAll (c.verifyAndApply C d (honestFirst C bs c.tree.fork n sig)).journal) (fun _ => false)
      ∧ (c.verifyAndApply C d (honestFirst C bs c.tree.fork n sig)).core.tree.fork = c.tree.fork
      ∧ (c.verifyAndApply C d (honestFirst C bs c.tree.fork n sig)).core.publicKey = c.publicKey := by
  have hr := reprAt0_agree (freshR_reprAt C _ c d h) bs hs
  obtain ⟨cs, tr, a, _⟩ := first_accepts_at hC hr h0 hn hsl hver
  exact a.applied hC hr (Nat.zero_le _) hn

end HC.Growth
