import HC.Model.Flat
import HC.Proofs.Pow2
/-!
The `flat-tree` iterator standing on the node at depth `d`, offset `o`: `iat d o`.  Its flat index is
`2 * (o * 2^d) + 2^d - 1`, the middle of the flat range `[2 * (o * 2^d), 2 * ((o+1) * 2^d) - 2]` of the
leaves it spans.  Each move of the iterator (sibling, parent, children, next tree, `Iter.new` on an index)
lands on another `iat`, and `contains` is membership in the span.
-/
namespace HC.RefProof
open HC HC.Flat HC.Pow2

def iat (d o : Nat) : Iter := ⟨Flat.index d o, o, 2 ^ (d + 1)⟩

theorem iat_index (d o : Nat) : (iat d o).index = Flat.index d o := rfl
theorem iat_offset (d o : Nat) : (iat d o).offset = o := rfl
theorem iat_factor (d o : Nat) : (iat d o).factor = 2 ^ (d + 1) := rfl
theorem iat_factor_half (d o : Nat) : (iat d o).factor / 2 = 2 ^ d := pow_succ_div_two d

theorem index_lo (d o : Nat) : Flat.index d o = 2 * (o * 2 ^ d) + 2 ^ d - 1 := by
  rw [Flat.index, mul_pow_succ, Nat.add_sub_assoc (pow_pos' d)]

theorem index_next (d o : Nat) : Flat.index d (o + 1) = Flat.index d o + 2 ^ (d + 1) := by
  rw [Flat.index, Flat.index, Nat.succ_mul, Nat.add_right_comm]

theorem index_children (d q : Nat) :
    Flat.index (d + 1) q = Flat.index d (2 * q) + 2 ^ d ∧ Flat.index d (2 * q + 1) = Flat.index d (2 * q) + 2 ^ (d + 1) := by
  refine ⟨?_, index_next d (2 * q)⟩
  have e : 2 ^ (d + 1) - 1 = 2 ^ d - 1 + 2 ^ d := by rw [pow_succ2, Nat.two_mul, Nat.sub_add_comm (pow_pos' d)]
  rw [Flat.index, Flat.index, mul_pow_succ q (d + 1), Nat.mul_assoc, Nat.add_assoc, ← e]

theorem index_add_one (d o : Nat) : Flat.index d o + 1 = (2 * o + 1) * 2 ^ d := by
  rw [index_lo, Nat.add_mul, Nat.mul_assoc, Nat.one_mul]
  exact Nat.sub_add_cancel (Nat.le_trans (pow_pos' d) (Nat.le_add_left _ _))

theorem index_ge_start (d o : Nat) : 2 * (o * 2 ^ d) ≤ Flat.index d o := by
  rw [index_lo, Nat.add_sub_assoc (pow_pos' d)]; exact Nat.le_add_right _ _

theorem index_end (d o : Nat) : Flat.index d o + 2 ^ d + 1 = 2 * ((o + 1) * 2 ^ d) := by
  rw [Nat.add_right_comm, index_add_one, ← succ_mul_pow, ← Nat.mul_assoc]; rfl

theorem index_lt_end (d o : Nat) : Flat.index d o < 2 * ((o + 1) * 2 ^ d) :=
  Nat.lt_of_lt_of_eq (Nat.lt_succ_of_le (Nat.le_add_right _ _)) (index_end d o)

/-- an inner node never sits on a leaf index; the leaf lies before it iff it is under the left child -/
theorem index_succ_cmp (d o s : Nat) :
    Flat.index (d + 1) o ≠ 2 * s ∧ (2 * s < Flat.index (d + 1) o ↔ s < (2 * o + 1) * 2 ^ d) := by
  -- the index is one less than twice the start `M` of the right half
  have e : Flat.index (d + 1) o + 1 = 2 * ((2 * o + 1) * 2 ^ d) := (index_add_one (d + 1) o).trans (mul_pow_succ _ d)
  generalize (2 * o + 1) * 2 ^ d = M at e ⊢
  omega

/-- from the first leaf under a node to the first leaf after it, as `byte_offset_from_nodes` computes it -/
theorem index_head (d o : Nat) : 2 * (o * 2 ^ d) + 2 * (Flat.index d o - 2 * (o * 2 ^ d) + 1) = 2 * ((o + 1) * 2 ^ d) := by
  rw [Flat.index, mul_pow_succ, Nat.add_sub_cancel_left, Nat.sub_add_cancel (pow_pos' d), ← Nat.mul_add, ← succ_mul_pow]

theorem index_lt_of_offset_lt (d o o' : Nat) (h : o < o') : Flat.index d o < Flat.index d o' := by
  have := Nat.mul_lt_mul_of_pos_right h (pow_pos' (d + 1))
  rw [Flat.index, Flat.index]; exact Nat.add_lt_add_right this _

theorem index_zero (o : Nat) : Flat.index 0 o = 2 * o := Nat.mul_comm o 2

theorem index_succ (d o : Nat) : Flat.index (d + 1) o = 2 * Flat.index d o + 1 := by
  apply Nat.add_right_cancel (m := 1)
  rw [index_add_one, mul_pow_succ, ← index_add_one d o]; rfl

/-! ### flat indices determine the position: the depth is the number of trailing one bits, the offset is the rest -/

theorem depthAux_index (fuel d o : Nat) (h : d ≤ fuel) : depthAux fuel (Flat.index d o) = d := by
  induction d generalizing fuel with
  | zero =>
    rw [index_zero]
    cases fuel with
    | zero => rfl
    | succ f => rw [depthAux, if_neg (by rw [Nat.mul_mod_right]; decide)]
  | succ d ih =>
    obtain ⟨f, rfl⟩ := Nat.exists_eq_add_one_of_ne_zero (Nat.ne_of_gt (Nat.lt_of_lt_of_le (Nat.succ_pos d) h))
    rw [index_succ, depthAux, if_pos (double_succ_mod _), double_succ_div, ih f (Nat.le_of_succ_le_succ h)]

theorem index_div (d o : Nat) : Flat.index d o / 2 ^ (d + 1) = o := by
  rw [Flat.index, Nat.add_comm, Nat.add_mul_div_right _ _ (pow_pos' _),
    Nat.div_eq_of_lt (Nat.lt_of_lt_of_le (Nat.sub_lt (pow_pos' d) Nat.one_pos) (Nat.pow_le_pow_right (by decide) (Nat.le_succ d))),
    Nat.zero_add]

theorem index_inj : ∀ (d o d' o' : Nat), Flat.index d o = Flat.index d' o' → d = d' ∧ o = o' := by
  intro d o d' o' h
  have hd := depthAux_index (max d d') d o (Nat.le_max_left d d')
  rw [h, depthAux_index (max d d') d' o' (Nat.le_max_right d d')] at hd
  subst hd
  have ho := index_div d' o
  rw [h, index_div] at ho
  exact ⟨rfl, ho.symm⟩

@[simp] theorem index_eq_index_iff (d o d' o' : Nat) : Flat.index d o = Flat.index d' o' ↔ d = d' ∧ o = o' :=
  ⟨index_inj d o d' o', fun ⟨hd, ho⟩ => by rw [hd, ho]⟩

end HC.RefProof

namespace HC.Sound
open HC HC.Flat HC.RefProof

theorem index_injective_offset (d o o' : Nat) (h : Flat.index d o = Flat.index d o') : o = o' :=
  (index_inj d o d o' h).2

end HC.Sound

/-! ### moves of the iterator -/

namespace HC.RefProof
open HC HC.Flat HC.Pow2 HC.Sound

theorem iat_sibling_even (d o : Nat) (h : o % 2 = 0) : (iat d o).sibling = iat d (o + 1) := by
  simp only [Iter.sibling, Iter.isLeft, iat, h, decide_true, ite_true, Iter.next, index_next]

theorem iat_sibling_odd (d o : Nat) (h : o % 2 = 1) : (iat d o).sibling = iat d (o - 1) := by
  obtain ⟨q, rfl⟩ := Nat.exists_eq_add_one_of_ne_zero (show o ≠ 0 from fun h0 => by rw [h0] at h; cases h)
  have hne : ¬ ((q + 1) % 2 = 0) := by rw [h]; decide
  simp only [Iter.sibling, Iter.isLeft, iat, hne, decide_false, Bool.false_eq_true, ite_false, Iter.prev,
    Nat.succ_ne_zero, index_next, Nat.add_sub_cancel]

theorem iat_parent_even (d q : Nat) : (iat d (2 * q)).parent = iat (d + 1) q := by
  have h : ¬ (2 * q) % 2 = 1 := by rw [Nat.mul_mod_right]; decide
  rw [Iter.parent, if_neg (by rw [iat_offset]; exact h), iat_offset, iat_index, iat_factor_half, iat_factor,
    ← (index_children d q).1, Nat.mul_div_cancel_left _ (by decide), ← Nat.pow_succ]; rfl

theorem iat_parent_odd (d q : Nat) : (iat d (2 * q + 1)).parent = iat (d + 1) q := by
  obtain ⟨h1, h2⟩ := index_children d q
  have e : Flat.index d (2 * q + 1) - 2 ^ d = Flat.index (d + 1) q := by
    rw [h1, h2, pow_succ2, Nat.two_mul (2 ^ d), ← Nat.add_assoc, Nat.add_sub_cancel]
  rw [Iter.parent, if_pos (by rw [iat_offset]; exact double_succ_mod q), iat_offset, iat_index, iat_factor_half, iat_factor, e,
    Nat.add_sub_cancel, Nat.mul_div_cancel_left _ (by decide), ← Nat.pow_succ]; rfl

theorem iat_parent (d o : Nat) : (iat d o).parent = iat (d + 1) (o / 2) := by
  have hm := Nat.div_add_mod o 2
  rcases Nat.mod_two_eq_zero_or_one o with h | h <;> rw [h] at hm
  · have := iat_parent_even d (o / 2); rwa [show 2 * (o / 2) = o from hm] at this
  · have := iat_parent_odd d (o / 2); rwa [hm] at this

theorem factor_ne_two (d o : Nat) : ¬ (iat (d + 1) o).factor = 2 := by
  have := pow_pos' d
  rw [iat_factor, pow_succ2, pow_succ2]; omega

theorem iat_leftChild (d o : Nat) : (iat (d + 1) o).leftChild = iat d (2 * o) := by
  have e : Flat.index (d + 1) o - 2 ^ d = Flat.index d (2 * o) := by rw [(index_children d o).1, Nat.add_sub_cancel]
  rw [Iter.leftChild, if_neg (factor_ne_two d o)]
  dsimp only
  rw [iat_factor_half, pow_succ_div_two, iat_index, iat_offset, e, Nat.mul_comm o 2]; rfl

theorem iat_rightChild (d o : Nat) : (iat (d + 1) o).rightChild = iat d (2 * o + 1) := by
  obtain ⟨h1, h2⟩ := index_children d o
  have e : Flat.index (d + 1) o + 2 ^ d = Flat.index d (2 * o + 1) := by rw [h1, h2, pow_succ2, Nat.two_mul (2 ^ d), Nat.add_assoc]
  rw [Iter.rightChild, if_neg (factor_ne_two d o)]
  dsimp only
  rw [iat_factor_half, pow_succ_div_two, iat_index, iat_offset, e]; rfl

theorem iat_sibling (d o : Nat) : (iat d o).sibling = iat d (sib o) := by
  rcases Nat.mod_two_eq_zero_or_one o with h | h
  · rw [sib_even h]; exact iat_sibling_even d o h
  · rw [sib_odd h]; exact iat_sibling_odd d o h

theorem iat_sibling_sibling (d o : Nat) : (iat d o).sibling.sibling = iat d o := by
  rw [iat_sibling, iat_sibling, sib_sib]

theorem iat_sib_parent (d o : Nat) : (iat d o).sibling.parent = iat (d + 1) (o / 2) := by
  rw [iat_sibling, iat_parent, sib_half]

theorem iat_index_odd (d o : Nat) : (iat (d + 1) o).index % 2 = 1 := by
  rw [iat_index, index_succ]; exact Pow2.double_succ_mod _

theorem iat_index_even (o : Nat) : (iat 0 o).index % 2 = 0 := by
  rw [iat_index, index_zero]; exact Nat.mul_mod_right 2 o

@[simp] theorem new_even (n : Nat) : Iter.new (2 * n) = iat 0 n := by
  rw [Iter.new, if_neg (by rw [Nat.mul_mod_right]; decide), Nat.mul_div_cancel_left n (by decide), ← index_zero]; rfl

@[simp] theorem new_even' (n : Nat) : Iter.new (n * 2) = iat 0 n := by rw [Nat.mul_comm]; exact new_even n

theorem new_index (d o : Nat) (hd : d ≤ 64) : Iter.new (Flat.index d o) = iat d o := by
  cases d with
  | zero => rw [index_zero]; exact new_even o
  | succ d =>
    have hodd : Flat.index (d + 1) o % 2 = 1 := by rw [index_succ]; exact double_succ_mod _
    -- `Flat.depth` is `depthAux` with fuel 64: hence `hd`
    have hdep : depth (Flat.index (d + 1) o) = d + 1 := depthAux_index 64 (d + 1) o hd
    rw [Iter.new, if_pos hodd, Flat.offset, if_neg (by rw [hodd]; decide), hdep, index_div]
    rfl

theorem new_index_of_span {d o n : Nat} (h : (o + 1) * 2 ^ d ≤ n) (hn : n < 2 ^ 64) :
    Iter.new (Flat.index d o) = iat d o :=
  new_index d o (Nat.le_of_lt (depth_lt_of_span h hn))

theorem nextTree_iat (d o : Nat) : (iat d o).nextTree = iat 0 ((o + 1) * 2 ^ d) := by
  rw [Iter.nextTree, iat_factor_half, iat_index, index_end, Nat.mul_div_cancel_left _ (by decide), ← index_zero]; rfl

theorem index_aligned (j s : Nat) (h : 2 ^ j ∣ s) : Flat.index j (s / 2 ^ j) = 2 * s + 2 ^ j - 1 := by
  rw [index_lo, Nat.div_mul_cancel h]

theorem iat_nextTree (j s : Nat) (h : 2 ^ j ∣ s) : (iat j (s / 2 ^ j)).nextTree = iat 0 (s + 2 ^ j) := by
  rw [nextTree_iat, succ_mul_pow, Nat.div_mul_cancel h]

/-! ### `contains` is membership in the span -/

theorem iat_contains (d o i : Nat) :
    (iat d o).contains i = (decide (o * 2 ^ (d + 1) ≤ i) && decide (i + 2 ≤ (o + 1) * 2 ^ (d + 1))) := by
  rw [mul_pow_succ, succ_mul_pow_succ, succ_mul_pow, ← Bool.decide_and, Iter.contains, iat_index, iat_factor_half, index_lo]
  generalize o * 2 ^ d = X
  -- with `2^d = Q + 1` the index is `2 X + Q`, and one truncated subtraction is left
  obtain ⟨Q, hQ⟩ : ∃ Q, 2 ^ d = Q + 1 := ⟨2 ^ d - 1, (Nat.succ_pred_eq_of_pos (pow_pos' d)).symm⟩
  rw [hQ, Nat.add_succ_sub_one]
  by_cases h1 : i > 2 * X + Q
  · rw [if_pos h1, decide_eq_decide]; omega
  · rw [if_neg h1]
    by_cases h2 : i < 2 * X + Q
    · rw [if_pos h2]; simp only []; rw [← Bool.decide_or, decide_eq_decide]; omega
    · rw [if_neg h2, eq_comm, decide_eq_true_eq]; omega

theorem iat_contains_leaf (d o i : Nat) : (iat d o).contains (2 * i) = decide (o * 2 ^ d ≤ i ∧ i < (o + 1) * 2 ^ d) := by
  rw [iat_contains, ← Bool.decide_and, decide_eq_decide, mul_pow_succ, succ_mul_pow_succ]; omega

theorem iat_contains_ge {d o i : Nat} (h : 2 * ((o + 1) * 2 ^ d) ≤ i) : (iat d o).contains i = false := by
  rw [iat_contains, succ_mul_pow_succ]
  exact Bool.and_eq_false_imp.mpr fun _ => decide_eq_false (Nat.not_le_of_gt (Nat.lt_of_le_of_lt h (Nat.lt_add_of_pos_right (by decide))))

end HC.RefProof

namespace HC.CreateTotal
open HC HC.Flat HC.RefProof HC.Pow2

theorem index_decomp : ∀ i : Nat, ∃ d o, i = Flat.index d o := by
  intro i
  induction i using Nat.strongRecOn with
  | _ i ih =>
    have e := Nat.div_add_mod i 2
    by_cases he : i % 2 = 0
    · rw [he] at e
      exact ⟨0, i / 2, by rw [index_zero]; exact e.symm⟩
    · rw [Nat.mod_two_ne_zero.mp he] at e
      obtain ⟨d, o, h⟩ := ih (i / 2) (Nat.div_lt_self (Nat.pos_of_ne_zero fun h0 => he (by rw [h0])) (by decide))
      exact ⟨d + 1, o, by rw [index_succ, ← h]; exact e.symm⟩

/-- an index whose depth is at most 64, the fuel with which `Flat.depth` counts, so that `Iter.new` finds its
    position: every index below `2^65 − 1`, and everything reached from one by walking inside a tree of at most
    `2^64` leaves -/
def Canon (i : Nat) : Prop := ∃ d o, i = Flat.index d o ∧ d ≤ 64

end HC.CreateTotal

namespace HC.RefProof
open HC HC.Flat HC.Pow2 HC.CreateTotal HC.Complete

theorem canon_of_lt (i : Nat) (h : i < 2 ^ 65 - 1) : Canon i := by
  obtain ⟨d, o, rfl⟩ := index_decomp i
  refine ⟨d, o, rfl, Nat.le_of_lt_succ (lt_of_pow_lt ?_)⟩
  exact Nat.lt_of_le_of_lt (Nat.le_mul_of_pos_left _ (Nat.succ_pos _)) (index_add_one d o ▸ Nat.add_lt_of_lt_sub h)

theorem canon_index (d o : Nat) (h : d ≤ 64) : Canon (Flat.index d o) := ⟨d, o, rfl, h⟩

theorem canon_even (n : Nat) : Canon (2 * n) := ⟨0, n, (index_zero n).symm, Nat.zero_le _⟩

theorem canon_new (i : Nat) (h : Canon i) : ∃ d o, d ≤ 64 ∧ i = Flat.index d o ∧ Iter.new i = iat d o := by
  obtain ⟨d, o, hi, hd⟩ := h
  exact ⟨d, o, hd, hi, by rw [hi]; exact new_index d o hd⟩

theorem canon_of_u64 {i : Nat} (h : i < 2 ^ 64) : Canon i := canon_of_lt i (Nat.lt_of_lt_of_le h (by decide))

theorem leaf_index (i : Nat) : i * 2 = Flat.index 0 i := by rw [index_zero, Nat.mul_comm]

theorem iat_contains_anc (d0 o0 k : Nat) : (iat (d0 + k) (o0 / 2 ^ k)).contains (Flat.index d0 o0) = true := by
  have hlo : o0 / 2 ^ k * 2 ^ (d0 + k) ≤ o0 * 2 ^ d0 := by
    rw [Nat.pow_add, Nat.mul_comm (2 ^ d0), ← Nat.mul_assoc]
    exact Nat.mul_le_mul_right _ (Nat.div_mul_le_self _ _)
  rw [iat_contains, mul_pow_succ, succ_mul_pow_succ, Bool.and_eq_true, decide_eq_true_eq, decide_eq_true_eq]
  refine ⟨Nat.le_trans (Nat.mul_le_mul_left 2 hlo) (index_ge_start d0 o0), ?_⟩
  -- the index and the next one still belong to the node's span, which ends where the ancestor's ends at the latest
  refine Nat.le_trans (Nat.succ_le_succ (Nat.add_le_add_left (pow_pos' d0) _)) ?_
  rw [Nat.succ_eq_add_one, index_end]
  exact Nat.mul_le_mul_left 2 (span_le o0 d0 k)

theorem iat_anc_contains (i k : Nat) : (iat k (i / 2 ^ k)).contains (2 * i) = true := by
  have h := iat_contains_anc 0 i k
  rwa [Nat.zero_add, index_zero] at h

end HC.RefProof
