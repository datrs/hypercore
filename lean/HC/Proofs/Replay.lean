import HC.Proofs.CoreEqs
import HC.Proofs.Verify
/-!
The replay of logged entries on open (`Core.replayEntry`, `openCore.replay`), as equations of the model alone.  One entry:
a tree part (`treePart`: the entry's nodes, and for an upgrade `truncate` and `commit`) that decides success and says what
happens to the header's tree section, and a bit part (`bitOf`, `hintOf`) that cannot fail and does not see the tree
(`replayEntry_eq`).  A list of entries: first entry (`replay_cons`), last entry (`replay_append`); only the tree store is
read (`replay_congr`).  The declarations keep the namespaces of the files they were first written in.
-/
namespace HC.ReplicaCrash
open HC HC.Codec HC.Tree HC.Oplog HC.Core

/-! ### the replay of one entry: a tree part and a bit part that do not see each other -/

/-- the tree part of `replayEntry`: the new tree and what it does to the header -/
def treePart (C : Crypto) (d : Disk) (t : Tree) (e : Entry) : R (Tree × (Header → Header)) :=
  let t := e.treeNodes.foldl Tree.addNode t
  match e.treeUpgrade with
  | none => .ok (t, id)
  | some u =>
    match t.truncate d.tree u.length u.fork with
    | .error x => .error x
    | .ok cs =>
      if u.signature.length ≠ 64 then .error .err else
      match t.commit { cs with ancestors := u.ancestors, hash := some (Tree.rootsHash C cs.roots), signature := some u.signature } with
      | .error x => .error x
      | .ok t' => .ok (t', fun h => (entryOf { cs with ancestors := u.ancestors, hash := some (Tree.rootsHash C cs.roots), signature := some u.signature } none h).2)

def bitOf (e : Entry) (b : Bitfield) : Bitfield :=
  match e.bitfield with
  | some u => b.setRange u.start u.length (!u.drop)
  | none => b

def hintOf (e : Entry) (h : Header) (b : Bitfield) : Header :=
  match e.bitfield with
  | some u => updateContiguous h (b.setRange u.start u.length (!u.drop)) u
  | none => h

theorem treePart_none (C : Crypto) (d : Disk) (t : Tree) (e : Entry) (hu : e.treeUpgrade = none) :
    treePart C d t e = .ok (e.treeNodes.foldl Tree.addNode t, id) := by
  obtain ⟨ud, nodes, up, bf⟩ := e
  cases hu
  rfl

theorem treePart_some (C : Crypto) (d : Disk) (t : Tree) (e : Entry) (u : TreeUpgrade) (hu : e.treeUpgrade = some u) :
    treePart C d t e = andThen ((e.treeNodes.foldl Tree.addNode t).truncate d.tree u.length u.fork) fun cs =>
      if u.signature.length ≠ 64 then .error .err else
        andThen ((e.treeNodes.foldl Tree.addNode t).commit
            { cs with ancestors := u.ancestors, hash := some (Tree.rootsHash C cs.roots), signature := some u.signature }) fun t' =>
          .ok (t', fun h => (entryOf { cs with ancestors := u.ancestors, hash := some (Tree.rootsHash C cs.roots),
                                               signature := some u.signature } none h).2) := by
  obtain ⟨ud, nodes, up, bf⟩ := e
  cases hu
  simp only [treePart]
  cases (List.foldl addNode t nodes).truncate d.tree u.length u.fork with
  | error y => rfl
  | ok cs =>
    dsimp only [ok_andThen]
    by_cases hs : u.signature.length ≠ 64
    · rw [if_pos hs, if_pos hs]
    · rw [if_neg hs, if_neg hs]
      cases (List.foldl addNode t nodes).commit
          { cs with ancestors := u.ancestors, hash := some (Tree.rootsHash C cs.roots), signature := some u.signature } <;> rfl

theorem replayEntry_eq (C : Crypto) (d : Disk) (ol : Oplog.State) (h : Header) (t : Tree) (b : Bitfield) (e : Entry) :
    replayEntry C d (ol, h, t, b) e = (match treePart C d t e with
      | .error x => .error x
      | .ok (t', f) => .ok (ol, f (hintOf e h b), t', bitOf e b)) := by
  -- the bit part can be done first: the entry without its bitfield update, replayed on the updated hint and bits
  have hbits : replayEntry C d (ol, h, t, b) e = replayEntry C d (ol, hintOf e h b, t, bitOf e b) { e with bitfield := none } := by
    obtain ⟨ud, nodes, up, bf⟩ := e
    cases bf <;> rfl
  rw [hbits]
  generalize hintOf e h b = h', bitOf e b = b'
  obtain ⟨ud, nodes, up, bf⟩ := e
  cases up with
  | none => rfl
  | some u =>
    unfold replayEntry treePart
    dsimp only
    cases (List.foldl addNode t nodes).truncate d.tree u.length u.fork with
    | error x => rfl
    | ok cs =>
      dsimp only
      by_cases hs : u.signature.length ≠ 64
      · rw [if_pos hs, if_pos hs]
      · rw [if_neg hs, if_neg hs]
        cases (List.foldl addNode t nodes).commit { cs with ancestors := u.ancestors, hash := some (Tree.rootsHash C cs.roots), signature := some u.signature } with
        | error x => rfl
        | ok t' => rfl

/-- one step of the replay: the tree part decides success; bits and hint go their own way -/
theorem replay_cons (C : Crypto) (d : Disk) (ol : Oplog.State) (h : Header) (t : Tree) (b : Bitfield) (e : Entry) (r : List Entry) :
    openCore.replay C d (e :: r) (ol, h, t, b)
      = andThen (treePart C d t e) fun p => openCore.replay C d r (ol, p.2 (hintOf e h b), p.1, bitOf e b) := by
  simp only [openCore.replay, replayEntry_eq]
  cases treePart C d t e <;> rfl

end HC.ReplicaCrash

namespace HC.ReplicaReopen
open HC HC.Codec HC.Tree HC.Oplog HC.Core

theorem replay_append (C : Crypto) (d : Disk) : ∀ (es : List Entry) (e : Entry) (st : Oplog.State × Header × Tree × Bitfield),
    openCore.replay C d (es ++ [e]) st = (match openCore.replay C d es st with
      | .error x => .error x
      | .ok st' => replayEntry C d st' e) := by
  intro es
  induction es with
  | nil =>
    intro e st
    simp only [List.nil_append, openCore.replay]
    cases replayEntry C d st e <;> rfl
  | cons a es ih =>
    intro e st
    simp only [List.cons_append, openCore.replay]
    cases replayEntry C d st a with
    | error x => rfl
    | ok st' => exact ih e st'

theorem replayEntry_congr (C : Crypto) (d d' : Disk) (h : d'.tree = d.tree) (st : Oplog.State × Header × Tree × Bitfield) (e : Entry) :
    replayEntry C d' st e = replayEntry C d st e := by
  unfold replayEntry
  rw [h]

theorem replay_congr (C : Crypto) (d d' : Disk) (h : d'.tree = d.tree) : ∀ (es : List Entry) (st : Oplog.State × Header × Tree × Bitfield),
    openCore.replay C d' es st = openCore.replay C d es st := by
  intro es
  induction es with
  | nil => intro st; rfl
  | cons a es ih =>
    intro st
    simp only [openCore.replay, replayEntry_congr C d d' h]
    cases replayEntry C d st a with
    | error x => rfl
    | ok st' => exact ih st'

end HC.ReplicaReopen
