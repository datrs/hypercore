import HC.Model.Storage
/-!
The flat-file model as a list of bytes.  Each operation is described first on `File.toList` (`toList_write_ext`,
`toList_truncate_le/ge`, `zeroRange_eq_write`); what one byte is afterwards (`byte_write`, `byte_truncate`, `del_spec`)
and what `read` returns follow from that.  At the end, one lemma about arrays of blocks (`extract_getD`),
which this is the lowest module to state.
-/
namespace HC

theorem getD_setIfInBounds {α : Type} (a : Array α) (i j : Nat) (v d : α) :
    (a.setIfInBounds i v).getD j d = if i = j ∧ i < a.size then v else a.getD j d := by
  rw [Array.getD_eq_getD_getElem?, Array.getD_eq_getD_getElem?, Array.getElem?_setIfInBounds]
  by_cases h : i = j
  · by_cases h2 : i < a.size
    · rw [if_pos h, if_pos h2, if_pos ⟨h, h2⟩]; rfl
    · rw [if_pos h, if_neg h2, if_neg (fun h' => h2 h'.2), ← h, Array.getElem?_eq_none (Nat.le_of_not_lt h2)]
  · rw [if_neg h, if_neg (fun h' => h h'.1)]

theorem getD_of_size_le {α : Type} (a : Array α) (i : Nat) (d : α) (h : a.size ≤ i) : a.getD i d = d := by
  rw [Array.getD_eq_getD_getElem?, Array.getElem?_eq_none h]; rfl

end HC

namespace HC.File

/-- byte `i` of the file; bytes beyond the end read as zero (which is what extension writes there) -/
def byte (f : File) (i : Nat) : UInt8 := f.data.getD i 0

theorem toList_length (f : File) : f.toList.length = f.size := Array.length_toList

theorem toList_getD (f : File) (i : Nat) : f.toList.getD i 0 = f.byte i := by
  simp only [toList, byte, Array.getD_eq_getD_getElem?, List.getD_eq_getElem?_getD, Array.getElem?_toList]

theorem ext_toList {f g : File} (h : f.toList = g.toList) : f = g := by
  obtain ⟨a⟩ := f
  obtain ⟨b⟩ := g
  exact congrArg File.mk (Array.ext' h)

theorem getD_append_left (a b : Bytes) (i : Nat) (h : i < a.length) : (a ++ b).getD i 0 = a.getD i 0 := by
  simp only [List.getD_eq_getElem?_getD, List.getElem?_append_left h]

theorem getD_append_right (a b : Bytes) (i : Nat) (h : a.length ≤ i) : (a ++ b).getD i 0 = b.getD (i - a.length) 0 := by
  simp only [List.getD_eq_getElem?_getD, List.getElem?_append_right h]

theorem getD_take (a : Bytes) (n i : Nat) (h : i < n) : (a.take n).getD i 0 = a.getD i 0 := by
  simp only [List.getD_eq_getElem?_getD, List.getElem?_take, h, ite_true]

theorem getD_drop (a : Bytes) (n i : Nat) : (a.drop n).getD i 0 = a.getD (n + i) 0 := by
  simp only [List.getD_eq_getElem?_getD, List.getElem?_drop]

theorem getD_ge (a : Bytes) (i : Nat) (h : a.length ≤ i) : a.getD i 0 = 0 := by
  rw [List.getD_eq_getElem?_getD, List.getElem?_eq_none h]; rfl

theorem getD_append_zeros (l : Bytes) (k i : Nat) : (l ++ List.replicate k 0).getD i 0 = l.getD i 0 := by
  rcases Nat.lt_or_ge i l.length with h | h
  · exact getD_append_left _ _ i h
  · rw [getD_append_right _ _ i h, getD_ge l i h, List.getD_eq_getElem?_getD, List.getElem?_replicate]
    split <;> rfl

theorem ext_bytes (l l' : Bytes) (hl : l.length = l'.length) (h : ∀ i, l.getD i 0 = l'.getD i 0) : l = l' := by
  apply List.ext_getElem hl
  intro i h1 h2
  have := h i
  simp only [List.getD_eq_getElem?_getD, List.getElem?_eq_getElem h1, List.getElem?_eq_getElem h2, Option.getD_some] at this
  exact this

theorem ext {f g : File} (hs : f.size = g.size) (hb : ∀ i, f.byte i = g.byte i) : f = g :=
  ext_toList (ext_bytes _ _ (by rw [toList_length, toList_length, hs]) fun i => by rw [toList_getD, toList_getD, hb])

theorem byte_of_size_le (f : File) (i : Nat) (h : f.size ≤ i) : f.byte i = 0 := getD_of_size_le _ _ _ h

/-- `l` with the range `[off, off + |bs|)` replaced by `bs`: before, inside and after the range -/
theorem getD_splice (l bs : Bytes) (off i : Nat) (h : off ≤ l.length) :
    (l.take off ++ bs ++ l.drop (off + bs.length)).getD i 0
      = if off ≤ i ∧ i < off + bs.length then bs.getD (i - off) 0 else l.getD i 0 := by
  have hl : (l.take off).length = off := List.length_take_of_le h
  rw [List.append_assoc]
  rcases Nat.lt_or_ge i off with h1 | h1
  · rw [if_neg fun c => Nat.not_le_of_lt h1 c.1, getD_append_left _ _ i (hl.symm ▸ h1), getD_take _ _ _ h1]
  · rw [getD_append_right _ _ i (hl.symm ▸ h1), hl]
    rcases Nat.lt_or_ge i (off + bs.length) with h2 | h2
    · rw [if_pos ⟨h1, h2⟩, getD_append_left _ _ _ (Nat.sub_lt_left_of_lt_add h1 h2)]
    · rw [if_neg fun c => Nat.not_lt_of_ge h2 c.2, getD_append_right _ _ _ (Nat.le_sub_of_add_le' h2), getD_drop, Nat.sub_sub,
        Nat.add_sub_cancel' h2]

theorem length_splice (l bs : Bytes) (off : Nat) (h : off + bs.length ≤ l.length) :
    (l.take off ++ bs ++ l.drop (off + bs.length)).length = l.length := by
  rw [List.length_append, List.length_append, List.length_take_of_le (Nat.le_trans (Nat.le_add_right _ _) h), List.length_drop,
    Nat.add_sub_cancel' h]

theorem pushZeros_toList (a : Array UInt8) (k : Nat) : (pushZeros a k).toList = a.toList ++ List.replicate k 0 := by
  induction k generalizing a with
  | zero => exact (List.append_nil _).symm
  | succ k ih => rw [pushZeros, ih, Array.toList_push, List.append_assoc, List.replicate_succ]; rfl

theorem extend_toList (a : Array UInt8) (n : Nat) : (extend a n).toList = a.toList ++ List.replicate (n - a.size) 0 :=
  pushZeros_toList a _

theorem extend_of_le (a : Array UInt8) (n : Nat) (h : n ≤ a.size) : extend a n = a := by
  rw [extend, Nat.sub_eq_zero_of_le h]; rfl

/-- overwriting the middle part of `p ++ m ++ s` -/
theorem writeFrom_toList (a : Array UInt8) (p m s bs : Bytes) (ha : a.toList = p ++ m ++ s) (hm : m.length = bs.length) :
    (writeFrom a p.length bs).toList = p ++ bs ++ s := by
  induction bs generalizing a p m with
  | nil =>
    cases m with
    | nil => exact ha
    | cons _ _ => cases hm
  | cons b bs ih =>
    cases m with
    | nil => cases hm
    | cons x m =>
      have h1 : (a.setIfInBounds p.length b).toList = (p ++ [b]) ++ m ++ s := by
        rw [Array.toList_setIfInBounds, ha, List.append_assoc p, List.set_append_right _ _ (Nat.le_refl _), Nat.sub_self]
        simp only [List.append_assoc, List.cons_append, List.set_cons_zero, List.nil_append]
      have := ih _ (p ++ [b]) m h1 (Nat.succ.inj hm)
      rw [List.length_append, List.length_singleton] at this
      rw [writeFrom, this]
      simp only [List.append_assoc, List.cons_append, List.nil_append]

theorem writeFrom_toList_range (a : Array UInt8) (off : Nat) (bs : Bytes) (h : off + bs.length ≤ a.size) :
    (writeFrom a off bs).toList = a.toList.take off ++ bs ++ a.toList.drop (off + bs.length) := by
  have h' : off + bs.length ≤ a.toList.length := Array.length_toList ▸ h
  have := writeFrom_toList a (a.toList.take off) ((a.toList.drop off).take bs.length) (a.toList.drop (off + bs.length)) bs
    (by rw [List.append_assoc, ← List.drop_drop, List.take_append_drop, List.take_append_drop])
    (by rw [List.length_take, List.length_drop]; exact Nat.min_eq_left (Nat.le_sub_of_add_le' h'))
  rwa [List.length_take_of_le (Nat.le_trans (Nat.le_add_right _ _) h')] at this

theorem length_append_zeros (f : File) (n : Nat) : (f.toList ++ List.replicate (n - f.size) 0).length = max f.size n := by
  rw [List.length_append, List.length_replicate, toList_length, Nat.add_comm, Nat.sub_add_eq_max, Nat.max_comm]

/-- `write` zero-extends the file to the end of the written range and replaces the range -/
theorem toList_write_ext (f : File) (off : Nat) (bs : Bytes) :
    (f.write off bs).toList
      = (f.toList ++ List.replicate (off + bs.length - f.size) 0).take off ++ bs
          ++ (f.toList ++ List.replicate (off + bs.length - f.size) 0).drop (off + bs.length) := by
  have hl := length_append_zeros f (off + bs.length)
  obtain ⟨a⟩ := f
  show (writeFrom (extend a (off + bs.length)) off bs).toList = _
  rw [writeFrom_toList_range _ _ _ (by rw [← Array.length_toList, extend_toList]; exact hl ▸ Nat.le_max_right _ _), extend_toList]
  rfl

/-- a write that starts inside (or at the end of) the file -/
theorem toList_write (f : File) (off : Nat) (bs : Bytes) (h : off ≤ f.size) :
    (f.write off bs).toList = f.toList.take off ++ bs ++ f.toList.drop (off + bs.length) := by
  rw [toList_write_ext, List.take_append_of_le_length (by rw [toList_length]; exact h), List.drop_append, toList_length,
    List.drop_of_length_le (l := List.replicate _ _) (by rw [List.length_replicate]; exact Nat.le_refl _), List.append_nil]

theorem size_write (f : File) (off : Nat) (bs : Bytes) : (f.write off bs).size = max f.size (off + bs.length) := by
  have hl := length_append_zeros f (off + bs.length)
  rw [← toList_length, toList_write_ext, length_splice _ _ _ (hl ▸ Nat.le_max_right _ _), hl]

theorem byte_write (f : File) (off : Nat) (bs : Bytes) (i : Nat) :
    (f.write off bs).byte i = if off ≤ i ∧ i < off + bs.length then bs.getD (i - off) 0 else f.byte i := by
  have hl := length_append_zeros f (off + bs.length)
  rw [← toList_getD, toList_write_ext, getD_splice _ _ _ _ (hl ▸ Nat.le_trans (Nat.le_add_right _ _) (Nat.le_max_right _ _)),
    getD_append_zeros, toList_getD]

theorem write_inside (f : File) (a : Nat) (buf : Bytes) (k : Nat) (hk : k < buf.length) :
    a + k < (f.write a buf).size ∧ (f.write a buf).byte (a + k) = buf.getD k 0 := by
  rw [File.size_write, File.byte_write, if_pos ⟨Nat.le_add_right a k, Nat.add_lt_add_left hk a⟩, Nat.add_sub_cancel_left]
  exact ⟨Nat.lt_of_lt_of_le (Nat.add_lt_add_left hk a) (Nat.le_max_right _ _), rfl⟩

theorem write_outside (f : File) (a : Nat) (buf : Bytes) (x : Nat) (hx : x < f.size) (hout : x < a ∨ a + buf.length ≤ x) :
    x < (f.write a buf).size ∧ (f.write a buf).byte x = f.byte x := by
  rw [File.size_write, File.byte_write, if_neg fun c => hout.elim (fun h => Nat.not_le_of_lt h c.1) fun h => Nat.not_lt_of_ge h c.2]
  exact ⟨Nat.lt_of_lt_of_le hx (Nat.le_max_left _ _), rfl⟩

theorem toList_write_end (f : File) (bs : Bytes) : (f.write f.size bs).toList = f.toList ++ bs := by
  rw [toList_write f f.size bs (Nat.le_refl _), List.take_of_length_le (Nat.le_of_eq (toList_length f)),
    List.drop_of_length_le (by rw [toList_length]; exact Nat.le_add_right _ _), List.append_nil]

/-- a write over the front of the middle part `m` of a file `a ++ m ++ c` -/
theorem toList_write_mid (f : File) (a m c buf : Bytes) (hf : f.toList = a ++ m ++ c) (hb : buf.length ≤ m.length) :
    (f.write a.length buf).toList = a ++ (buf ++ m.drop buf.length) ++ c := by
  have hsz : a.length ≤ f.size := by
    rw [← toList_length, hf, List.append_assoc, List.length_append]; exact Nat.le_add_right _ _
  rw [toList_write f a.length buf hsz, hf, List.append_assoc a m c, List.take_left' rfl, List.drop_append,
    List.drop_of_length_le (Nat.le_add_right _ _),
    List.nil_append, Nat.add_sub_cancel_left, List.drop_append_of_le_length hb]
  simp only [List.append_assoc]

theorem toList_truncate_le (f : File) (n : Nat) (h : n ≤ f.size) : (f.truncate n).toList = f.toList.take n := by
  rw [truncate, if_pos h]
  show (f.data.extract 0 n).toList = _
  rw [Array.toList_extract, List.extract_eq_take_drop]; rfl

theorem toList_truncate_ge (f : File) (n : Nat) (h : f.size ≤ n) :
    (f.truncate n).toList = f.toList ++ List.replicate (n - f.size) 0 := by
  rcases Nat.eq_or_lt_of_le h with rfl | hlt
  · rw [toList_truncate_le f _ (Nat.le_refl _), Nat.sub_self, List.take_of_length_le (Nat.le_of_eq (toList_length f))]
    exact (List.append_nil _).symm
  · rw [truncate, if_neg (Nat.not_le_of_lt hlt)]
    exact extend_toList f.data n

theorem size_truncate (f : File) (n : Nat) : (f.truncate n).size = n := by
  rw [← toList_length]
  rcases Nat.le_total n f.size with h | h
  · rw [toList_truncate_le f n h, List.length_take_of_le (toList_length f ▸ h)]
  · rw [toList_truncate_ge f n h, length_append_zeros, Nat.max_eq_right h]

theorem byte_truncate (f : File) (n i : Nat) : (f.truncate n).byte i = if i < n then f.byte i else 0 := by
  rw [← toList_getD, ← toList_getD]
  rcases Nat.le_total n f.size with h | h
  · rw [toList_truncate_le f n h]
    split
    · rename_i hi; exact getD_take _ _ _ hi
    · rename_i hi; exact getD_ge _ _ (Nat.le_trans (List.length_take_le _ _) (Nat.le_of_not_lt hi))
  · rw [toList_truncate_ge f n h, getD_append_zeros]
    split
    · rfl
    · rename_i hi; exact getD_ge _ _ (toList_length f ▸ Nat.le_trans h (Nat.le_of_not_lt hi))

theorem zeroRange_eq_writeFrom (a : Array UInt8) (off n : Nat) : zeroRange a off n = writeFrom a off (List.replicate n 0) := by
  induction n generalizing a off with
  | zero => rfl
  | succ n ih => exact ih _ _

theorem zeroRange_eq_write (f : File) (off len : Nat) (h : off + len ≤ f.size) :
    (⟨zeroRange f.data off len⟩ : File) = f.write off (List.replicate len 0) := by
  rw [zeroRange_eq_writeFrom, write, List.length_replicate, extend_of_le _ _ h]

/-- `del`: bytes outside the range survive if they lie below the new size; the new size -/
theorem del_spec (f g : File) (off len : Nat) (h : f.del off len = some g) :
    (g.size ≤ f.size ∧ (∀ i, i < off → g.byte i = f.byte i) ∧ (∀ i, off + len ≤ i → g.byte i = f.byte i)
      ∧ (off + len < f.size → g.size = f.size) ∧ off ≤ g.size) ∨ (len = 0 ∧ g = f) := by
  unfold del at h
  split at h
  · cases h
  · rename_i h1
    split at h
    · rename_i h2; cases h; exact Or.inr ⟨h2, rfl⟩
    · split at h
      · rename_i h3
        cases h
        refine Or.inl ⟨Nat.le_trans (Nat.le_of_eq (size_truncate f off)) (Nat.le_of_not_gt h1), fun i hi => ?_, fun i hi => ?_,
          fun hlt => absurd hlt (Nat.not_lt_of_ge h3), Nat.le_of_eq (size_truncate f off).symm⟩
        · rw [byte_truncate, if_pos hi]
        · rw [byte_truncate, if_neg (Nat.not_lt_of_ge (Nat.le_trans (Nat.le_add_right _ _) hi)),
            byte_of_size_le f i (Nat.le_trans h3 hi)]
      · rename_i h3
        cases h
        rw [zeroRange_eq_write f off len (Nat.le_of_lt (Nat.lt_of_not_ge h3))]
        have hsz : (f.write off (List.replicate len 0)).size = f.size := by
          rw [size_write, List.length_replicate, Nat.max_eq_left (Nat.le_of_lt (Nat.lt_of_not_ge h3))]
        have hb : ∀ i, ¬ (off ≤ i ∧ i < off + len) → (f.write off (List.replicate len 0)).byte i = f.byte i := fun i hi => by
          rw [byte_write, List.length_replicate, if_neg hi]
        exact Or.inl ⟨Nat.le_of_eq hsz, fun i hi => hb i fun c => Nat.not_le_of_lt hi c.1,
          fun i hi => hb i fun c => Nat.not_lt_of_ge hi c.2, fun _ => hsz, Nat.le_trans (Nat.le_of_not_gt h1) (Nat.le_of_eq hsz.symm)⟩

theorem read_eq_some_iff (f : File) (off len : Nat) (l : Bytes) :
    f.read off len = some l ↔ off + len ≤ f.size ∧ l = (f.toList.drop off).take len := by
  unfold read
  split
  · rename_i h
    exact ⟨nofun, fun h' => absurd h'.1 (Nat.not_le_of_gt h)⟩
  · rename_i h
    rw [Option.some.injEq, Array.toList_extract, List.extract_eq_take_drop, Nat.add_sub_cancel_left, eq_comm]
    exact ⟨fun e => ⟨Nat.le_of_not_gt h, e⟩, fun e => e.2⟩

theorem read_eq_none_iff (f : File) (off len : Nat) : f.read off len = none ↔ f.size < off + len := by
  unfold read
  split
  · rename_i h; exact ⟨fun _ => h, fun _ => rfl⟩
  · rename_i h; exact ⟨nofun, fun h' => absurd h' h⟩

theorem read_size (f : File) (off len : Nat) (l : Bytes) (h : f.read off len = some l) : off + len ≤ f.size :=
  ((read_eq_some_iff f off len l).mp h).1

theorem length_take_drop (f : File) (off len : Nat) (h : off + len ≤ f.size) : ((f.toList.drop off).take len).length = len := by
  rw [List.length_take, List.length_drop, toList_length]; exact Nat.min_eq_left (Nat.le_sub_of_add_le' h)

theorem read_length (f : File) (off len : Nat) (l : Bytes) (h : f.read off len = some l) : l.length = len := by
  obtain ⟨h1, rfl⟩ := (read_eq_some_iff f off len l).mp h
  exact length_take_drop f off len h1

theorem read_byte (f : File) (off len : Nat) (l : Bytes) (h : f.read off len = some l) (k : Nat) (hk : k < len) :
    l.getD k 0 = f.byte (off + k) := by
  obtain ⟨_, rfl⟩ := (read_eq_some_iff f off len l).mp h
  rw [getD_take _ _ _ hk, getD_drop, toList_getD]

theorem read_of_bytes (f : File) (off : Nat) (l : Bytes) (hsz : off + l.length ≤ f.size)
    (hb : ∀ k, k < l.length → f.byte (off + k) = l.getD k 0) : f.read off l.length = some l := by
  have hl := length_take_drop f off l.length hsz
  refine (read_eq_some_iff _ _ _ _).mpr ⟨hsz, ext_bytes _ _ hl.symm fun k => ?_⟩
  rcases Nat.lt_or_ge k l.length with hk | hk
  · rw [getD_take _ _ _ hk, getD_drop, toList_getD, hb k hk]
  · rw [getD_ge _ _ hk, getD_ge _ _ (Nat.le_trans (Nat.le_of_eq hl) hk)]

theorem read_congr (f g : File) (hs : f.size = g.size) (hb : ∀ i, f.byte i = g.byte i) (off len : Nat) :
    f.read off len = g.read off len := by
  rw [ext hs hb]

theorem write_congr (f g : File) (hs : f.size = g.size) (hb : ∀ i, f.byte i = g.byte i) (off : Nat) (bs : Bytes) :
    (f.write off bs).size = (g.write off bs).size ∧ ∀ i, (f.write off bs).byte i = (g.write off bs).byte i := by
  rw [ext hs hb]; exact ⟨rfl, fun _ => rfl⟩

theorem read_write_same (f : File) (off : Nat) (bs : Bytes) : (f.write off bs).read off bs.length = some bs :=
  read_of_bytes _ _ _ (by rw [size_write]; exact Nat.le_max_right _ _) fun k hk => (write_inside f off bs k hk).2

theorem read_write_disjoint (f : File) (off : Nat) (bs : Bytes) (off' len : Nat) (l : Bytes)
    (h : f.read off' len = some l) (hd : off' + len ≤ off ∨ off + bs.length ≤ off') :
    (f.write off bs).read off' len = some l := by
  have hs := read_size _ _ _ _ h
  cases read_length _ _ _ _ h
  refine read_of_bytes _ _ _ (Nat.le_trans hs (by rw [size_write]; exact Nat.le_max_left _ _)) fun k hk => ?_
  rw [byte_write, if_neg fun c => hd.elim
    (fun h1 => Nat.not_le_of_lt (Nat.lt_of_lt_of_le (Nat.add_lt_add_left hk _) h1) c.1)
    (fun h2 => Nat.not_lt_of_ge (Nat.le_trans h2 (Nat.le_add_right _ _)) c.2)]
  exact (read_byte _ _ _ _ h k hk).symm

theorem extract_getD (bs : Array Bytes) (L i : Nat) (hL : L ≤ bs.size) (hi : i < L) : (bs.extract 0 L).getD i [] = bs.getD i [] := by
  have h : i < min L bs.size - 0 := by rw [Nat.min_eq_left hL]; exact hi
  rw [Array.getD_eq_getD_getElem?, Array.getD_eq_getD_getElem?, Array.getElem?_extract, if_pos h, Nat.zero_add]

end HC.File
