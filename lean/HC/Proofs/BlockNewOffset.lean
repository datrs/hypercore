import HC.Proofs.BlockNew
/-!
The byte offset of a block of the **new part** under the changeset of a block + upgrade proof (C03).  The changeset's node
list is the block's path (leaf, siblings and parents up to the node `R` of the upgrade's position list) followed by the
nodes the upgrade recorded — in which `R` occurs a second time.  `byte_offset_in_changeset` scans that list for the
block's ancestors; with the scan's full state (`scanS`, stated in `BlockUpgrade.lean`) the two parts are treated one
after the other.
-/
namespace HC.BlockNewOffset
open HC HC.Codec HC.Flat HC.Tree HC.RefTree HC.RefProof HC.Sound HC.Offsets HC.TreeStore HC.Complete HC.UpgradeSound HC.Pow2
  HC.Replica HC.Growth HC.HashReq HC.BlockUpgrade HC.BlockNew

/-- **the scan over the block's path followed by an ordered list of reference nodes** -/
theorem scan_path_then (C : Crypto) (bs : Array Bytes) (i k : Nat) (G : List Node) (href : ∀ x ∈ G, ∃ d o, x = nodeAt C bs d o)
    (hdist : ∀ a b x, G = a ++ x :: b → (∀ y ∈ a, y.index ≠ x.index) ∧ (∀ y ∈ b, y.index ≠ x.index))
    (hord : ∀ a b d o, G = a ++ nodeAt C bs (d + 1) o :: b → ∀ o', o' / 2 = o → nodeAt C bs d o' ∈ G → nodeAt C bs d o' ∈ a) :
    ∃ T off', k ≤ T
      ∧ byteOffsetInChangeset.scan ((nodeAt C bs 0 i :: downPath C bs 0 i k) ++ G) (iat 0 i) 0 false none = (off', some (anc C bs i T))
      ∧ off' + psum bs (i / 2 ^ T * 2 ^ T) = psum bs i
      ∧ (∀ s, k < s → s ≤ T → anc C bs i s ∈ G) ∧ anc C bs i (T + 1) ∉ G := by
  -- the path part
  have hP := ordered_oldest C bs _ (ordered_path C bs k 0 i).1
  rw [path_reverse] at hP
  have hPref : ∀ x ∈ (nodeAt C bs 0 i :: downPath C bs 0 i k), ∃ d o, x = nodeAt C bs d o := by
    intro x hx
    obtain ⟨d, o, e, _⟩ := Replica.pathNodes_inside C bs 0 i k _ (Nat.le_refl _) x hx
    exact ⟨d, o, e⟩
  obtain ⟨T1, off1, _, hs1, ho1, _, _⟩ := scanS_chain C bs i _ hPref hP.1 hP.2 (downPath C bs 0 i k) [nodeAt C bs 0 i] 0 0 rfl
  simp only [Nat.zero_add, Nat.pow_zero, Nat.pow_one, Nat.div_one, Nat.mul_one, anc_zero] at hs1 ho1
  -- it ends at the top of the path, as `scan_path` says
  have hT1k : T1 = k := by
    obtain ⟨r, hr, _⟩ := scan_path C bs k 0 i 0
    rw [scan_eq, hs1, Nat.zero_add] at hr
    exact (nodeAt_inj C bs _ _ _ _ (Option.some.inj (Prod.mk.inj hr).2)).1
  subst hT1k
  -- the upgrade's nodes
  obtain ⟨T2, off2, hT2, hs2, ho2, hm2, hn2⟩ := scanS_chain C bs i G href hdist hord G [] T1 off1 rfl
  refine ⟨T2, off2, hT2, ?_, by rw [ho2, ho1], hm2, hn2⟩
  rw [scan_eq, scanS_append, scanS_hit _ _ 0 i 0 false none rfl, hs1, hs2]

/-- **the byte offset of a block of the new part under the changeset of the block + upgrade proof** is the writer's -/
theorem offset_new_block (C : Crypto) (hC : HashWF C) (bs : Array Bytes) (m n : Nat) (c : Core) (d : Disk) (held : Nat → Bool)
    (h : RepRAt C bs m c d held) (hn : n ≤ bs.size) (csg : Changeset) (hinv : Inv C bs c.tree d.tree csg n)
    (i k : Nat) (hmi : m ≤ i) (hRin : nodeAt C bs k (i / 2 ^ k) ∈ csg.nodes) :
    c.tree.byteOffsetInChangeset d.tree i (addOld (upPath C bs 0 i k ++ [nodeAt C bs 0 i]) csg) = .ok (psum bs i) := by
  have hlen : c.tree.length = m := h.closed.sparse.length
  by_cases him : m = i
  · subst him
    simp only [Tree.byteOffsetInChangeset, hlen, ite_true]
    rw [h.bytes]
  have hord := ordered_oldest C bs csg.rnodes hinv.order
  obtain ⟨T, off', hT, hscan, hoff, hmem, hnot⟩ := scan_path_then C bs i k csg.nodes (inv_nodes_ref hinv) hord.1 hord.2
  rw [← addOld_path_nodes] at hscan
  -- the last ancestor found is recorded by the upgrade
  have hTin : anc C bs i T ∈ csg.nodes := by
    rcases Nat.eq_or_lt_of_le hT with rfl | hlt
    · exact hRin
    · exact hmem T hlt (Nat.le_refl _)
  -- it is a root of `n`: otherwise its parent, which spans `i`, would lie in the old tree
  have hroot : (T, i / 2 ^ T) ∈ rootsStack n := by
    by_contra hnr
    obtain ⟨hparin, _⟩ := scan_end C hC bs m n c d held h csg hinv T (i / 2 ^ T) hTin (by rw [div_pow_succ']; exact hnot) hnr
    rw [div_pow_succ'] at hparin
    exact Nat.lt_irrefl i (Nat.lt_of_lt_of_le (lt_succ_div_mul i _ (pow_pos' (T + 1))) (Nat.le_trans hparin hmi))
  exact offset_at_root C bs n c.tree d.tree i _ (by rw [hlen]; exact him) (rootsAt_of_reverse hinv.roots) T hroot off' hscan hoff

end HC.BlockNewOffset
