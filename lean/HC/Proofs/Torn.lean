import HC.Proofs.Crash
/-!
Torn writes (C07).  `torn_step`: for every call, every write `k` of it and every number `t` of its bytes that arrive,
the stores are `Durable0` for the log before the call or the log after it, so `Hypercore::new` succeeds on them
(`Crash.durable_open`).  Torn data, page, node and entry writes need no assumption: a strict prefix of an entry frame
is rejected by its length field; a half-written page holds, bit by bit, the old or the new value; a half-written node
slot holds a node that was already there.  For a torn header write the theorem assumes what the format relies on: the
checksum rejects the half-written slot (`hcrc`).
-/
namespace HC.Torn
open HC HC.Codec HC.Flat HC.Tree HC.RefTree HC.RefProof HC.Offsets HC.TreeStore HC.LogSpec HC.Core HC.Oplog HC.LiveRefine
  HC.BitfieldPages HC.OplogBytes HC.FormatLimits HC.Touch HC.Persist HC.Crash

theorem tornApply_only {d : Disk} {j : List SOp} {s : Store} (h : ∀ op ∈ j, op.store = s) (k t : Nat) :
    tornApply d j k t = d.set s ((tornApply d j k t).get s) := by
  unfold tornApply
  split
  · rename_i st off bs heq
    have hs : st = s := h _ (List.mem_of_getElem? heq)
    subst hs
    rw [Journal.applyAll_only (Journal.on_take h k), Disk.apply_write, Disk.set_set, Disk.get_set_same, Disk.get_set_same]
  · exact Journal.applyAll_only (Journal.on_take h k)

theorem durable_tornPage (C : Crypto) (c : Core) (d : Disk) (hf : Header) (a0 a : Abs) (es : List Entry)
    (hrep : Rep C c d a) (h : Durable C d hf a0 es a) (ps : List Nat) (p t : Nat) :
    Durable0 C { d with bitfield := (writePages c.bitfield d.bitfield ps).write (p * Spec.pageBytes) ((c.bitfield.pageBytes p).take t) }
      hf a0 es a :=
  have h1 := durable_ahead C c d hf a0 a es hrep h ps 0
  h1.toDurable0.with_bits fun i => (tornPage_bits c.bitfield _ h1.fileSize p t i).imp id fun e => e.trans (hrep.bits i)

theorem nodesOK_tornSlot (C : Crypto) (bs0 : Array Bytes) (l : List Bytes) (t : Tree) (f g : File) (n : Node) (tt : Nat)
    (hwf : MapWF t.unflushed) (hN : NodesOK C (bs0 ++ l.toArray) t g) (hN0 : NodesOK C bs0 {} f)
    (hn : t.unflushed[n.index]? = some n) :
    NodesOK C bs0 {} (f.write (n.index * Spec.nodeSize) ((nodeBytes n).take tt)) := fun dd o hb =>
  -- where the slot is the node's own, the node is the one the slot already holds
  tornSlot_keep f n (hwf _ _ hn).2.1 tt _ _ (hN0 dd o hb) fun hidx => unflushed_old C bs0 l t g hN n hn dd o hb hidx

theorem durable_tornSlot (C : Crypto) (c : Core) (d : Disk) (hf : Header) (a0 a : Abs) (es : List Entry)
    (hrep : Rep C c d a) (h : Durable C d hf a0 es a) (m : Nat) (n : Node) (hn : (flushList c.tree)[m]? = some n) (t : Nat) :
    Durable0 C { d with bitfield := writePages c.bitfield d.bitfield c.bitfield.dirty,
                        tree := (writeSlots d.tree ((flushList c.tree).take m)).write (n.index * Spec.nodeSize) ((nodeBytes n).take t) }
      hf a0 es a :=
  have h1 := durable_ahead C c d hf a0 a es hrep h c.bitfield.dirty m
  have ⟨l, hl⟩ := trace_blocks C a0 a es h.trace
  h1.toDurable0.with_tree (nodesOK_tornSlot C a0.blocks l c.tree _ d.tree n t hrep.mapwf (hl ▸ hrep.nodes) h1.fileNodes
    ((flushList_mem c.tree hrep.mapwf n).mp (List.mem_of_getElem? hn)))

/-- operation `m` of an oplog flush cut short, on stores `D` that are durable before it for one log and, once its header
    write is done, for another.  A torn first header write leaves the old header the newest one, given that its slot fails
    the checksum; from then on the store shows the new header. -/
theorem torn_flushed (C : Crypto) (st : Oplog.State) (D : Disk) (hf : Header) (a0 : Abs) (es : List Entry) (a1 a : Abs) (h' : Header)
    (ct : Bool) (hDs : Durable0 C D hf a0 es a1)
    (hDf : ∀ m, 1 ≤ m → Durable0 C { D with oplog := ((Oplog.flush st h' ct).2.take m).foldl (fun g op => op.onFile g) D.oplog } h' a [] a)
    (hop : OpInv st D.oplog.toList hf es) (hok : HeaderOK h') (m t : Nat)
    (hcrc : ∀ off bs, (Oplog.flush st h' ct).2[m]? = some (.write .oplog off bs) →
      validateLeader (((tornApply D (Oplog.flush st h' ct).2 m t).oplog.toList.drop off).take Spec.headerSize) = none) :
    Durable0 C (tornApply D (Oplog.flush st h' ct).2 m t) hf a0 es a1 ∨ Durable0 C (tornApply D (Oplog.flush st h' ct).2 m t) h' a [] a := by
  have hOs := Journal.oplogFlush_store st h' ct
  cases m with
  | zero =>
    left
    obtain ⟨off, bs, hw⟩ : ∃ off bs, headerWrite h' st.bits ct = .write .oplog off bs := ⟨_, _, rfl⟩
    have hO0 : (Oplog.flush st h' ct).2[0]? = some (.write .oplog off bs) := by
      cases ct
      · rw [flush_ops, hw]; rfl
      · rw [flush_ops_clear, hw]; rfl
    have hc := hcrc off bs hO0
    rw [tornApply_write _ _ _ _ _ _ _ hO0, Disk.apply_write] at hc ⊢
    have hinv := opinv_torn_header st D.oplog hf es h' ct t hop hok off bs (by rw [insertHeader_ops, hw]; rfl) hc
    exact hDs.with_oplog (opimage_of_inv st _ hf es hinv)
  | succ m =>
    right
    -- no write at this position: a plain crash after `m + 1` operations of the flush
    have hplain : (∀ s off bs, (Oplog.flush st h' ct).2[m + 1]? ≠ some (.write s off bs)) →
        Durable0 C (tornApply D (Oplog.flush st h' ct).2 (m + 1) t) h' a [] a := by
      intro hnw
      rw [tornApply_notWrite _ _ _ _ hnw, Disk.applyAll_eq_set _ (Journal.on_take hOs _)]
      exact hDf (m + 1) (Nat.le_add_left 1 m)
    cases ct with
    | false =>
      apply hplain
      rw [flush_ops]
      intro s off bs h
      cases m with
      | zero => cases h
      | succ m => cases h
    | true =>
      cases m with
      | zero => apply hplain; rw [flush_ops_clear]; intro s off bs h; cases h
      | succ m =>
        cases m with
        | succ m => apply hplain; rw [flush_ops_clear]; intro s off bs h; cases h
        | zero =>
          -- the second header write torn: the new header is in the other slot
          obtain ⟨off, bs, hw⟩ : ∃ off bs, headerWrite h' (Oplog.insertHeader h' 0 st.bits true).1 true = .write .oplog off bs := ⟨_, _, rfl⟩
          have hO2 : (Oplog.flush st h' true).2[2]? = some (.write .oplog off bs) := by rw [flush_ops_clear, hw]; rfl
          have hc := hcrc off bs hO2
          have h2 := hDf 2 (Nat.le_add_left 1 1)
          rw [tornApply_write _ _ _ _ _ _ _ hO2, Disk.applyAll_eq_set _ (Journal.on_take hOs _), Disk.apply_write, Disk.set_set,
            Disk.get_set_same] at hc ⊢
          -- the journals are spelled the same on both sides before `hc` meets `opinv_torn_header`: the unifier would
          -- compare `List.take 2 [_, _, _]` with `[_, _]`, or `entriesOffset + 0` with `entriesOffset`, by unfolding the
          -- file operations around them
          rw [flush_ops_clear] at hc h2 ⊢
          simp only [Disk.get_oplog, List.take_succ_cons, List.take_zero] at hc h2 ⊢
          have hst1 := opinv_insert st D.oplog hf es h' true hop hok
          rw [insertHeader_ops, Nat.add_zero] at hst1
          have hinv := opinv_torn_header _ _ h' [] h' true t hst1 hok off bs (by rw [insertHeader_ops, hw]; rfl) hc
          -- (`hDf` is stated with a record update for this step: `Disk.set` twice over would be compared file by file)
          exact h2.with_oplog (opimage_of_inv _ _ _ _ hinv)

/-- **a flush with one of its writes torn.**  The flushing core `c1` has the bitfield and tree of a core `c` that represents
    the log `a` on durable stores; `a1` is the log the stores are durable for once the flush is complete (`a` itself for a
    periodic flush, `a` read-only for `make_read_only`, where `c1` is `c` without its secret). -/
theorem torn_flush_cut (C : Crypto) (c : Core) (d : Disk) (hf : Header) (a0 a : Abs) (es : List Entry)
    (hrep : Rep C c d a) (hdur : Durable C d hf a0 es a) (c1 : Core) (a1 : Abs) (hb : c1.bitfield = c.bitfield) (ht : c1.tree = c.tree)
    (ct : Bool) (hD : Durable C (d.applyAll (c1.flushAll ct).2) c1.header a1 [] a1) (hop : OpInv c1.oplog d.oplog.toList hf es)
    (hok : HeaderOK c1.header) (k t : Nat)
    (hcrc : ∀ off bs, (c1.flushAll ct).2[k]? = some (.write .oplog off bs) →
      validateLeader (((tornApply d (c1.flushAll ct).2 k t).oplog.toList.drop off).take Spec.headerSize) = none) :
    (∃ hf' a0' es', Durable0 C (tornApply d (c1.flushAll ct).2 k t) hf' a0' es' a)
      ∨ (∃ hf' a0' es', Durable0 C (tornApply d (c1.flushAll ct).2 k t) hf' a0' es' a1) := by
  rcases flushAll_torn_cases c1 d ct k t with ⟨p, e⟩ | ⟨m, n, hn, e⟩ | ⟨m, hget, e⟩
  · rw [e, hb]
    exact Or.inl ⟨hf, a0, es, durable_tornPage C c d hf a0 a es hrep hdur _ p t⟩
  · rw [ht] at hn
    rw [e, hb, ht]
    exact Or.inl ⟨hf, a0, es, durable_tornSlot C c d hf a0 a es hrep hdur m n hn t⟩
  · have hDs := (durable_ahead C c d hf a0 a es hrep hdur c.bitfield.dirty (flushList c.tree).length).toDurable0
    rw [List.take_length, ← hb, ← ht] at hDs
    rw [e] at hcrc ⊢
    rcases torn_flushed C c1.oplog _ hf a0 es a a1 c1.header ct hDs (fun m hm => (durable_flushed C c1 d hf es a1 ct hD hop hok m hm).toDurable0)
      hop hok m t (fun off bs hm => hcrc off bs (hget.trans hm)) with h | h
    · exact Or.inl ⟨hf, a0, es, h⟩
    · exact Or.inr ⟨c1.header, a1, [], h⟩

theorem maybeFlush_oplog_off (c : Core) (m off : Nat) (bs : Bytes) (h : c.maybeFlush.2[m]? = some (.write .oplog off bs)) :
    off < Spec.entriesOffset := by
  rw [maybeFlush_snd] at h
  split at h
  · exact flushAll_oplog_off c false m off bs h
  · rw [List.getElem?_nil] at h
    cases h

/-- the flush decision of a call with one of its writes torn (`hcrc` as in `torn_step`) -/
theorem torn_flush (C : Crypto) (hC : HashWF C) (c : Core) (d : Disk) (hf : Header) (a0 a : Abs) (es : List Entry)
    (hrep : Rep C c d a) (hp : Persist C c d hf a0 es a) (k t : Nat)
    (hcrc : ∀ off bs, c.maybeFlush.2[k]? = some (.write .oplog off bs) →
      validateLeader (((tornApply d c.maybeFlush.2 k t).oplog.toList.drop off).take Spec.headerSize) = none) :
    ∃ hf' a0' es', Durable0 C (tornApply d c.maybeFlush.2 k t) hf' a0' es' a := by
  rw [maybeFlush_snd] at hcrc ⊢
  split
  · rename_i h
    rw [if_pos h] at hcrc
    exact (torn_flush_cut C c d hf a0 a es hrep (persist_durable C c d hf a0 es a hrep hp) c a rfl rfl false
      (durable_flushAll C hC c d hf a0 a es hrep hp false) hp.oplog (headerOK_of_shape _ hp.shape) k t hcrc).elim id id
  · rw [tornApply_nil]
    exact ⟨hf, a0, es, (persist_durable C c d hf a0 es a hrep hp).toDurable0⟩

theorem torn_ro (C : Crypto) (hC : HashWF C) (c : Core) (d : Disk) (hf : Header) (a0 a : Abs) (es : List Entry)
    (hrep : Rep C c d a) (hp : Persist C c d hf a0 es a) (hw : a.writable = true) (k t : Nat)
    (hcrc : ∀ off bs, c.makeReadOnly.journal[k]? = some (.write .oplog off bs) →
      validateLeader (((tornApply d c.makeReadOnly.journal k t).oplog.toList.drop off).take Spec.headerSize) = none) :
    (∃ hf' a0' es', Durable0 C (tornApply d c.makeReadOnly.journal k t) hf' a0' es' a)
      ∨ (∃ hf' a0' es', Durable0 C (tornApply d c.makeReadOnly.journal k t) hf' a0' es' { a with writable := false }) := by
  have hj : c.makeReadOnly.journal = (({ c with secret := none, header := { c.header with secret := none } } : Core).flushAll true).2 := by
    rw [makeReadOnly_writer c (by rw [hrep.writer]; exact hw)]
  rw [hj] at hcrc ⊢
  exact torn_flush_cut C c d hf a0 a es hrep (persist_durable C c d hf a0 es a hrep hp)
    { c with secret := none, header := { c.header with secret := none } } _ rfl rfl true
    (durable_readOnly C hC c d hf a0 a es hrep hp) hp.oplog (headerOK_of_shape _ (hdrShape_nosecret _ hp.shape)) k t hcrc

/-- **the journal of a call that logs one entry, with one of its writes torn**: a torn write of `pre` leaves the log before
    the call, and so does a torn entry write unless all its bytes arrive (a strict prefix of a frame is no frame); from
    then on the log after the call -/
theorem logged_torn (C : Crypto) (hC : HashWF C) (c : Core) (d : Disk) (hf : Header) (a0 : Abs) (es : List Entry) (a a' : Abs)
    (pre : List SOp) (ow : SOp) (entry : Entry) (post : List SOp) (c1 : Core) (L : Logged C c d hf a0 es a a' pre ow entry post c1)
    (hop : OpInv c.oplog d.oplog.toList hf es) (hdur : Durable C d hf a0 es a) (k t : Nat)
    (hcrc : ∀ off bs, (pre ++ ow :: post ++ c1.maybeFlush.2)[k]? = some (.write .oplog off bs) → off < Spec.entriesOffset →
      validateLeader (((tornApply d (pre ++ ow :: post ++ c1.maybeFlush.2) k t).oplog.toList.drop off).take Spec.headerSize) = none) :
    (∃ hf' a0' es', Durable0 C (tornApply d (pre ++ ow :: post ++ c1.maybeFlush.2) k t) hf' a0' es' a)
      ∨ (∃ hf' a0' es', Durable0 C (tornApply d (pre ++ ow :: post ++ c1.maybeFlush.2) k t) hf' a0' es' a') := by
  by_cases h3 : (pre ++ ow :: post).length ≤ k
  · -- inside the flush
    right
    rw [tornApply_right _ _ _ _ _ h3] at hcrc ⊢
    exact torn_flush C hC c1 _ hf a0 a' _ L.rep L.persist _ t fun off bs hget =>
      hcrc off bs (by rw [List.getElem?_append_right h3]; exact hget) (maybeFlush_oplog_off c1 _ off bs hget)
  · rw [tornApply_left _ _ _ _ _ (Nat.lt_of_not_le h3)]
    by_cases h1 : k < pre.length
    · -- a write of `pre`
      left
      rw [tornApply_left _ _ _ _ _ h1, tornApply_only L.preData]
      exact ⟨hf, a0, es, hdur.toDurable0.with_data (L.preTorn k t)⟩
    · rw [tornApply_right _ _ _ _ _ (Nat.le_of_not_lt h1)]
      cases k - pre.length with
      | succ m =>
        -- an operation of `post`
        right
        rw [tornApply_cons_succ, ← Disk.applyAll_one, ← Journal.applyAll_append,
          tornApply_notWrite _ _ _ _ (fun st off bs h => L.postNoWrite _ (List.mem_of_getElem? h) st off bs rfl),
          Journal.applyAll_only (Journal.on_take L.postData m)]
        exact ⟨hf, a0, _, (L.mid (L.postOK m)).toDurable0⟩
      | zero =>
        -- the entry write
        rw [L.entryWrite, tornApply_cons_zero_write]
        by_cases htl : t < (frame (encEntry entry) c.oplog.currentBit false).length
        · left
          have h0 := L.preOK pre.length
          rw [List.take_length] at h0
          rw [Journal.applyAll_only L.preData, Disk.apply_write]
          exact ⟨hf, a0, es, (hdur.toDurable0.with_data h0).with_oplog (opimage_torn_entry c.oplog d.oplog hf es entry t hop L.entryOK htl)⟩
        · -- all bytes arrived: the entry is logged
          right
          rw [List.take_of_length_le (Nat.le_of_not_lt htl), ← L.entryWrite, ← Disk.applyAll_one, ← Journal.applyAll_append,
            ← Disk.set_get (d.applyAll (pre ++ [ow])) .data]
          exact ⟨hf, a0, _, (L.mid (L.postOK 0)).toDurable0⟩

/-- **C07 on the model, one call.**  Whatever prefix of the call's storage operations reached the stores, with
    the next write torn after any number of bytes: the stores are durable for the log before the call or for
    the log after it.  `hcrc`: if the torn write is a header write, the half-written slot fails the checksum. -/
theorem torn_step (C : Crypto) (hC : HashWF C) (hS : SignWF C) (hTw : TreeWF C) (c : Core) (d : Disk) (hf : Header) (a0 a : Abs)
    (es : List Entry) (hrep : Rep C c d a) (hp : Persist C c d hf a0 es a) (op : Op) (hv : Valid a op) (hl : Limits a op) (k t : Nat)
    (hcrc : ∀ off bs, (journalC C (c, d) op)[k]? = some (.write .oplog off bs) → off < Spec.entriesOffset →
      validateLeader (((tornDisk C (c, d) op k t).oplog.toList.drop off).take Spec.headerSize) = none) :
    (∃ hf' a0' es', Durable0 C (tornDisk C (c, d) op k t) hf' a0' es' a)
      ∨ (∃ hf' a0' es', Durable0 C (tornDisk C (c, d) op k t) hf' a0' es' (a.step op).1) := by
  have hdur := persist_durable C c d hf a0 es a hrep hp
  unfold tornDisk at hcrc ⊢
  rcases call_cases C hC hS hTw c d hf a0 a es hrep hp op hv hl with ⟨_, _, hj⟩ | ⟨pre, ow, entry, post, c1, hj, _, L⟩ | ⟨rfl, hw⟩
  · rw [hj, tornApply_nil]
    exact Or.inl ⟨hf, a0, es, hdur.toDurable0⟩
  · rw [hj] at hcrc ⊢
    exact logged_torn C hC c d hf a0 es a _ pre ow entry post c1 L hp.oplog hdur k t hcrc
  · rw [step_makeReadOnly a hw]
    exact torn_ro C hC c d hf a0 a es hrep hp hw k t fun off bs hget => hcrc off bs hget (by
      have hget' : c.makeReadOnly.journal[k]? = some (.write .oplog off bs) := hget
      rw [makeReadOnly_writer c (by rw [hrep.writer]; exact hw)] at hget'
      exact flushAll_oplog_off _ true k off bs hget')

end HC.Torn
