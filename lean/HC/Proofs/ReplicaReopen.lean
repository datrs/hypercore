import HC.Proofs.HashReq
import HC.Proofs.Persist
import HC.Proofs.CoreEqs
import HC.Proofs.Crash
import HC.Proofs.Replay
/-!
Closing and reopening a replica (C03 "across replica close/reopen", C08): `Hypercore::new` on the replica's stores
rebuilds exactly the tree the live replica had (the replay inserts the very node lists the live calls committed), the
same bits and the same header (`reopen_replica`).  `PersistR` is the ghost invariant that says so; `Extra` adds what
recovery from a cut flush needs (`ReplicaCrash`); `RP` is both with the replica invariant.  `StepOK` is what an
exchange establishes (one entry logged, then the periodic flush); `Growth.Accepts.stepOK` gives it for every accepted
proof — its entry replays to the commit (`treePart_entryOf`, over the decomposition `ReplicaCrash.replayEntry_eq` of one
replayed entry) —, `block_ok`, `hash_ok`, `grow_ok`, `first_ok` are its instances, `rp_of_ok` derives `RP` after the step,
and `playR_rp` carries `RP` along exchanges and reopens.
-/
namespace HC.ReplicaReopen
open HC HC.Codec HC.Flat HC.Tree HC.RefTree HC.RefProof HC.Sound HC.Offsets HC.TreeStore HC.Complete HC.UpgradeSound HC.CreateTotal HC.File
  HC.Replica HC.Growth HC.HashReq HC.Oplog HC.Core HC.OplogBytes HC.FormatLimits HC.BitfieldPages HC.Touch HC.ReplicaCrash

theorem allRef_rootsAt (C : Crypto) (bs : Array Bytes) (n : Nat) : Reopen.AllRef C bs (rootsAt C bs n) := by
  intro x hx
  obtain ⟨p, _, rfl⟩ := List.mem_map.mp hx
  exact ⟨p.1, p.2, rfl⟩

theorem truncate_sparse (C : Crypto) (bs : Array Bytes) (t : Tree) (f : File) (n fork : Nat) (hs : n < 2 ^ 64)
    (hR : ∀ p ∈ rootsStack n, t.node? f (Flat.index p.1 p.2) = some (nodeAt C bs p.1 p.2))
    (hroots : Reopen.AllRef C bs t.roots) :
    t.truncate f n fork = .ok { t.changeset with roots := rootsAt C bs n, fork := fork, length := n, ancestors := n, byteLength := psum bs n, upgraded := true } :=
  Reopen.truncate_of C bs t f n fork hs hR hroots

/-- `MerkleTree::open` on a store that holds the roots of the header's length -/
theorem openTree_sparse (C : Crypto) (bs : Array Bytes) (ht : HeaderTree) (f : File) (m : Nat) (hlen : ht.length = m) (hs : m < 2 ^ 64)
    (hR : ∀ p ∈ rootsStack m, ({} : Tree).node? f (Flat.index p.1 p.2) = some (nodeAt C bs p.1 p.2))
    (hsig : ht.signature = [] ∨ ht.signature.length = 64) :
    Tree.openTree ht f = .ok { roots := rootsAt C bs m, length := m, byteLength := psum bs m, fork := ht.fork, signature := if ht.signature.isEmpty then none else some ht.signature } :=
  Reopen.openTree_of C bs ht f m hlen hs hR hsig

theorem firstMissing_unique (b b' : Bitfield) (x y : Nat) (hb : ∀ i, b.get i = b'.get i) (h1 : FirstMissing b x) (h2 : FirstMissing b' y) :
    x = y := by
  rcases Nat.lt_trichotomy x y with h | h | h
  · have := h2.1 x h
    rw [← hb] at this
    rw [h1.2] at this; cases this
  · exact h
  · have := h1.1 y h
    rw [hb] at this
    rw [h2.2] at this; cases this

theorem updateContiguous_bits (h : Header) (b b' : Bitfield) (u : BitfieldUpdate) (hb : ∀ i, b.get i = b'.get i)
    (hc : FirstMissing b h.contiguous) (hl : 0 < u.length) :
    updateContiguous h (b.setRange u.start u.length (!u.drop)) u = updateContiguous h (b'.setRange u.start u.length (!u.drop)) u := by
  have hc' : FirstMissing b' h.contiguous := Persist.firstMissing_congr b b' _ (fun i => (hb i).symm) hc
  have s1 := updateContiguous_spec h b u hc hl
  have s2 := updateContiguous_spec h b' u hc' hl
  have hbits : ∀ i, (b.setRange u.start u.length (!u.drop)).get i = (b'.setRange u.start u.length (!u.drop)).get i := by
    intro i; rw [Bitfield.get_setRange, Bitfield.get_setRange, hb]
  have := firstMissing_unique _ _ _ _ hbits s1 s2
  rw [Core.updateContiguous_only h _ u, Core.updateContiguous_only h (b'.setRange _ _ _) u, this]

/-- a replay state matches a live core: same header, same tree, same bits -/
def Matches (st : Oplog.State × Header × Tree × Bitfield) (c : Core) : Prop :=
  st.2.1 = c.header ∧ st.2.2.1 = c.tree ∧ ∀ i, st.2.2.2.get i = c.bitfield.get i

theorem replay_block (C : Crypto) (d : Disk) (c : Core) (ol : Oplog.State) (b : Bitfield) (nodes : List Node) (i : Nat)
    (hb : ∀ j, b.get j = c.bitfield.get j) (hc : FirstMissing c.bitfield c.header.contiguous) :
    replayEntry C d (ol, c.header, c.tree, b) { treeNodes := nodes, treeUpgrade := none, bitfield := some ⟨false, i, 1⟩ }
        = .ok (ol, updateContiguous c.header (c.bitfield.setRange i 1 true) ⟨false, i, 1⟩,
            { c.tree with unflushed := insertAll c.tree.unflushed nodes }, b.setRange i 1 true)
      ∧ ∀ j, (b.setRange i 1 true).get j = (c.bitfield.setRange i 1 true).get j := by
  have hc' : FirstMissing b c.header.contiguous := Persist.firstMissing_congr c.bitfield b _ hb hc
  have hu := updateContiguous_bits c.header b c.bitfield ⟨false, i, 1⟩ hb hc' Nat.one_pos
  simp only [Bool.not_false] at hu
  refine ⟨?_, fun j => by rw [Bitfield.get_setRange, Bitfield.get_setRange, hb]⟩
  simp only [replayEntry, Reopen.foldl_addNode, Bool.not_false, hu]

theorem replay_hash (C : Crypto) (d : Disk) (c : Core) (ol : Oplog.State) (b : Bitfield) (nodes : List Node) :
    replayEntry C d (ol, c.header, c.tree, b) { treeNodes := nodes, treeUpgrade := none, bitfield := none }
      = .ok (ol, c.header, { c.tree with unflushed := insertAll c.tree.unflushed nodes }, b) := by
  simp only [replayEntry, Reopen.foldl_addNode]

/-! ### the ghost invariant and the reopen theorem -/

/-- what the replay yields over the stores `d`, entry list `es`, header `hf` of the last flush: the live core's header and
    tree exactly, and a bitfield with the live bits whose differences from the bitfield store lie on dirty pages -/
def Replays (C : Crypto) (c : Core) (d : Disk) (hf : Header) (es : List Entry) : Prop :=
  ∃ T0, Tree.openTree hf.tree d.tree = .ok T0 ∧ ∀ ol, ∃ b, openCore.replay C d es (ol, hf, T0, Bitfield.ofFile d.bitfield) = .ok (ol, c.header, c.tree, b)
    ∧ (∀ i, b.get i = c.bitfield.get i)
    ∧ (∀ i, b.get i ≠ (Bitfield.ofFile d.bitfield).get i → i / Spec.pageBits ∈ b.dirty)

/-- the ghost invariant of a replica: the oplog store stands for the header `hf` of the last flush and the entries `es`
    logged since, and replaying `es` gives the live state; the last six fields say that the live header describes the
    live tree and keys -/
structure PersistR (C : Crypto) (c : Core) (d : Disk) (hf : Header) (es : List Entry) : Prop where
  oplog : OpInv c.oplog d.oplog.toList hf es
  replay : Replays C c d hf es
  bfSize : d.bitfield.size % Spec.pageBytes = 0
  dirty : ∀ i, c.bitfield.get i ≠ (Bitfield.ofFile d.bitfield).get i → i / Spec.pageBits ∈ c.bitfield.dirty
  shape : HdrShape c.header
  hdrLen : c.header.tree.length = c.tree.length
  hdrFork : c.header.tree.fork = c.tree.fork
  hdrSig : c.tree.signature = (if c.header.tree.signature.isEmpty then none else some c.header.tree.signature)
  hdrSigLen : c.header.tree.signature = [] ∨ c.header.tree.signature.length = 64
  keys : c.header.publicKey = c.publicKey ∧ c.header.secret = c.secret

/-- the header describes the live tree and keys: the part of `PersistR` that does not speak of the stores -/
structure HdrSync (c : Core) : Prop where
  shape : HdrShape c.header
  len : c.header.tree.length = c.tree.length
  fork : c.header.tree.fork = c.tree.fork
  sig : c.tree.signature = (if c.header.tree.signature.isEmpty then none else some c.header.tree.signature)
  sigLen : c.header.tree.signature = [] ∨ c.header.tree.signature.length = 64
  keys : c.header.publicKey = c.publicKey ∧ c.header.secret = c.secret

theorem PersistR.hdrSync {C : Crypto} {c : Core} {d : Disk} {hf : Header} {es : List Entry} (hp : PersistR C c d hf es) : HdrSync c :=
  ⟨hp.shape, hp.hdrLen, hp.hdrFork, hp.hdrSig, hp.hdrSigLen, hp.keys⟩

/-- an upgrade: the header takes the new root hash, signature and length (and possibly a new hint), the tree the same
    length and signature -/
theorem HdrSync.upgrade {c c1 : Core} (hs : HdrSync c) (rh sg : Bytes) (n cc : Nat) (hrh : rh.length ≤ 32) (hsl : sg.length = 64)
    (hn : U64 n) (hcc : U64 cc)
    (hh : c1.header = { c.header with tree := { c.header.tree with rootHash := rh, signature := sg, length := n }, contiguous := cc })
    (hl : c1.tree.length = n) (hf : c1.tree.fork = c.tree.fork) (hsg : c1.tree.signature = some sg)
    (hpk : c1.publicKey = c.publicKey) (hsec : c1.secret = c.secret) : HdrSync c1 := by
  have hne : sg.isEmpty = false := by cases sg with | nil => cases hsl | cons a l => rfl
  refine ⟨?_, ?_, ?_, ?_, ?_, ?_⟩
  · rw [hh]; exact hdrShape_set c.header hs.shape rh sg n cc hrh (Nat.le_of_eq hsl) hn hcc
  · rw [hh, hl]
  · rw [hh, hf]; exact hs.fork
  · rw [hh, hsg]; show some sg = if sg.isEmpty then none else some sg; rw [hne]; rfl
  · rw [hh]; exact Or.inr hsl
  · rw [hh, hpk, hsec]; exact hs.keys

/-- **closing and reopening a replica changes nothing**: `Hypercore::new` on its stores succeeds without touching
    them, and the reopened core satisfies the replica invariant for the same log, length and held set — and the
    ghost invariant again, so it can go on -/
theorem reopen_replica (C : Crypto) (bs : Array Bytes) (m : Nat) (c : Core) (d : Disk) (held : Nat → Bool) (hf : Header) (es : List Entry)
    (hr : RepRAt C bs m c d held) (hp : PersistR C c d hf es) :
    ∃ c', openCore C none d = .ok (c', []) ∧ RepRAt C bs m c' d held ∧ PersistR C c' d hf es
      ∧ c'.publicKey = c.publicKey ∧ c'.tree = c.tree := by
  obtain ⟨ost, hopen, hbits, hebl⟩ := opinv_open c.oplog d.oplog.toList hf es hp.oplog
  obtain ⟨T0, hT0, hrep⟩ := hp.replay
  obtain ⟨b, hb1, hb2, hb3⟩ := hrep ost
  have hd1 : d.applyAll [] = d := rfl
  -- `{ b with dirty := b.dirty }` is how `openCore` spells the bitfield
  refine ⟨{ publicKey := c.header.publicKey, secret := c.header.secret, oplog := ost, header := c.header, tree := c.tree, bitfield := { b with dirty := b.dirty }, skipFlush := 0 }, ?_, ?_, ?_, hp.keys.1, rfl⟩
  · simp only [openCore, hopen, hd1, hT0, hb1]
  · exact reprAt_core hr _ rfl rfl hb2
  · refine ⟨opinv_congr c.oplog ost _ hf es hp.oplog hbits hebl, ⟨T0, hT0, fun ol => ?_⟩, hp.bfSize, hb3, hp.shape, hp.hdrLen, hp.hdrFork, hp.hdrSig, hp.hdrSigLen, ⟨rfl, rfl⟩⟩
    obtain ⟨b', e1, e2, e3⟩ := hrep ol
    exact ⟨b', e1, fun i => by rw [e2]; exact (hb2 i).symm, e3⟩

/-- the stores after a step that logs one entry: data-store operations, then the entry's frame appended to the oplog -/
theorem entryJournal_disk (d : Disk) (j0 : List SOp) (s : Oplog.State) (e : Entry) (hj0 : ∀ op ∈ j0, op.store = .data) :
    d.applyAll (j0 ++ (Oplog.appendEntry s e).2)
      = { d with data := (d.applyAll j0).data,
                 oplog := d.oplog.write (Spec.entriesOffset + s.entriesByteLength) (frame (encEntry e) s.currentBit false) } := by
  rw [Journal.applyAll_append, Oplog.appendEntry_ops, Disk.applyAll_one, Disk.apply_write, Journal.applyAll_only hj0]
  rfl

/-- **logging one entry keeps the ghost invariant**, provided replaying the entry on the live state gives the new
    live state; the step's journal is the entry's frame, after operations that leave oplog, tree and bitfield
    stores alone (the block's data write) -/
theorem persist_entry (C : Crypto) (c c1 : Core) (d : Disk) (hf : Header) (es : List Entry) (e : Entry) (j0 : List SOp)
    (hp : PersistR C c d hf es) (he : EntryOK e)
    (hj0 : ∀ op ∈ j0, op.store = .data)
    (hol : c1.oplog = (Oplog.appendEntry c.oplog e).1)
    (hre : ∀ ol b, (∀ i, b.get i = c.bitfield.get i) → (∀ i, b.get i ≠ (Bitfield.ofFile d.bitfield).get i → i / Spec.pageBits ∈ b.dirty) →
      ∃ b', replayEntry C d (ol, c.header, c.tree, b) e = .ok (ol, c1.header, c1.tree, b') ∧ (∀ i, b'.get i = c1.bitfield.get i)
        ∧ (∀ i, b'.get i ≠ (Bitfield.ofFile d.bitfield).get i → i / Spec.pageBits ∈ b'.dirty))
    (hdirty : ∀ i, c1.bitfield.get i ≠ (Bitfield.ofFile d.bitfield).get i → i / Spec.pageBits ∈ c1.bitfield.dirty)
    (hshape : HdrShape c1.header) (h1 : c1.header.tree.length = c1.tree.length) (h2 : c1.header.tree.fork = c1.tree.fork)
    (h3 : c1.tree.signature = (if c1.header.tree.signature.isEmpty then none else some c1.header.tree.signature))
    (h4 : c1.header.tree.signature = [] ∨ c1.header.tree.signature.length = 64)
    (hk : c1.header.publicKey = c1.publicKey ∧ c1.header.secret = c1.secret) :
    PersistR C c1 (d.applyAll (j0 ++ (Oplog.appendEntry c.oplog e).2)) hf (es ++ [e]) := by
  -- the tree and bitfield stores are those of `d`
  rw [entryJournal_disk d j0 c.oplog e hj0]
  obtain ⟨T0, hT0, hrep⟩ := hp.replay
  refine ⟨hol ▸ opinv_append c.oplog d.oplog hf es e hp.oplog he, ⟨T0, hT0, fun ol => ?_⟩, hp.bfSize, hdirty, hshape, h1, h2, h3, h4, hk⟩
  obtain ⟨b, e1, e2, e3⟩ := hrep ol
  obtain ⟨b', f1, f2, f3⟩ := hre ol b e2 e3
  refine ⟨b', (replay_congr C d _ ?_ _ _).trans ?_, f2, f3⟩
  · rfl
  · rw [replay_append, e1]
    exact f1

def SetOnly (es : List Entry) : Prop := ∀ e ∈ es, ∀ u, e.bitfield = some u → u.drop = false

/-- the entries only set bits; the header's hint was exact for some set of bits `B0` that the bitfield store contains
    and that, together with the entries, covers the live bits; the tree store and the unflushed map hold reference
    nodes only; the roots of the header's length are in the tree store -/
structure Extra (C : Crypto) (bs : Array Bytes) (c : Core) (d : Disk) (hf : Header) (es : List Entry) : Prop where
  setOnly : SetOnly es
  ghost : ∃ B0 : Nat → Bool, ((∀ i, i < hf.contiguous → B0 i = true) ∧ B0 hf.contiguous = false)
    ∧ (∀ i, B0 i = true → (Bitfield.ofFile d.bitfield).get i = true)
    ∧ (∀ i, c.bitfield.get i = true → B0 i = true ∨ ∃ e ∈ es, Touches e i)
  fileRef : ∀ i n, ({} : Tree).node? d.tree i = some n → ∃ dd o, i = Flat.index dd o ∧ n = nodeAt C bs dd o
  unflRef : ∀ i n, c.tree.unflushed[i]? = some n → ∃ dd o, i = Flat.index dd o ∧ n = nodeAt C bs dd o
  rootsStored : ∃ m0, hf.tree.length = m0 ∧ m0 < 2 ^ 64
    ∧ ∀ p ∈ rootsStack m0, ({} : Tree).node? d.tree (Flat.index p.1 p.2) = some (nodeAt C bs p.1 p.2)

theorem extra_entry (C : Crypto) (bs : Array Bytes) (c c1 : Core) (d d1 : Disk) (hf : Header) (es : List Entry) (e : Entry)
    (hx : Extra C bs c d hf es) (ht : d1.tree = d.tree) (hb : d1.bitfield = d.bitfield)
    (hset : ∀ u, e.bitfield = some u → u.drop = false)
    (hbits : ∀ i, c1.bitfield.get i = true → c.bitfield.get i = true ∨ Touches e i)
    (hunfl : c1.tree.unflushed = insertAll c.tree.unflushed e.treeNodes)
    (href : ∀ n ∈ e.treeNodes, ∃ dd o, n = nodeAt C bs dd o) :
    Extra C bs c1 d1 hf (es ++ [e]) := by
  obtain ⟨B0, g1, g2, g3⟩ := hx.ghost
  refine ⟨?_, ⟨B0, g1, by rw [hb]; exact g2, ?_⟩, by rw [ht]; exact hx.fileRef, ?_, by rw [ht]; exact hx.rootsStored⟩
  · intro x hxm u hu
    rcases List.mem_append.mp hxm with h | h
    · exact hx.setOnly x h u hu
    · simp only [List.mem_singleton] at h; subst h; exact hset u hu
  · intro i hi
    rcases hbits i hi with h | h
    · rcases g3 i h with h' | ⟨x, hxm, hxt⟩
      · exact Or.inl h'
      · exact Or.inr ⟨x, List.mem_append.mpr (Or.inl hxm), hxt⟩
    · exact Or.inr ⟨e, List.mem_append_right _ (List.mem_singleton.mpr rfl), h⟩
  · intro i n hn
    rw [hunfl] at hn
    by_cases hex : ∃ x ∈ e.treeNodes, x.index = i
    · obtain ⟨x, hxm, hxi, hget⟩ := insertAll_hit e.treeNodes c.tree.unflushed i hex
      rw [hget] at hn
      have hnx : n = x := (Option.some.inj hn).symm
      obtain ⟨dd, o, hxe⟩ := href x hxm
      refine ⟨dd, o, ?_, by rw [hnx, hxe]⟩
      rw [← hxi, hxe]; rfl
    · rw [insertAll_miss e.treeNodes c.tree.unflushed i (fun x hxm hxi => hex ⟨x, hxm, hxi⟩)] at hn
      exact hx.unflRef i n hn

theorem flushed_lookup (c : Core) (d : Disk) (ct : Bool) (hwf : MapWF c.tree.unflushed) (hal : d.tree.size % 40 = 0) (i : Nat) :
    ({} : Tree).node? (d.applyAll (c.flushAll ct).2).tree i = c.tree.node? d.tree i := by
  rw [(Crash.flushAll_stores c d ct).1]
  exact (flushList_lookup c.tree d.tree hwf hal).1 i

/-- **a periodic flush that is due re-establishes the ghost invariant from scratch**: the flushed header is the current
    one and no entries are left; the roots of the current length are readable from the new tree store -/
theorem persist_flushAll (C : Crypto) (bs : Array Bytes) (m : Nat) (c : Core) (d : Disk) (held : Nat → Bool) (hf : Header) (es : List Entry)
    (hr : RepRAt C bs m c d held) (hp : PersistR C c d hf es) (hdue : c.skipFlush = 0 ∨ c.oplog.entriesByteLength ≥ Spec.maxEntriesBytes) :
    PersistR C c.maybeFlush.1 (d.applyAll (c.flushAll false).2) c.header []
      ∧ Extra C bs c.maybeFlush.1 (d.applyAll (c.flushAll false).2) c.header [] := by
  have hlook := flushed_lookup c d false hr.mapwf hr.aligned
  obtain ⟨_, hbfile, hofile⟩ := Crash.flushAll_stores c d false
  obtain ⟨g1, g2⟩ := flush_bits c.bitfield d.bitfield hp.bfSize hp.dirty
  have hR : ∀ p ∈ rootsStack m, ({} : Tree).node? (d.applyAll (c.flushAll false).2).tree (Flat.index p.1 p.2) = some (nodeAt C bs p.1 p.2) :=
    fun p hp' => by rw [hlook]; exact hr.closed.sparse.roots p hp'
  have hm64 : m < 2 ^ 64 := Nat.lt_of_le_of_lt hr.le hr.small.1
  have hlen : c.header.tree.length = m := by rw [hp.hdrLen]; exact hr.closed.sparse.length
  have hopen := openTree_sparse C bs c.header.tree _ m hlen hm64 hR hp.hdrSigLen
  have hT : ({ roots := rootsAt C bs m, length := m, byteLength := psum bs m, fork := c.header.tree.fork, signature := if c.header.tree.signature.isEmpty then none else some c.header.tree.signature } : Tree)
      = { c.tree with unflushed := {} } := by
    rw [← hr.roots, ← hr.bytes, ← hr.closed.sparse.length, hp.hdrFork, ← hp.hdrSig]
  rw [Core.maybeFlush_flush c hdue, Core.flushAll_fst]
  constructor
  · refine ⟨?_, ⟨_, hopen, fun ol => ?_⟩, by rw [hbfile]; exact g2, ?_, hp.shape, hp.hdrLen, hp.hdrFork, hp.hdrSig,
      hp.hdrSigLen, hp.keys⟩
    · rw [hofile]
      exact opinv_flush c.oplog d.oplog hf es c.header hp.oplog (headerOK_of_shape _ hp.shape)
    · refine ⟨Bitfield.ofFile (writePages c.bitfield d.bitfield c.bitfield.dirty), ?_, g1, fun i hne => (by rw [hbfile] at hne; exact absurd rfl hne)⟩
      rw [hbfile, hT]
      rfl
    · intro i hne
      rw [hbfile, g1 i] at hne
      exact absurd rfl hne
  · refine ⟨fun x hxm => (by cases hxm), ⟨fun i => c.bitfield.get i, hr.contig, fun i hi => (by rw [hbfile, g1 i]; exact hi), fun i hi => Or.inl hi⟩,
      ?_, ?_, ⟨m, hlen, hm64, hR⟩⟩
    · intro i n hn
      rw [hlook] at hn
      obtain ⟨dd, o, e1, e2, _⟩ := hr.closed.sparse.sound i n hn
      exact ⟨dd, o, e1, e2⟩
    · intro i n hn
      cases Std.HashMap.getElem?_empty.symm.trans hn

/-- **the periodic flush keeps the ghost invariant** (with the current header and no entries when it flushes) -/
theorem persist_maybeFlush (C : Crypto) (bs : Array Bytes) (m : Nat) (c : Core) (d : Disk) (held : Nat → Bool) (hf : Header) (es : List Entry)
    (hr : RepRAt C bs m c d held) (hp : PersistR C c d hf es) (hx : Extra C bs c d hf es) :
    ∃ hf' es', PersistR C c.maybeFlush.1 (d.applyAll c.maybeFlush.2) hf' es' ∧ Extra C bs c.maybeFlush.1 (d.applyAll c.maybeFlush.2) hf' es' := by
  by_cases hfl : c.skipFlush = 0 ∨ c.oplog.entriesByteLength ≥ Spec.maxEntriesBytes
  · rw [Crash.maybeFlush_snd, if_pos hfl]
    exact ⟨c.header, [], persist_flushAll C bs m c d held hf es hr hp hfl⟩
  · rw [Core.maybeFlush_skip c hfl]
    -- the core differs in `skipFlush`, of which neither invariant speaks
    exact ⟨hf, es, ⟨hp.oplog, hp.replay, hp.bfSize, hp.dirty, hp.shape, hp.hdrLen, hp.hdrFork, hp.hdrSig, hp.hdrSigLen, hp.keys⟩,
      ⟨hx.setOnly, hx.ghost, hx.fileRef, hx.unflRef, hx.rootsStored⟩⟩

theorem refNodes_wf (C : Crypto) (hC : HashWF C) (bs : Array Bytes) (hs : bs.size < 2 ^ 62) (hp : psum bs bs.size < 2 ^ 64) (l : List Node)
    (hl : ∀ x ∈ l, ∃ d o, x = nodeAt C bs d o ∧ (o + 1) * 2 ^ d ≤ bs.size) (hcount : l.length ≤ 2 ^ 22) : NodesWF l := by
  refine ⟨Nat.lt_of_le_of_lt hcount (by decide), fun x hx => ?_⟩
  obtain ⟨d, o, rfl, hb⟩ := hl x hx
  refine ⟨?_, ?_, nodeAt_hash_len C hC bs d o⟩
  · -- the index is below twice the log's size
    exact Nat.lt_trans (UpgradeComplete.pos_index_lt d o bs.size hb) (Nat.mul_lt_mul_of_pos_left hs (by decide) |>.trans_le (by decide))
  · exact Nat.lt_of_le_of_lt (Nat.le_trans (nodeAt_length_le C bs d o) (psum_mono bs hb)) hp

/-- `2 ^ 22` nodes at 50 bytes each stay below the `2 ^ 30` bytes of `EntryOK`; the callers carry a few hundred at most -/
theorem entry_ok (nodes : List Node) (up : Option TreeUpgrade) (bf : Option BitfieldUpdate) (hn : NodesWF nodes) (hcount : nodes.length ≤ 2 ^ 22)
    (hup : ∀ u, up = some u → U64 u.fork ∧ U64 u.ancestors ∧ U64 u.length ∧ u.signature.length = 64)
    (hbf : ∀ b, bf = some b → U64 b.start ∧ U64 b.length) :
    EntryOK { treeNodes := nodes, treeUpgrade := up, bitfield := bf } := by
  have hu64 : U64 0 := by unfold U64; omega
  refine ⟨⟨⟨hu64, fun b hb => by cases hb⟩, hn, ?_, hbf⟩, ?_⟩
  · intro u hu
    obtain ⟨a1, a2, a3, a4⟩ := hup u hu
    exact ⟨a1, a2, a3, by rw [a4]; decide⟩
  · -- each section, written or not, is no longer than its full encoding
    have e1 : (if nodes.isEmpty then [] else encNodes nodes).length ≤ 9 + 50 * nodes.length :=
      Nat.le_trans (by split; exact Nat.zero_le _; exact Nat.le_refl _) (encNodes_le nodes hn)
    have e2 : (up.elim [] encTreeUpgrade).length ≤ 100 := by
      cases up with
      | none => exact Nat.zero_le _
      | some u => exact encTreeUpgrade_le u (Nat.le_of_eq (hup u rfl).2.2.2)
    have e3 : (bf.elim [] encBitfieldUpdate).length ≤ 19 := by
      cases bf with
      | none => exact Nat.zero_le _
      | some b => exact encBitfieldUpdate_le b
    have hsum : (encEntry { treeNodes := nodes, treeUpgrade := up, bitfield := bf }).length ≤ 1 + (9 + 50 * nodes.length) + 100 + 19 := by
      simp only [encEntry, List.length_append, List.length_cons, List.length_nil, List.isEmpty_nil, ite_true]
      cases up <;> cases bf <;> exact Nat.add_le_add (Nat.add_le_add (Nat.add_le_add (Nat.le_refl _) e1) e2) e3
    exact Nat.lt_of_le_of_lt hsum (Nat.lt_of_le_of_lt
      (Nat.add_le_add_right (Nat.add_le_add_right (Nat.add_le_add_left (Nat.add_le_add_left (Nat.mul_le_mul_left 50 hcount) 9) 1) 100) 19)
      (by decide))

/-! ### both invariants along the replica's history -/

structure RP (C : Crypto) (bs : Array Bytes) (m : Nat) (c : Core) (d : Disk) (held : Nat → Bool) : Prop where
  rep : RepRAt C bs m c d held
  per : ∃ hf es, PersistR C c d hf es ∧ Extra C bs c d hf es
  size : bs.size < 2 ^ 62

/-- what an exchange step establishes: the step logs one entry `e` (after data-store operations `j0`), reaches the
    core `c1`, and then runs the periodic flush -/
structure StepOK (C : Crypto) (bs : Array Bytes) (m m' : Nat) (c c1 : Core) (d : Disk) (held held' : Nat → Bool) (st : Step Bool)
    (e : Entry) (j0 : List SOp) : Prop where
  shape : st.core = c1.maybeFlush.1 ∧ st.journal = (j0 ++ (Oplog.appendEntry c.oplog e).2) ++ c1.maybeFlush.2
  rep1 : RepRAt C bs m' c1 (d.applyAll (j0 ++ (Oplog.appendEntry c.oplog e).2)) held'
  per1 : ∀ hf es, PersistR C c d hf es → PersistR C c1 (d.applyAll (j0 ++ (Oplog.appendEntry c.oplog e).2)) hf (es ++ [e])
  j0data : ∀ op ∈ j0, op.store = .data
  set : ∀ u, e.bitfield = some u → u.drop = false
  bits : ∀ i, c1.bitfield.get i = true → c.bitfield.get i = true ∨ Touches e i
  unfl : c1.tree.unflushed = insertAll c.tree.unflushed e.treeNodes
  ref : ∀ n ∈ e.treeNodes, ∃ dd o, n = nodeAt C bs dd o
  result : st.result = .ok true
  keep : c1.publicKey = c.publicKey ∧ c1.tree.fork = c.tree.fork
  -- the replica invariant along `j0`, whole or with a write torn: for `ReplicaCrash.crash_ok` and `torn_ok`
  pre : ∀ k, RepRAt C bs m c (d.applyAll (j0.take k)) held
  tornData : ∀ op ∈ j0, ∃ off bytes, op = SOp.write .data off bytes ∧ ∀ t, RepRAt C bs m c (d.apply (SOp.write .data off (bytes.take t))) held

theorem ok_mid (C : Crypto) (bs : Array Bytes) (m m' : Nat) (c c1 : Core) (d : Disk) (held held' : Nat → Bool) (st : Step Bool)
    (e : Entry) (j0 : List SOp) (h : RP C bs m c d held) (hok : StepOK C bs m m' c c1 d held held' st e j0) :
    RP C bs m' c1 (d.applyAll (j0 ++ (Oplog.appendEntry c.oplog e).2)) held' := by
  obtain ⟨hf, es, hp, hx⟩ := h.per
  have hp1 := hok.per1 hf es hp
  have hd := entryJournal_disk d j0 c.oplog e hok.j0data
  have hx1 := extra_entry C bs c c1 d (d.applyAll (j0 ++ (Oplog.appendEntry c.oplog e).2)) hf es e hx (by rw [hd]) (by rw [hd]) hok.set hok.bits hok.unfl hok.ref
  exact ⟨hok.rep1, ⟨hf, es ++ [e], hp1, hx1⟩, h.size⟩

theorem rp_of_ok (C : Crypto) (bs : Array Bytes) (m m' : Nat) (c c1 : Core) (d : Disk) (held held' : Nat → Bool) (st : Step Bool)
    (e : Entry) (j0 : List SOp) (h : RP C bs m c d held) (hok : StepOK C bs m m' c c1 d held held' st e j0) :
    st.result = .ok true ∧ RP C bs m' st.core (d.applyAll st.journal) held' ∧ st.core.publicKey = c.publicKey ∧ st.core.tree.fork = c.tree.fork := by
  have hmid := ok_mid C bs m m' c c1 d held held' st e j0 h hok
  obtain ⟨hf1, es1, hp1, hx1⟩ := hmid.per
  refine ⟨hok.result, ?_, by rw [hok.shape.1, Core.maybeFlush_publicKey, hok.keep.1], by rw [hok.shape.1, Core.maybeFlush_fork, hok.keep.2]⟩
  rw [hok.shape.1, hok.shape.2, Journal.applyAll_append]
  exact ⟨maybeFlush_reprAt C bs m' _ _ _ hmid.rep, persist_maybeFlush C bs m' c1 _ held' hf1 es1 hmid.rep hp1 hx1, h.size⟩

/-- **closing and reopening keeps both invariants** -/
theorem rp_reopen (C : Crypto) (bs : Array Bytes) (m : Nat) (c : Core) (d : Disk) (held : Nat → Bool) (h : RP C bs m c d held) :
    ∃ c', openCore C none d = .ok (c', []) ∧ RP C bs m c' d held ∧ c'.publicKey = c.publicKey ∧ c'.tree = c.tree := by
  obtain ⟨hf, es, hp, hx⟩ := h.per
  obtain ⟨c', h1, h2, h3, h4, h5⟩ := reopen_replica C bs m c d held hf es h.rep hp
  obtain ⟨B0, g1, g2, g3⟩ := hx.ghost
  exact ⟨c', h1, ⟨h2, ⟨hf, es, h3, ⟨hx.setOnly, ⟨B0, g1, g2, (fun i hi => g3 i (by rw [h.rep.bits i, ← h2.bits i]; exact hi))⟩,
    hx.fileRef, by rw [h5]; exact hx.unflRef, hx.rootsStored⟩⟩, h.size⟩, h4, h5⟩

theorem contig_le_at (C : Crypto) (bs : Array Bytes) (m : Nat) (c : Core) (d : Disk) (held : Nat → Bool) (h : RepRAt C bs m c d held) :
    c.header.contiguous ≤ m :=
  Reopen.contig_le_of c.bitfield c.header.contiguous m h.contig (fun i hi => h.heldLt i (by rw [← h.bits]; exact hi))

/-! ### every accepted proof is an exchange step -/

theorem updateContiguous_tree (h : Header) (T : HeaderTree) (b : Bitfield) (u : BitfieldUpdate) :
    updateContiguous { h with tree := T } b u = { updateContiguous h b u with tree := T } := by
  rw [updateContiguous_eq_with, updateContiguous_eq_with]

/-- **the tree part of replaying the entry of a changeset is its commit** `tr`: the nodes go into the unflushed map; for an
    upgrade, `truncate` looks up the roots of the new length, which `tr` stores, and commits them with the logged signature -/
theorem treePart_entryOf (C : Crypto) {bs : Array Bytes} {n : Nat} (d : Disk) {t tr : Tree} {cs : Changeset} (bu : Option BitfieldUpdate)
    (h : Header) (hplain : cs.upgraded = false → tr = { t with unflushed := insertAll t.unflushed cs.nodes })
    (hupg : cs.upgraded = true →
      tr = { roots := cs.roots, length := cs.length, byteLength := cs.byteLength, fork := cs.fork, signature := cs.signature,
             unflushed := insertAll t.unflushed cs.nodes }
      ∧ ∃ sig, sig.length = 64 ∧ cs.signature = some sig ∧ cs.hash = some (rootsHash C cs.roots) ∧ t.length ≤ cs.ancestors)
    (hn : n < 2 ^ 64) (hroots : tr.roots = rootsAt C bs n) (hlen : tr.length = n) (hbytes : tr.byteLength = psum bs n)
    (hR : ∀ p ∈ rootsStack n, tr.node? d.tree (Flat.index p.1 p.2) = some (nodeAt C bs p.1 p.2))
    (hcur : Reopen.AllRef C bs t.roots) :
    treePart C d t (entryOf cs bu h).1 = .ok (tr, fun h' => (entryOf cs none h').2) := by
  cases hu : cs.upgraded with
  | false =>
    have hf : (fun h' => (entryOf cs none h').2) = id := funext fun h' => by rw [entryOf_not_upgraded cs none h' hu]; rfl
    rw [entryOf_not_upgraded cs bu h hu, treePart_none C d t _ rfl, Reopen.foldl_addNode, hf, hplain hu]
  | true =>
    obtain ⟨htr, sig, hsl, hsg, hhash, hanc⟩ := hupg hu
    subst htr
    rw [entryOf_upgraded cs bu h hu, treePart_some C d t _ _ rfl]
    dsimp only at hroots hlen hbytes ⊢
    rw [Reopen.foldl_addNode]
    generalize ht' : ({ t with unflushed := insertAll t.unflushed cs.nodes } : Tree) = t'
    have hR' : ∀ p ∈ rootsStack n, t'.node? d.tree (Flat.index p.1 p.2) = some (nodeAt C bs p.1 p.2) := fun p hp => by
      rw [← hR p hp]; exact node?_congr _ _ _ _ (by rw [← ht'])
    rw [hlen, truncate_sparse C bs t' d.tree n cs.fork hn hR' (by rw [← ht']; exact hcur), ok_andThen, hsg]
    simp only [Option.getD_some, hsl, ne_eq, not_true_eq_false, ite_false]
    rw [Tree.commit_upgrade t' _ (Tree.commitable_of_orig t' _ rfl rfl) rfl (by show t'.length ≤ cs.ancestors; rw [← ht']; exact hanc),
      ok_andThen]
    -- both trees and both header functions are the same, field by field
    refine congrArg Except.ok (Prod.ext ?_ (funext fun h' => ?_))
    · simp only [← ht', hroots, hbytes, Tree.changeset, Changeset.nodes, List.reverse_nil]
      rfl
    · dsimp only
      rw [entryOf_upgraded _ none h' rfl, entryOf_upgraded cs none h' hu, hsg, hhash, hroots, hlen]

/-- setting the header's tree section (what `entryOf` does) and moving the hint (what `updateContiguous` does) commute -/
theorem entryOf_updateContiguous (cs : Changeset) (bf : Option BitfieldUpdate) (h : Header) (b : Bitfield) (u : BitfieldUpdate) :
    (entryOf cs none (updateContiguous h b u)).2 = updateContiguous (entryOf cs bf h).2 b u := by
  cases hu : cs.upgraded with
  | false => rw [entryOf_not_upgraded cs none _ hu, entryOf_not_upgraded cs bf h hu]
  | true =>
    rw [entryOf_upgraded cs none _ hu, entryOf_upgraded cs bf h hu]
    dsimp only
    rw [updateContiguous_tree_eq]
    exact (updateContiguous_tree ..).symm

/-- **the entry of an accepted proof replays to the core the live call reached**: the tree part is the commit
    (`treePart_entryOf`); the bit part sets the same bit over a bit-equal bitfield and so moves the hint alike -/
theorem replay_of_treePart (C : Crypto) (d : Disk) {c : Core} {cs : Changeset} {tr : Tree} (blk : Option Nat) (ol : Oplog.State) {b : Bitfield}
    (htp : treePart C d c.tree (entryOf cs (buOf blk) c.header).1 = .ok (tr, fun h' => (entryOf cs none h').2))
    (hb : ∀ j, b.get j = c.bitfield.get j) (hc : FirstMissing c.bitfield c.header.contiguous) :
    replayEntry C d (ol, c.header, c.tree, b) (entryOf cs (buOf blk) c.header).1
      = .ok (ol, (afterApply c cs (buOf blk) tr).header, tr, bitOf (entryOf cs (buOf blk) c.header).1 b) := by
  rw [replayEntry_eq, htp]
  unfold hintOf
  rw [entryOf_bitfield]
  cases blk with
  | none => rfl
  | some i =>
    have hu := updateContiguous_bits c.header b c.bitfield ⟨false, i, 1⟩ hb (Persist.firstMissing_congr c.bitfield b _ hb hc) Nat.one_pos
    simp only [Bool.not_false] at hu
    simp only [buOf, Bool.not_false, hu, entryOf_updateContiguous cs (some ⟨false, i, 1⟩)]
    rfl

theorem bitOf_entryOf (cs : Changeset) (blk : Option Nat) (h : Header) (b : Bitfield) :
    bitOf (entryOf cs (buOf blk) h).1 b = (match blk with | none => b | some i => b.setRange i 1 true) := by
  unfold bitOf
  rw [entryOf_bitfield]
  cases blk <;> rfl

/-- the entry fits the log format: few nodes, all reference nodes of the log; `u64` fork, lengths and block index -/
theorem entryOK_entryOf (C : Crypto) (hC : HashWF C) {bs : Array Bytes} (hs : bs.size < 2 ^ 62) (hps : psum bs bs.size < 2 ^ 64) {cs : Changeset}
    (blk : Option Nat) (h : Header) (href : ∀ x ∈ cs.nodes, ∃ dd o, x = nodeAt C bs dd o ∧ (o + 1) * 2 ^ dd ≤ bs.size)
    (hcount : cs.nodes.length ≤ 2 ^ 22) (hblk : ∀ i ∈ blk, U64 i)
    (hup : cs.upgraded = true → U64 cs.fork ∧ U64 cs.ancestors ∧ U64 cs.length ∧ (cs.signature.getD []).length = 64) :
    EntryOK (entryOf cs (buOf blk) h).1 := by
  have hw := refNodes_wf C hC bs hs hps cs.nodes href hcount
  have hbf : ∀ b, buOf blk = some b → U64 b.start ∧ U64 b.length := fun b hb => by
    cases blk with
    | none => cases hb
    | some i => cases hb; exact ⟨hblk i rfl, (by decide : U64 1)⟩
  unfold entryOf
  split
  · rename_i hu
    exact entry_ok _ _ _ hw hcount (fun u hu' => by cases hu'; exact hup hu) hbf
  · exact entry_ok _ _ _ hw hcount nofun hbf

/-- the header the step leaves describes the tree it leaves -/
theorem hdrSync_afterApply {c : Core} {cs : Changeset} {tr : Tree} (blk : Option Nat) (hs : HdrSync c) (hcommit : c.tree.commit cs = .ok tr)
    (hfork : tr.fork = c.tree.fork) (hlen : U64 tr.length) (hcc : U64 (afterApply c cs (buOf blk) tr).header.contiguous)
    (hsig : cs.upgraded = true → ∃ sig, sig.length = 64 ∧ cs.signature = some sig ∧ (cs.hash.getD []).length ≤ 32) :
    HdrSync (afterApply c cs (buOf blk) tr) := by
  -- of the header that `entryOf` gives, the step moves the hint only
  have hh : (afterApply c cs (buOf blk) tr).header
      = { (entryOf cs (buOf blk) c.header).2 with contiguous := (afterApply c cs (buOf blk) tr).header.contiguous } := by
    cases blk with
    | none => rfl
    | some i => exact updateContiguous_only (entryOf cs (some ⟨false, i, 1⟩) c.header).2 (c.bitfield.setRange i 1 true) ⟨false, i, 1⟩
  generalize (afterApply c cs (buOf blk) tr).header.contiguous = cc at hh hcc
  cases hu : cs.upgraded with
  | false =>
    rw [entryOf_not_upgraded cs _ c.header hu] at hh
    have ht : (afterApply c cs (buOf blk) tr).tree = { c.tree with unflushed := insertAll c.tree.unflushed cs.nodes } :=
      Tree.commit_not_upgraded hcommit hu
    exact ⟨hh ▸ hdrShape_contig c.header hs.shape cc hcc, by rw [hh, ht]; exact hs.len, by rw [hh, ht]; exact hs.fork,
      by rw [hh, ht]; exact hs.sig, by rw [hh]; exact hs.sigLen, by rw [hh]; exact hs.keys⟩
  | true =>
    obtain ⟨sig, hsl, hsg, hrh⟩ := hsig hu
    have ht := Tree.commit_upgraded hcommit hu
    rw [entryOf_upgraded cs _ c.header hu, hsg] at hh
    exact hs.upgrade _ sig cs.length cc hrh hsl (by rw [ht] at hlen; exact hlen) hcc hh (by rw [show (afterApply c cs (buOf blk) tr).tree = tr from rfl, ht])
      hfork (by rw [show (afterApply c cs (buOf blk) tr).tree = tr from rfl, ht]; exact hsg) rfl rfl

/-- **every accepted proof is an exchange step that keeps both invariants**: the step and the replica invariant are
    `Accepts.step`; the ghost invariant holds again because the entry fits the format (`entryOK_entryOf`), replays to the core
    reached (`treePart_entryOf`, `replay_of_treePart`) and leaves a header that describes the tree (`hdrSync_afterApply`);
    the data store is written, whole or torn, where nothing the replica holds lies (`reprAt_data_write_prefix`) -/
theorem _root_.HC.Growth.Accepts.stepOK {C : Crypto} (hC : HashWF C) {bs : Array Bytes} {m n : Nat} {c : Core} {d : Disk} {held : Nat → Bool}
    {p : Proof} {cs : Changeset} {tr : Tree} {blk : Option Nat} (h : RP C bs m c d held) (hmn : m ≤ n) (hn : n ≤ bs.size)
    (a : Accepts C bs n c d p cs tr blk) (l : Loggable C c cs) (hT : cs.upgraded = true → TreeWF C) :
    StepOK C bs m n c (afterApply c cs (buOf blk) tr) d held (heldWith held blk) (c.verifyAndApply C d p)
      (entryOf cs (buOf blk) c.header).1 (dataOf bs blk) := by
  have hr := h.rep
  obtain ⟨hshape, hrep1⟩ := a.step hC hr hmn hn
  have hN : U64 n := Nat.lt_of_le_of_lt hn hr.small.1
  have hlen : tr.length = n := a.closed.sparse.length
  have hdata : ∀ op ∈ dataOf bs blk, op.store = .data := fun op hop => by
    cases blk with
    | none => cases hop
    | some i => rw [List.mem_singleton.mp hop]; rfl
  have htree : (d.applyAll (dataOf bs blk ++ (Oplog.appendEntry c.oplog (entryOf cs (buOf blk) c.header).1).2)).tree = d.tree := by
    rw [entryJournal_disk d _ _ _ hdata]
  have hblk : ∀ i ∈ blk, U64 i := fun i hi => Nat.lt_trans (a.leaf i hi).1 hN
  exact {
    shape := by rw [hshape]; exact ⟨rfl, rfl⟩
    rep1 := hrep1
    per1 := fun hf es hp => by
      have hsync := hdrSync_afterApply blk hp.hdrSync a.commit a.treeFork (by rw [hlen]; exact hN)
        (Nat.lt_of_le_of_lt (contig_le_at C bs n _ _ _ hrep1) hN) (fun hu => by
          obtain ⟨sig, hsl, hsg, hhash, _⟩ := l.signed hu
          exact ⟨sig, hsl, hsg, by rw [hhash, Option.getD_some, rootsHash, hT hu]⟩)
      refine persist_entry C c _ d hf es _ _ hp ?_ hdata rfl (fun ol b hb1 hb2 => ⟨_, replay_of_treePart C d blk ol ?_ hb1 hr.contig, ?_, ?_⟩) ?_
        hsync.shape hsync.len hsync.fork hsync.sig hsync.sigLen hsync.keys
      · refine entryOK_entryOf C hC h.size hr.small.2 blk c.header
          (fun x hx => by obtain ⟨dd, o, e, hb⟩ := a.nodesRef x hx; exact ⟨dd, o, e, Nat.le_trans hb hn⟩) l.count hblk fun hu => ?_
        obtain ⟨sig, hsl, hsg, _, hanc⟩ := l.signed hu
        have ht := Tree.commit_upgraded a.commit hu
        refine ⟨?_, ?_, ?_, by rw [hsg]; exact hsl⟩
        · rw [show cs.fork = tr.fork by rw [ht], a.treeFork, ← hp.hdrFork]; exact hp.shape.fork
        · rw [hanc, hr.closed.sparse.length]; exact Nat.lt_of_le_of_lt hr.le hr.small.1
        · rw [show cs.length = tr.length by rw [ht], hlen]; exact hN
      · exact treePart_entryOf C d _ _ (fun hu => Tree.commit_not_upgraded a.commit hu)
          (fun hu => by
            obtain ⟨sig, hsl, hsg, hhash, hanc⟩ := l.signed hu
            exact ⟨Tree.commit_upgraded a.commit hu, sig, hsl, hsg, hhash, Nat.le_of_eq hanc.symm⟩)
          hN a.roots hlen a.bytes (fun q hq => by rw [← htree]; exact hrep1.closed.sparse.roots q hq)
          (by rw [hr.roots]; exact allRef_rootsAt C bs m)
      · intro j
        rw [bitOf_entryOf]
        cases blk with
        | none => exact hb1 j
        | some i => show (b.setRange i 1 true).get j = (c.bitfield.setRange i 1 true).get j; rw [Bitfield.get_setRange, Bitfield.get_setRange, hb1]
      · rw [bitOf_entryOf]
        cases blk with
        | none => exact hb2
        | some i => exact dirty_setRange b d.bitfield i 1 true hb2
      · cases blk with
        | none => exact hp.dirty
        | some i => exact dirty_setRange c.bitfield d.bitfield i 1 true hp.dirty
    j0data := hdata
    set := fun u hu => by
      rw [entryOf_bitfield] at hu
      cases blk <;> cases hu
      rfl
    bits := fun j hj => by
      cases blk with
      | none => exact Or.inl hj
      | some i =>
        rw [show (afterApply c cs (buOf (some i)) tr).bitfield = c.bitfield.setRange i 1 true from rfl, Bitfield.get_setRange] at hj
        split at hj
        · rename_i hin
          exact Or.inr ⟨⟨false, i, 1⟩, entryOf_bitfield .., hin.1, hin.2⟩
        · exact Or.inl hj
    unfl := by rw [entryOf_treeNodes]; exact Tree.commit_unflushed a.commit
    ref := fun x hx => a.refs x (by rw [entryOf_treeNodes] at hx; exact hx)
    result := by rw [hshape]
    keep := ⟨rfl, a.treeFork⟩
    pre := fun k => by
      cases blk with
      | none => rw [show (dataOf bs none).take k = [] from List.take_nil]; exact hr
      | some i =>
        cases k with
        | zero => exact hr
        | succ k =>
          rw [show (dataOf bs (some i)).take (k + 1) = dataOf bs (some i) by rw [dataOf, List.take_succ_cons, List.take_nil]]
          exact reprAt_data_write C bs m c d held hr i
    tornData := fun op hop => by
      cases blk with
      | none => cases hop
      | some i => exact ⟨_, _, List.mem_singleton.mp hop, fun t => reprAt_data_write_prefix C bs m c d held hr i t⟩ }

/-- **a block exchange keeps both invariants** -/
theorem block_ok (C : Crypto) (hC : HashWF C) (bs : Array Bytes) (m : Nat) (c : Core) (d : Disk) (held : Nat → Bool) (h : RP C bs m c d held)
    (i : Nat) (hi : i < m) :
    ∃ c1 e j0, StepOK C bs m m c c1 d held (fun j => held j || j == i) (c.verifyAndApply C d (honestBlock C bs c d i)) e j0 := by
  obtain ⟨cs, a, l, hup, _⟩ := block_accepts hC h.rep hi
  exact ⟨_, _, _, a.stepOK hC h (Nat.le_refl _) h.rep.le l (fun hu => by rw [hup] at hu; cases hu)⟩

theorem rp_block (C : Crypto) (hC : HashWF C) (bs : Array Bytes) (m : Nat) (c : Core) (d : Disk) (held : Nat → Bool) (h : RP C bs m c d held)
    (i : Nat) (hi : i < m) :
    (c.verifyAndApply C d (honestBlock C bs c d i)).result = .ok true
      ∧ RP C bs m (c.verifyAndApply C d (honestBlock C bs c d i)).core
          (d.applyAll (c.verifyAndApply C d (honestBlock C bs c d i)).journal) (fun j => held j || j == i)
      ∧ (c.verifyAndApply C d (honestBlock C bs c d i)).core.publicKey = c.publicKey
      ∧ (c.verifyAndApply C d (honestBlock C bs c d i)).core.tree.fork = c.tree.fork := by
  obtain ⟨c1, e, j0, hok⟩ := block_ok C hC bs m c d held h i hi
  exact rp_of_ok C bs m m c c1 d held _ _ e j0 h hok

/-- **a hash exchange keeps both invariants** -/
theorem hash_ok (C : Crypto) (hC : HashWF C) (bs : Array Bytes) (m : Nat) (c : Core) (d : Disk) (held : Nat → Bool) (h : RP C bs m c d held)
    (d0 o0 : Nat) (hin0 : (o0 + 1) * 2 ^ d0 ≤ m) :
    ∃ c1 e j0, StepOK C bs m m c c1 d held held (c.verifyAndApply C d (honestHash C bs c d d0 o0)) e j0 := by
  obtain ⟨cs, a, l, hup⟩ := hash_accepts hC h.rep hin0
  exact ⟨_, _, _, a.stepOK hC h (Nat.le_refl _) h.rep.le l (fun hu => by rw [hup] at hu; cases hu)⟩

theorem rp_hash (C : Crypto) (hC : HashWF C) (bs : Array Bytes) (m : Nat) (c : Core) (d : Disk) (held : Nat → Bool) (h : RP C bs m c d held)
    (d0 o0 : Nat) (hin0 : (o0 + 1) * 2 ^ d0 ≤ m) :
    (c.verifyAndApply C d (honestHash C bs c d d0 o0)).result = .ok true
      ∧ RP C bs m (c.verifyAndApply C d (honestHash C bs c d d0 o0)).core
          (d.applyAll (c.verifyAndApply C d (honestHash C bs c d d0 o0)).journal) held
      ∧ (c.verifyAndApply C d (honestHash C bs c d d0 o0)).core.publicKey = c.publicKey
      ∧ (c.verifyAndApply C d (honestHash C bs c d d0 o0)).core.tree.fork = c.tree.fork := by
  obtain ⟨c1, e, j0, hok⟩ := hash_ok C hC bs m c d held h d0 o0 hin0
  exact rp_of_ok C bs m m c c1 d held _ _ e j0 h hok

/-- replaying an upgrade entry: `truncate` finds the new roots among the entry's nodes and the store, and the commit
    reproduces the live tree and header -/
theorem replay_grow (C : Crypto) (bs : Array Bytes) (d : Disk) (c : Core) (ol : Oplog.State) (b : Bitfield) (cs : Changeset) (n : Nat)
    (sig : Bytes) (hn : n < 2 ^ 64) (hroots : cs.roots = rootsAt C bs n) (hlen : cs.length = n) (hbytes : cs.byteLength = psum bs n)
    (hsig : cs.signature = some sig) (hsl : sig.length = 64) (hup : cs.upgraded = true) (hanc : cs.ancestors = c.tree.length)
    (hhash : cs.hash = some (rootsHash C cs.roots)) (hfork : cs.fork = c.tree.fork) (hcur : Reopen.AllRef C bs c.tree.roots)
    (hR : ∀ p ∈ rootsStack n, (growCore c cs).tree.node? d.tree (Flat.index p.1 p.2) = some (nodeAt C bs p.1 p.2)) :
    replayEntry C d (ol, c.header, c.tree, b) (Core.entryOf cs none c.header).1
      = .ok (ol, (Core.entryOf cs none c.header).2, (growCore c cs).tree, b) := by
  rw [replayEntry_eq, treePart_entryOf C d none c.header (fun hu => by rw [hup] at hu; cases hu)
    (fun _ => ⟨rfl, sig, hsl, hsig, hhash, Nat.le_of_eq hanc.symm⟩) hn hroots hlen hbytes hR hcur]
  simp only [hintOf, bitOf, entryOf_bitfield]
  rfl

/-- **a growth round keeps both invariants** -/
theorem grow_ok (C : Crypto) (hC : HashWF C) (hT : TreeWF C) (bs : Array Bytes) (m n : Nat) (c : Core) (d : Disk) (held : Nat → Bool)
    (h : RP C bs m c d held) (hm0 : 0 < m) (hmn : m < n) (hn : n ≤ bs.size) (us : List (Nat × Nat))
    (hup : Up m 0 (rootsStack n).reverse us) (sig : Bytes) (hsl : sig.length = 64)
    (hver : C.verify c.publicKey (signableAt C bs n c.tree.fork) sig = true) :
    ∃ c1 e j0, StepOK C bs m n c c1 d held held (c.verifyAndApply C d (honestGrowth C bs c.tree.fork m n us sig)) e j0 := by
  obtain ⟨cs, a, l, _⟩ := growth_accepts hC h.rep hm0 hmn hn hup hsl hver
  exact ⟨_, _, _, a.stepOK hC h (Nat.le_of_lt hmn) hn l (fun _ => hT)⟩

theorem rp_grow (C : Crypto) (hC : HashWF C) (hT : TreeWF C) (bs : Array Bytes) (m n : Nat) (c : Core) (d : Disk) (held : Nat → Bool)
    (h : RP C bs m c d held) (hm0 : 0 < m) (hmn : m < n) (hn : n ≤ bs.size) (us : List (Nat × Nat))
    (hup : Up m 0 (rootsStack n).reverse us) (sig : Bytes) (hsl : sig.length = 64)
    (hver : C.verify c.publicKey (signableAt C bs n c.tree.fork) sig = true) :
    (c.verifyAndApply C d (honestGrowth C bs c.tree.fork m n us sig)).result = .ok true
      ∧ RP C bs n (c.verifyAndApply C d (honestGrowth C bs c.tree.fork m n us sig)).core
          (d.applyAll (c.verifyAndApply C d (honestGrowth C bs c.tree.fork m n us sig)).journal) held
      ∧ (c.verifyAndApply C d (honestGrowth C bs c.tree.fork m n us sig)).core.publicKey = c.publicKey
      ∧ (c.verifyAndApply C d (honestGrowth C bs c.tree.fork m n us sig)).core.tree.fork = c.tree.fork := by
  obtain ⟨c1, e, j0, hok⟩ := grow_ok C hC hT bs m n c d held h hm0 hmn hn us hup sig hsl hver
  exact rp_of_ok C bs m n c c1 d held _ _ e j0 h hok

theorem not_mem_rootsStack_zero (p : Nat × Nat) : p ∉ rootsStack 0 := by
  rw [rootsStack_zero]; exact List.not_mem_nil

theorem node?_emptyFile (i : Nat) : ({} : Tree).node? File.empty i = none := by
  have hr : File.empty.read (i * Spec.nodeSize) Spec.nodeSize = none :=
    (File.read_eq_none_iff _ _ _).mpr (Nat.lt_add_left _ (by decide))
  simp only [Tree.node?, Std.HashMap.getElem?_empty, hr]

theorem sparse_empty (C : Crypto) (bs : Array Bytes) : Sparse C bs 0 {} File.empty :=
  ⟨rfl, fun i n h => (by rw [node?_emptyFile] at h; cases h), fun p hp => absurd hp (not_mem_rootsStack_zero p)⟩

theorem openTree_new (pk : Bytes) (sec : Option Bytes) : Tree.openTree (Header.new pk sec).tree File.empty = .ok {} := by
  -- with the header's tree section spelled out the length is a numeral, and `openTree` computes
  have hl : (Header.new pk sec).tree = {} := rfl
  rw [hl]; rfl

/-- **creating a replica**: `Hypercore::new` with a public key only over empty stores gives a core that knows nothing
    (`FreshR`, for every log within the format's limits) and satisfies the ghost invariant -/
theorem init_replica (C : Crypto) (pk : Bytes) (hpk : pk.length = 32) :
    ∃ c j, Core.openCore C (some (pk, none)) {} = .ok (c, j) ∧ c.publicKey = pk ∧ c.tree.fork = 0
      ∧ (∀ bs : Array Bytes, bs.size < 2 ^ 64 ∧ psum bs bs.size < 2 ^ 64 → FreshR C bs c (({} : Disk).applyAll j))
      ∧ PersistR C c (({} : Disk).applyAll j) (Header.new pk none) []
      ∧ (∀ bs : Array Bytes, Extra C bs c (({} : Disk).applyAll j) (Header.new pk none) []) := by
  have hshape := Persist.hdrShape_new pk none hpk (fun s hs => by cases hs)
  obtain ⟨hdt, hdb, hop⟩ := Persist.create_stores pk none hpk (fun s hs => by cases hs)
  have hopen := LiveRefine.openCore_create C pk none
  generalize Oplog.insertHeader (Header.new pk none) 0 Spec.initialBits false = ih at hdt hdb hop hopen
  obtain ⟨ibits, j⟩ := ih
  have hbits : ∀ i, ({} : Bitfield).get i = false := fun i => rfl
  have hofile : Bitfield.ofFile (({} : Disk).applyAll j).bitfield = {} := by rw [hdb]; exact Bitfield.ofFile_empty
  have hcontig : FirstMissing ({} : Bitfield) (Header.new pk none).contiguous := ⟨fun i hi => absurd hi (Nat.not_lt_zero i), rfl⟩
  have hunfl : ∀ (i : Nat) (n : Node), ({} : Tree).unflushed[i]? = some n → False := fun i n hn => by
    cases Std.HashMap.getElem?_empty.symm.trans hn
  have hopenTree : Tree.openTree (Header.new pk none).tree (({} : Disk).applyAll j).tree = .ok {} := by rw [hdt]; exact openTree_new pk none
  refine ⟨_, j, hopen, rfl, rfl, ?_, ?_, ?_⟩
  · intro bs hs
    exact ⟨by rw [hdt]; exact sparse_empty C bs, rfl, rfl, fun k n h => (hunfl k n h).elim, by rw [hdt]; rfl, hbits, hcontig, hs⟩
  · refine ⟨hop, ⟨{}, hopenTree, fun ol' => ⟨{}, by rw [hofile]; rfl, fun _ => rfl, fun i hne => ?_⟩⟩, by rw [hdb]; rfl, fun i hne => ?_,
      hshape, rfl, rfl, rfl, Or.inl rfl, ⟨rfl, rfl⟩⟩
    · rw [hofile] at hne; exact absurd rfl hne
    · rw [hofile] at hne; exact absurd rfl hne
  · intro bs
    refine ⟨fun x hx => (by cases hx), ⟨fun _ => false, ⟨fun i hi => absurd hi (Nat.not_lt_zero i), rfl⟩,
      fun i hi => (by cases hi), fun i hi => (by cases hi)⟩, ?_, fun i n h => (hunfl i n h).elim,
      ⟨0, rfl, by decide, fun p hp => absurd hp (not_mem_rootsStack_zero p)⟩⟩
    intro i n h
    rw [hdt, node?_emptyFile] at h
    cases h

/-- **first contact is an exchange step**, from any state of length 0 that satisfies the invariants -/
theorem first_ok (C : Crypto) (hC : HashWF C) (hT : TreeWF C) (bs : Array Bytes) (c : Core) (d : Disk) (held : Nat → Bool)
    (h : RP C bs 0 c d held) (n : Nat) (h0 : 0 < n) (hn : n ≤ bs.size) (sig : Bytes) (hsl : sig.length = 64)
    (hver : C.verify c.publicKey (signableAt C bs n c.tree.fork) sig = true) :
    ∃ c1 e j0, StepOK C bs 0 n c c1 d held held (c.verifyAndApply C d (honestFirst C bs c.tree.fork n sig)) e j0 := by
  obtain ⟨cs, tr, a, l⟩ := first_accepts_at hC h.rep h0 hn hsl hver
  exact ⟨_, _, _, a.stepOK hC h (Nat.zero_le _) hn l (fun _ => hT)⟩

/-- **first contact keeps the ghost invariant and establishes the replica invariant** -/
theorem rp_first (C : Crypto) (hC : HashWF C) (hT : TreeWF C) (bs : Array Bytes) (hs : bs.size < 2 ^ 62 ∧ psum bs bs.size < 2 ^ 64)
    (n : Nat) (h0 : 0 < n) (hn : n ≤ bs.size) (c : Core) (d : Disk) (h : FreshR C (bs.extract 0 n) c d)
    (hper : ∃ hf es, PersistR C c d hf es ∧ Extra C bs c d hf es) (sig : Bytes) (hsl : sig.length = 64)
    (hver : C.verify c.publicKey (signableAt C bs n c.tree.fork) sig = true) :
    (c.verifyAndApply C d (honestFirst C bs c.tree.fork n sig)).result = .ok true
      ∧ RP C bs n (c.verifyAndApply C d (honestFirst C bs c.tree.fork n sig)).core
          (d.applyAll (c.verifyAndApply C d (honestFirst C bs c.tree.fork n sig)).journal) (fun _ => false)
      ∧ (c.verifyAndApply C d (honestFirst C bs c.tree.fork n sig)).core.publicKey = c.publicKey
      ∧ (c.verifyAndApply C d (honestFirst C bs c.tree.fork n sig)).core.tree.fork = c.tree.fork := by
  have hrp : RP C bs 0 c d (fun _ => false) :=
    ⟨reprAt0_agree (freshR_reprAt C _ c d h) bs ⟨Nat.lt_trans hs.1 (by decide), hs.2⟩, hper, hs.1⟩
  obtain ⟨c1, e, j0, hok⟩ := first_ok C hC hT bs c d _ hrp n h0 hn sig hsl hver
  exact rp_of_ok C bs 0 n c c1 d _ _ _ e j0 hrp hok

/-! ### exchanges and reopens, in any order -/

/-- what happens to the replica next: one of the exchanges of `HashReq.Act`, or the process ends and the stores are
    opened again with `Hypercore::new` (no key pair given) -/
inductive ActR
  | act (a : Act)
  | reopen

def stepR (C : Crypto) (bs : Array Bytes) : Core × Disk → ActR → (Core × Disk) × R Bool
  | (c, d), .act a => (((c.verifyAndApply C d (actProof C bs c d a)).core, d.applyAll (c.verifyAndApply C d (actProof C bs c d a)).journal),
      (c.verifyAndApply C d (actProof C bs c d a)).result)
  | (c, d), .reopen =>
    match openCore C none d with
    | .ok (c', j) => ((c', d.applyAll j), .ok true)
    | .error e => ((c, d), .error e)

def playR (C : Crypto) (bs : Array Bytes) : Core × Disk → List ActR → Core × Disk
  | s, [] => s
  | s, a :: r => playR C bs (stepR C bs s a).1 r

def resultsR (C : Crypto) (bs : Array Bytes) : Core × Disk → List ActR → List (R Bool)
  | _, [] => []
  | s, a :: r => (stepR C bs s a).2 :: resultsR C bs (stepR C bs s a).1 r

def exchanges : List ActR → List Act
  | [] => []
  | .act a :: r => a :: exchanges r
  | .reopen :: r => exchanges r

/-- one honest act is an exchange step -/
theorem _root_.HC.ReplicaCrash.act_ok (C : Crypto) (hC : HashWF C) (hT : TreeWF C) (bs : Array Bytes) (m : Nat) (c : Core) (d : Disk) (held : Nat → Bool)
    (h : RP C bs m c d held) (hm0 : 0 < m) (a : Act) (hok : OkActs C bs c.publicKey c.tree.fork m [a]) :
    ∃ c1 e j0, StepOK C bs m (lenAfter m [a]) c c1 d held (fun j => held j || fetched [a] j) (c.verifyAndApply C d (actProof C bs c d a)) e j0 := by
  obtain ⟨cs, tr, blk, a', l, hheld, hn⟩ := act_accepts hC h.rep hm0 hok
  exact ⟨_, _, _, hheld ▸ a'.stepOK hC h (le_lenAfter hok) hn l (fun _ => hT)⟩

/-- **exchanges and reopens in any order keep both invariants**, and every one of them answers `ok true` -/
theorem playR_rp (C : Crypto) (hC : HashWF C) (hT : TreeWF C) (bs : Array Bytes) (pk : Bytes) (fork : Nat) :
    ∀ (acts : List ActR) (m : Nat) (c : Core) (d : Disk) (held : Nat → Bool), RP C bs m c d held → 0 < m →
      c.publicKey = pk → c.tree.fork = fork → OkActs C bs pk fork m (exchanges acts) →
      RP C bs (lenAfter m (exchanges acts)) (playR C bs (c, d) acts).1 (playR C bs (c, d) acts).2 (fun j => held j || fetched (exchanges acts) j)
        ∧ resultsR C bs (c, d) acts = acts.map (fun _ => .ok true) := by
  intro acts
  induction acts with
  | nil =>
    intro m c d held h _ _ _ _
    have hh : (fun j => held j || fetched (exchanges []) j) = held := funext fun j => Bool.or_false _
    rw [hh]
    exact ⟨h, rfl⟩
  | cons a r ih =>
    intro m c d held h hm0 hpk hfk hok
    subst hpk hfk
    -- `playR`, `resultsR` and `exchanges` unfold one step on a `cons` by computation
    cases a with
    | reopen =>
      obtain ⟨c', e1, e2, e3, e4⟩ := rp_reopen C bs m c d held h
      have hstep : stepR C bs (c, d) .reopen = ((c', d), .ok true) := by simp only [stepR, e1]; rfl
      obtain ⟨q1, q2⟩ := ih m c' d held e2 hm0 e3 (congrArg Tree.fork e4) hok
      refine ⟨?_, ?_⟩
      · show RP C bs (lenAfter m (exchanges r)) (playR C bs (stepR C bs (c, d) .reopen).1 r).1 (playR C bs (stepR C bs (c, d) .reopen).1 r).2 _
        rw [hstep]; exact q1
      · show (stepR C bs (c, d) .reopen).2 :: resultsR C bs (stepR C bs (c, d) .reopen).1 r = _
        rw [hstep, q2]; rfl
    | act a =>
      obtain ⟨ok1, okr⟩ := okActs_cons (show OkActs C bs c.publicKey c.tree.fork m (a :: exchanges r) from hok)
      obtain ⟨c1, e, j0, hk⟩ := ReplicaCrash.act_ok C hC hT bs m c d held h hm0 a ok1
      obtain ⟨r1, r2, r3, r4⟩ := rp_of_ok C bs m _ c c1 d held _ _ e j0 h hk
      obtain ⟨q1, q2⟩ := ih _ _ _ _ r2 (Nat.lt_of_lt_of_le hm0 (le_lenAfter ok1)) r3 r4 okr
      show RP C bs (lenAfter m (a :: exchanges r)) _ _ (fun j => held j || fetched (a :: exchanges r) j) ∧ _
      rw [lenAfter_cons, fetched_cons]
      exact ⟨q1, congrArg₂ List.cons r1 q2⟩

end HC.ReplicaReopen
