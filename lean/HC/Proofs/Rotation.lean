import HC.Spec.Consts
/-!
The two-slot header rotation of the oplog as an abstract protocol (headers `H` and entries `E`
abstract; a slot is `none` when `validate_leader` rejects it).  `Log.open` is the reader's rule
(the same case analysis as `Oplog::open` / `HC.Oplog.openLog`), `Bits.next` is
`get_next_header_oplog_slot_and_bit_value` (`HC.Spec.nextSlot`).
-/
namespace HC.Rotation

variable {H E : Type}

structure Frame (E : Type) where
  bit : Bool
  partial_ : Bool
  entry : E

structure Log (H E : Type) where
  s0 : Option (Bool × H)
  s1 : Option (Bool × H)
  entries : List (Frame E)

structure Bits where
  b0 : Bool
  b1 : Bool
deriving DecidableEq, Repr

def Bits.cur (b : Bits) : Bool := Spec.currentBit b.b0 b.b1

/-- after writing the next header: the new bits -/
def Bits.next (b : Bits) : Bits :=
  let (second, bit) := Spec.nextSlot b.b0 b.b1
  if second then { b with b1 := bit } else { b with b0 := bit }

/-- the log after the next header has been written (first step of a flush) -/
def Log.writeNext (l : Log H E) (b : Bits) (h : H) : Log H E :=
  let (second, bit) := Spec.nextSlot b.b0 b.b1
  if second then { l with s1 := some (bit, h) } else { l with s0 := some (bit, h) }

/-- the same write torn: the slot being written no longer validates -/
def Log.tearNext (l : Log H E) (b : Bits) : Log H E :=
  let (second, _) := Spec.nextSlot b.b0 b.b1
  if second then { l with s1 := none } else { l with s0 := none }

def dropTrailingPartial : List (Frame E) → List (Frame E)
  | [] => []
  | f :: fs => match dropTrailingPartial fs with
    | [] => if f.partial_ then [] else [f]
    | r => f :: r

def takeBit (b : Bool) : List (Frame E) → List (Frame E)
  | [] => []
  | f :: fs => if f.bit == b then f :: takeBit b fs else []

def seen (c : Bool) (fs : List (Frame E)) : List E := (dropTrailingPartial (takeBit c fs)).map (·.entry)

/-- the reader's rule: newest header = slot 1 iff the two header bits differ; entries count only
    while they carry the current header bit -/
def Log.open (l : Log H E) : Option (Bits × H × List E) :=
  match l.s0, l.s1 with
  | none, none => none
  | some (b, h), none => some (⟨b, b⟩, h, seen (Spec.currentBit b b) l.entries)
  | none, some (b, h) => some (⟨!b, b⟩, h, seen (Spec.currentBit (!b) b) l.entries)
  | some (b0, h0), some (b1, h1) =>
    some (⟨b0, b1⟩, (if b0 == b1 then h0 else h1), seen (Spec.currentBit b0 b1) l.entries)

def mk (c : Bool) (e : E) : Frame E := ⟨c, false, e⟩

/-- invariant tying the in-memory bits to the file: the newest slot is valid and holds `h`; the other
    slot is missing or carries its bit; all entries are complete and carry the current bit -/
structure Inv (bits : Bits) (h : H) (es : List E) (l : Log H E) : Prop where
  newest : (if bits.b0 == bits.b1 then l.s0 = some (bits.b0, h) else l.s1 = some (bits.b1, h))
  older0 : (bits.b0 != bits.b1) = true → (l.s0 = none ∨ ∃ h', l.s0 = some (bits.b0, h'))
  older1 : (bits.b0 == bits.b1) = true → (l.s1 = none ∨ ∃ h', l.s1 = some (bits.b1, h'))
  ents : l.entries = es.map (mk bits.cur)

/-- what a reader learns: header, entries, and the bits up to the equivalence that matters
    (same current bit, same next slot and bit) -/
def Sees (l : Log H E) (bits : Bits) (h : H) (es : List E) : Prop :=
  ∃ b', l.open = some (b', h, es) ∧ b'.cur = bits.cur
    ∧ Spec.nextSlot b'.b0 b'.b1 = Spec.nextSlot bits.b0 bits.b1

theorem takeBit_cons_pos {c : Bool} {f : Frame E} (h : f.bit = c) (fs : List (Frame E)) :
    takeBit c (f :: fs) = f :: takeBit c fs := by
  simp [takeBit, h]

theorem takeBit_cons_neg {c : Bool} {f : Frame E} (h : f.bit ≠ c) (fs : List (Frame E)) : takeBit c (f :: fs) = [] := by
  simp [takeBit, h]

theorem takeBit_of_all (c : Bool) (fs : List (Frame E)) (h : ∀ f ∈ fs, f.bit = c) : takeBit c fs = fs := by
  induction fs with
  | nil => rfl
  | cons f fs ih =>
    rw [takeBit_cons_pos (h f List.mem_cons_self), ih fun g hg => h g (List.mem_cons_of_mem _ hg)]

theorem takeBit_all (b : Bool) (es : List E) : takeBit b (es.map (mk b)) = es.map (mk b) :=
  takeBit_of_all b _ fun f hf => by
    obtain ⟨e, _, rfl⟩ := List.mem_map.mp hf
    rfl

theorem takeBit_none (b c : Bool) (hne : c ≠ b) (es : List E) : takeBit c (es.map (mk b)) = [] := by
  cases es with
  | nil => rfl
  | cons e es => exact takeBit_cons_neg (fun h => hne h.symm) _

theorem dropTP_nonpartial (es : List E) (b : Bool) :
    dropTrailingPartial (es.map (mk b)) = es.map (mk b) := by
  induction es with
  | nil => rfl
  | cons e es ih =>
    simp only [List.map, dropTrailingPartial, ih]
    cases es <;> simp [mk]

theorem seen_same (c : Bool) (es : List E) : seen c (es.map (mk c)) = es := by
  simp [seen, takeBit_all, dropTP_nonpartial, List.map_map, Function.comp_def, mk]

theorem seen_diff (b c : Bool) (hne : c ≠ b) (es : List E) : seen c (es.map (mk b)) = [] := by
  simp [seen, takeBit_none b c hne, dropTrailingPartial]

theorem open_both (l : Log H E) {b0 b1 : Bool} {h0 h1 : H} (e0 : l.s0 = some (b0, h0)) (e1 : l.s1 = some (b1, h1)) :
    l.open = some (⟨b0, b1⟩, (if b0 == b1 then h0 else h1), seen (Spec.currentBit b0 b1) l.entries) := by
  simp [Log.open, e0, e1]
theorem open_only0 (l : Log H E) {b : Bool} {h : H} (e0 : l.s0 = some (b, h)) (e1 : l.s1 = none) :
    l.open = some (⟨b, b⟩, h, seen (Spec.currentBit b b) l.entries) := by
  simp [Log.open, e0, e1]
theorem open_only1 (l : Log H E) {b : Bool} {h : H} (e0 : l.s0 = none) (e1 : l.s1 = some (b, h)) :
    l.open = some (⟨!b, b⟩, h, seen (Spec.currentBit (!b) b) l.entries) := by
  simp [Log.open, e0, e1]

/-! Equal bits: slot 0 holds the newest header, the next one goes to slot 1 with the opposite bit.  Different
bits: slot 1 is the newest, the next header goes to slot 0 and makes the bits equal again.  Every fact about
the protocol is proved once per shape. -/

theorem Bits.shape (bits : Bits) : (∃ b, bits = ⟨b, b⟩) ∨ (∃ b, bits = ⟨b, !b⟩) := by
  obtain ⟨b0, b1⟩ := bits
  by_cases h : b1 = b0
  · exact .inl ⟨b0, by rw [h]⟩
  · exact .inr ⟨b0, by rw [Bool.eq_not_of_ne h]⟩

theorem nextSlot_same (b : Bool) : Spec.nextSlot b b = (true, !b) := by cases b <;> rfl
theorem nextSlot_diff (b : Bool) : Spec.nextSlot b (!b) = (false, !b) := by cases b <;> rfl

theorem next_same (b : Bool) : Bits.next ⟨b, b⟩ = ⟨b, !b⟩ := by simp only [Bits.next, nextSlot_same, ite_true]
theorem next_diff (b : Bool) : Bits.next ⟨b, !b⟩ = ⟨!b, !b⟩ := by
  simp only [Bits.next, nextSlot_diff, Bool.false_eq_true, ite_false]

theorem writeNext_same (l : Log H E) (b : Bool) (h : H) : l.writeNext ⟨b, b⟩ h = { l with s1 := some (!b, h) } := by
  simp only [Log.writeNext, nextSlot_same, ite_true]
theorem writeNext_diff (l : Log H E) (b : Bool) (h : H) : l.writeNext ⟨b, !b⟩ h = { l with s0 := some (!b, h) } := by
  simp only [Log.writeNext, nextSlot_diff, Bool.false_eq_true, ite_false]

theorem tearNext_same (l : Log H E) (b : Bool) : l.tearNext ⟨b, b⟩ = { l with s1 := none } := by
  simp only [Log.tearNext, nextSlot_same, ite_true]
theorem tearNext_diff (l : Log H E) (b : Bool) : l.tearNext ⟨b, !b⟩ = { l with s0 := none } := by
  simp only [Log.tearNext, nextSlot_diff, Bool.false_eq_true, ite_false]

theorem next_cur (bits : Bits) : bits.next.cur = !bits.cur := by
  obtain ⟨b0, b1⟩ := bits
  cases b0 <;> cases b1 <;> rfl

theorem writeNext_entries (l : Log H E) (bits : Bits) (h : H) : (l.writeNext bits h).entries = l.entries := by
  rcases bits.shape with ⟨b, rfl⟩ | ⟨b, rfl⟩
  · rw [writeNext_same]
  · rw [writeNext_diff]

theorem tearNext_entries (l : Log H E) (bits : Bits) : (l.tearNext bits).entries = l.entries := by
  rcases bits.shape with ⟨b, rfl⟩ | ⟨b, rfl⟩
  · rw [tearNext_same]
  · rw [tearNext_diff]

theorem Log.entries_nil {l : Log H E} (h : l.entries = []) : ({ l with entries := [] } : Log H E) = l := by
  rw [← h]

theorem inv_same {b : Bool} {h : H} {es : List E} {l : Log H E} :
    Inv ⟨b, b⟩ h es l ↔ l.s0 = some (b, h) ∧ (l.s1 = none ∨ ∃ h', l.s1 = some (b, h')) ∧ l.entries = es.map (mk false) := by
  have hc : Bits.cur ⟨b, b⟩ = false := bne_self_eq_false b
  constructor
  · rintro ⟨hn, -, ho1, he⟩
    exact ⟨by simpa using hn, ho1 (beq_self_eq_true b), by rw [he, hc]⟩
  · rintro ⟨h0, h1, he⟩
    exact ⟨by simpa using h0, by simp, fun _ => h1, by rw [he, hc]⟩

theorem inv_diff {b : Bool} {h : H} {es : List E} {l : Log H E} :
    Inv ⟨b, !b⟩ h es l ↔ l.s1 = some (!b, h) ∧ (l.s0 = none ∨ ∃ h', l.s0 = some (b, h')) ∧ l.entries = es.map (mk true) := by
  have hc : Bits.cur ⟨b, !b⟩ = true := Bool.bne_not_self b
  constructor
  · rintro ⟨hn, ho0, -, he⟩
    exact ⟨by simpa using hn, ho0 (Bool.bne_not_self b), by rw [he, hc]⟩
  · rintro ⟨h1, h0, he⟩
    exact ⟨by simpa using h1, fun _ => h0, by simp, by rw [he, hc]⟩

/-- under the invariant the reader's rule yields exactly the in-memory bits and the newest header; the entries
    it reports are those that carry the current bit, whatever the entry region holds -/
theorem Inv.open_entries {bits : Bits} {h : H} {es : List E} {l : Log H E} (inv : Inv bits h es l) (fs : List (Frame E)) :
    ({ l with entries := fs } : Log H E).open = some (bits, h, seen bits.cur fs) := by
  rcases bits.shape with ⟨b, rfl⟩ | ⟨b, rfl⟩
  · obtain ⟨h0, h1, -⟩ := inv_same.mp inv
    rcases h1 with h1 | ⟨h', h1⟩
    · exact open_only0 { l with entries := fs } h0 h1
    · rw [open_both { l with entries := fs } h0 h1, if_pos (beq_self_eq_true b)]; rfl
  · obtain ⟨h1, h0, -⟩ := inv_diff.mp inv
    rcases h0 with h0 | ⟨h', h0⟩
    · rw [open_only1 { l with entries := fs } h0 h1, Bool.not_not]; rfl
    · rw [open_both { l with entries := fs } h0 h1, Bool.beq_not_self, if_neg Bool.false_ne_true]; rfl

theorem Inv.open_eq {bits : Bits} {h : H} {es : List E} {l : Log H E} (inv : Inv bits h es l) :
    l.open = some (bits, h, es) :=
  (inv.open_entries l.entries).trans (by rw [inv.ents, seen_same])

theorem open_of_inv {bits : Bits} {h : H} {es : List E} {l : Log H E} (inv : Inv bits h es l) :
    Sees l bits h es :=
  ⟨bits, inv.open_eq, rfl, rfl⟩

theorem writeNext_inv {bits : Bits} {h : H} {es : List E} {l : Log H E} (inv : Inv bits h es l) (h' : H) :
    Inv bits.next h' ([] : List E) { (l.writeNext bits h') with entries := [] } := by
  rcases bits.shape with ⟨b, rfl⟩ | ⟨b, rfl⟩
  · rw [next_same, writeNext_same]
    exact inv_diff.mpr ⟨rfl, .inr ⟨h, (inv_same.mp inv).1⟩, rfl⟩
  · rw [next_diff, writeNext_diff]
    exact inv_same.mpr ⟨rfl, .inr ⟨h, (inv_diff.mp inv).1⟩, rfl⟩

/-- crash between the header write and the truncate: the reader sees the *new* header and no
    entries (the old ones carry the other bit); after the truncate the invariant holds again -/
theorem switch_atomic {bits : Bits} {h h' : H} {es : List E} {l : Log H E} (inv : Inv bits h es l) :
    Sees (l.writeNext bits h') bits.next h' ([] : List E)
      ∧ Inv bits.next h' ([] : List E) { (l.writeNext bits h') with entries := [] } := by
  have inv' := writeNext_inv inv h'
  refine ⟨⟨bits.next, (inv'.open_entries (l.writeNext bits h').entries).trans ?_, rfl, rfl⟩, inv'⟩
  -- the entries still in the file carry the bit that has just stopped being current
  rw [writeNext_entries, inv.ents, seen_diff _ _ (by rw [next_cur]; cases bits.cur <;> decide)]

/-- the header write torn: the invariant still holds for the same bits, header and entries (the slot being
    written is the older one, and an older slot may be invalid) -/
theorem tear_inv {bits : Bits} {h : H} {es : List E} {l : Log H E} (inv : Inv bits h es l) :
    Inv bits h es (l.tearNext bits) := by
  rcases bits.shape with ⟨b, rfl⟩ | ⟨b, rfl⟩
  · obtain ⟨h0, -, he⟩ := inv_same.mp inv
    rw [tearNext_same]
    exact inv_same.mpr ⟨h0, .inl rfl, he⟩
  · obtain ⟨h1, -, he⟩ := inv_diff.mp inv
    rw [tearNext_diff]
    exact inv_diff.mpr ⟨h1, .inl rfl, he⟩

/-- the header write torn (the slot being written no longer validates): the reader still sees
    the old header and all entries -/
theorem torn_header_falls_back {bits : Bits} {h : H} {es : List E} {l : Log H E} (inv : Inv bits h es l) :
    Sees (l.tearNext bits) bits h es :=
  open_of_inv (tear_inv inv)

theorem append_inv {bits : Bits} {h : H} {es : List E} {l : Log H E} (inv : Inv bits h es l) (e : E) :
    Inv bits h (es ++ [e]) { l with entries := l.entries ++ [mk bits.cur e] } := by
  obtain ⟨hn, ho0, ho1, he⟩ := inv
  exact ⟨hn, ho0, ho1, by simp [he]⟩

/-- a freshly created log: `Oplog::open` on an empty file writes the first header from `Spec.initialBits` -/
theorem fresh_inv (h : H) :
    Inv (E := E) (Bits.next ⟨Spec.initialBits.1, Spec.initialBits.2⟩) h []
      (({ s0 := none, s1 := none, entries := [] } : Log H E).writeNext ⟨Spec.initialBits.1, Spec.initialBits.2⟩ h) := by
  constructor <;> simp [Bits.next, Spec.nextSlot, Spec.initialBits, Log.writeNext, Bits.cur]

end HC.Rotation
