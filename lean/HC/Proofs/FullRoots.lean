import HC.Proofs.Offsets
/-!
`flat_tree::full_roots(2 n)` (greedy, most significant bit first) lists the flat indices of the
reference roots `rootsStack n` (recursive, least significant bit first), left to right.

Both are covers of the leaves `[0, n)` by aligned power-of-two spans with strictly decreasing depths;
such a cover is unique (binary representation).  The second half (`UpgradeSound.Align`, `UpgradeSound.fullRoot_canon`,
`fullRoot_cover`) shows that the iterator's `full_root` / `next_tree` walk such a cover position by position.
-/
namespace HC.FullRoots
open HC HC.Flat HC.RefTree HC.RefProof HC.Offsets HC.Pow2

def DecDepth (l : List (Nat × Nat)) : Prop := l.Pairwise fun p q => q.1 < p.1

theorem rootsStack_inc (n : Nat) : (rootsStack n).Pairwise fun p q => p.1 < q.1 := by
  induction n using binary_induction with
  | zero => rw [rootsStack_zero]; exact List.Pairwise.nil
  | double q hq ih => rw [rootsStack_double q hq, List.pairwise_map]; exact ih.imp Nat.succ_lt_succ
  | double_succ q ih =>
    rw [rootsStack_double_succ, List.pairwise_cons, List.pairwise_map]
    refine ⟨fun p hp => ?_, ih.imp Nat.succ_lt_succ⟩
    obtain ⟨r, _, rfl⟩ := List.mem_map.mp hp
    exact Nat.succ_pos r.1

theorem rootsStack_rev_dec (n : Nat) : DecDepth (rootsStack n).reverse :=
  List.pairwise_reverse.mpr (rootsStack_inc n)

/-- a cover whose depths decrease and stay below `D` spans fewer than `2^D` leaves -/
theorem cover_span_lt {l : List (Nat × Nat)} {a b : Nat} (h : Cover l a b) :
    ∀ D, DecDepth l → (∀ p ∈ l, p.1 < D) → b < a + 2 ^ D := by
  induction h with
  | nil a => exact fun D _ _ => Nat.lt_add_of_pos_right (pow_pos' D)
  | cons d o a b rest ha _ ih =>
    intro D hd hD
    obtain ⟨hhead, htail⟩ := List.pairwise_cons.mp hd
    have h1 := ih d htail hhead
    have h2 : 2 ^ (d + 1) ≤ 2 ^ D := Nat.pow_le_pow_right (by decide) (hD _ (List.mem_cons_self ..))
    rw [succ_mul_pow, ← ha, Nat.add_assoc, ← Nat.two_mul, ← pow_succ2] at h1
    exact Nat.lt_of_lt_of_le h1 (Nat.add_le_add_left h2 a)

/-- a cover with decreasing depths spans fewer than `2^(d+1)` leaves, `d` the first depth -/
theorem cover_lt (l : List (Nat × Nat)) : ∀ (a b d o : Nat) (rest : List (Nat × Nat)), l = (d, o) :: rest →
    Cover l a b → DecDepth l → 2 ^ d ≤ b - a ∧ b - a < 2 ^ (d + 1) ∧ a = o * 2 ^ d := by
  rintro a b d o rest rfl hc hd
  cases hc with
  | cons _ _ _ _ _ ha hrest =>
    obtain ⟨hhead, htail⟩ := List.pairwise_cons.mp hd
    have h1 := hrest.le
    have h2 := cover_span_lt hrest d htail hhead
    rw [succ_mul_pow, ← ha] at h1 h2
    rw [Nat.add_assoc, ← Nat.two_mul, ← pow_succ2] at h2
    exact ⟨Nat.le_sub_of_add_le' h1, Nat.sub_lt_left_of_lt_add (Nat.le_trans (Nat.le_add_right _ _) h1) h2, ha⟩

theorem cover_nil_iff {a b : Nat} : Cover [] a b ↔ a = b :=
  ⟨fun h => by cases h; rfl, fun h => h ▸ Cover.nil a⟩

theorem cover_unique (l : List (Nat × Nat)) : ∀ (l' : List (Nat × Nat)) (a b : Nat), Cover l a b → Cover l' a b →
    DecDepth l → DecDepth l' → l = l' := by
  induction l with
  | nil =>
    intro l' a b h h' _ hd'
    cases l' with
    | nil => rfl
    | cons p' tl' =>
      obtain ⟨c1, _, _⟩ := cover_lt _ a b p'.1 p'.2 tl' rfl h' hd'
      rw [cover_nil_iff.mp h, Nat.sub_self] at c1
      exact absurd c1 (Nat.not_le_of_gt (pow_pos' p'.1))
  | cons p tl ih =>
    intro l' a b h h' hd hd'
    obtain ⟨d, o⟩ := p
    obtain ⟨a1, a2, a3⟩ := cover_lt _ a b d o tl rfl h hd
    cases l' with
    | nil =>
      rw [cover_nil_iff.mp h', Nat.sub_self] at a1
      exact absurd a1 (Nat.not_le_of_gt (pow_pos' d))
    | cons p' tl' =>
      obtain ⟨d', o'⟩ := p'
      obtain ⟨b1, b2, b3⟩ := cover_lt _ a b d' o' tl' rfl h' hd'
      obtain rfl := pow_sandwich a1 a2 b1 b2
      obtain rfl : o = o' := Nat.eq_of_mul_eq_mul_right (pow_pos' d) (a3.symm.trans b3)
      cases h with
      | cons _ _ _ _ _ _ hrest =>
        cases h' with
        | cons _ _ _ _ _ _ hrest' =>
          rw [ih tl' _ b hrest hrest' (List.pairwise_cons.mp hd).2 (List.pairwise_cons.mp hd').2]

theorem fullRootsAux_zero (fuel off : Nat) : fullRootsAux fuel 0 off = [] := by
  cases fuel <;> rfl

theorem fullRootsAux_succ (fuel tmp off : Nat) (h : tmp ≠ 0) :
    fullRootsAux (fuel + 1) tmp off
      = (off + 2 ^ Nat.log2 tmp - 1) :: fullRootsAux fuel (tmp - 2 ^ Nat.log2 tmp) (off + 2 * 2 ^ Nat.log2 tmp) := by
  rw [fullRootsAux, if_neg h]

/-- `full_roots` with `tmp` leaves left, from the aligned leaf `a` on: it lists the indices of a cover of
    `[a, a + tmp)` whose depths decrease from the highest bit of `tmp` -/
theorem fullRootsAux_cover (fuel : Nat) : ∀ (tmp a k : Nat), tmp < 2 ^ k → 2 ^ k ∣ a → k ≤ fuel →
    ∃ l, fullRootsAux fuel tmp (2 * a) = l.map (fun p => Flat.index p.1 p.2) ∧ Cover l a (a + tmp) ∧ DecDepth l
      ∧ ∀ p ∈ l, p.1 < k := by
  induction fuel with
  | zero =>
    intro tmp a k hk _ hf
    rw [Nat.le_zero.mp hf, Nat.pow_zero] at hk
    rw [Nat.lt_one_iff.mp hk]
    exact ⟨[], rfl, Cover.nil a, List.Pairwise.nil, fun p hp => absurd hp List.not_mem_nil⟩
  | succ fuel ih =>
    intro tmp a k hk hdiv hf
    by_cases h0 : tmp = 0
    · rw [h0, fullRootsAux_zero]
      exact ⟨[], rfl, Cover.nil a, List.Pairwise.nil, fun p hp => absurd hp List.not_mem_nil⟩
    · rw [fullRootsAux_succ fuel tmp _ h0]
      have l1 : 2 ^ Nat.log2 tmp ≤ tmp := Nat.log2_self_le h0
      have l2 : tmp < 2 ^ (Nat.log2 tmp + 1) := Nat.lt_log2_self
      generalize Nat.log2 tmp = d at l1 l2 ⊢
      have hdk : d < k := lt_of_pow_lt (Nat.lt_of_le_of_lt l1 hk)
      have hdvd : 2 ^ d ∣ a := Nat.dvd_trans (Nat.pow_dvd_pow 2 (Nat.le_of_lt hdk)) hdiv
      have hend : (a / 2 ^ d + 1) * 2 ^ d = a + 2 ^ d := by rw [succ_mul_pow, Nat.div_mul_cancel hdvd]
      obtain ⟨l, e, c1, c2, c3⟩ := ih (tmp - 2 ^ d) (a + 2 ^ d) d
        (Nat.sub_lt_left_of_lt_add l1 (by rw [← Nat.two_mul, ← pow_succ2]; exact l2))
        (Nat.dvd_add hdvd (Nat.dvd_refl _)) (Nat.le_of_lt_succ (Nat.lt_of_lt_of_le hdk hf))
      refine ⟨(d, a / 2 ^ d) :: l, ?_, ?_, List.pairwise_cons.mpr ⟨c3, c2⟩, ?_⟩
      · rw [List.map_cons, RefProof.index_aligned d a hdvd, ← Nat.mul_add, e]
      · refine Cover.cons d _ _ _ _ (Nat.div_mul_cancel hdvd).symm ?_
        rw [Nat.add_assoc, Nat.add_sub_of_le l1] at c1
        rw [hend]
        exact c1
      · intro p hp
        rcases List.mem_cons.mp hp with rfl | hp
        · exact hdk
        · exact Nat.lt_trans (c3 p hp) hdk

/-- `full_roots(2 n)` = flat indices of the reference roots, left to right (`n < 2^64`) -/
theorem fullRoots_eq (n : Nat) (hn : n < 2 ^ 64) :
    fullRoots (2 * n) = (rootsStack n).reverse.map fun p => Flat.index p.1 p.2 := by
  obtain ⟨l, e, c1, c2, _⟩ := fullRootsAux_cover 65 n 0 64 hn (Nat.dvd_zero _) (by decide)
  rw [Nat.zero_add] at c1
  rw [fullRoots, Nat.mul_div_cancel_left n (by decide), ← Nat.mul_zero 2, e,
    cover_unique _ _ 0 n c1 (cover_roots n) c2 (rootsStack_rev_dec n)]

end HC.FullRoots

/-! ### `full_root` walks the cover

The iterator's `full_root`, started at an aligned leaf `s` with limit `2 T`, doubles its tree while the
doubled tree still fits below `T`; with "the rest is shorter than the alignment of `s`" that is the head of the
depth-decreasing cover of `[s, T)`. -/

namespace HC.UpgradeSound
open HC HC.Flat HC.RefTree HC.RefProof HC.Offsets HC.FullRoots HC.Pow2

/-- the rest `[s, T)` is shorter than the alignment of `s` -/
def Align (s T : Nat) : Prop := ∃ m, 2 ^ m ∣ s ∧ T < s + 2 ^ m

end HC.UpgradeSound

namespace HC.FullRoots
open HC HC.Flat HC.RefTree HC.RefProof HC.Offsets HC.UpgradeSound HC.Pow2

theorem align_zero (T : Nat) : Align 0 T := ⟨T, Nat.dvd_zero _, by rw [Nat.zero_add]; exact Nat.lt_two_pow_self⟩

theorem align_dvd (s T j : Nat) (hal : Align s T) (hfit : s + 2 ^ (j + 1) ≤ T) : 2 ^ (j + 1) ∣ s := by
  obtain ⟨m, hd, hlt⟩ := hal
  have h2 : j + 1 < m := lt_of_pow_lt (Nat.lt_of_add_lt_add_left (Nat.lt_of_le_of_lt hfit hlt))
  exact Nat.dvd_trans (Nat.pow_dvd_pow 2 (Nat.le_of_lt h2)) hd

theorem fullRootLoop_cond (d o T : Nat) :
    2 * T > (iat d o).index + (iat d o).factor + (iat d o).factor / 2 ↔ (o + 2) * 2 ^ d ≤ T := by
  have e : (iat d o).index + (iat d o).factor + (iat d o).factor / 2 + 1 = 2 * ((o + 2) * 2 ^ d) := by
    rw [iat_factor_half, iat_index, iat_factor, Nat.add_right_comm _ (2 ^ (d + 1)), Nat.add_right_comm _ (2 ^ (d + 1)), index_end,
      pow_succ2, ← Nat.mul_add, ← succ_mul_pow]
  show _ + 1 ≤ 2 * T ↔ _
  rw [e]
  exact Nat.mul_le_mul_left_iff (by decide)

theorem fullRootLoop_stop (fuel d o T : Nat) (h : T < (o + 2) * 2 ^ d) :
    Iter.fullRootLoop (fuel + 1) (iat d o) (2 * T) = iat d o := by
  rw [Iter.fullRootLoop, if_neg fun hc => Nat.lt_irrefl _ (Nat.lt_of_lt_of_le h ((fullRootLoop_cond d o T).mp hc))]

theorem fullRootLoop_grow (fuel d o T : Nat) (ho : o % 2 = 0) (h : (o + 2) * 2 ^ d ≤ T) :
    Iter.fullRootLoop (fuel + 1) (iat d o) (2 * T) = Iter.fullRootLoop fuel (iat (d + 1) (o / 2)) (2 * T) := by
  have hpar : (iat d o).parent = ⟨(iat d o).index + (iat d o).factor / 2, (iat d o).offset / 2, (iat d o).factor * 2⟩ :=
    if_neg (by rw [iat_offset, ho]; decide)
  rw [Iter.fullRootLoop, if_pos ((fullRootLoop_cond d o T).mpr h), ← hpar, iat_parent]

/-- the loop climbs from depth `j` to some `J`; the last conjunct says the tree at `J` is the largest that fits, unless
    the loop stopped for lack of fuel (`J = j + fuel`) -/
theorem fullRootLoop_canon (s T : Nat) (hal : Align s T) : ∀ (fuel j : Nat), 2 ^ j ∣ s → s + 2 ^ j ≤ T →
    ∃ J, j ≤ J ∧ Iter.fullRootLoop fuel (iat j (s / 2 ^ j)) (2 * T) = iat J (s / 2 ^ J) ∧ 2 ^ J ∣ s ∧ s + 2 ^ J ≤ T
      ∧ (J < j + fuel → T < s + 2 ^ (J + 1)) := by
  intro fuel
  induction fuel with
  | zero => intro j hd hfit; exact ⟨j, Nat.le_refl _, rfl, hd, hfit, fun h => absurd h (Nat.lt_irrefl j)⟩
  | succ fuel ih =>
    intro j hd hfit
    have hend : (s / 2 ^ j + 2) * 2 ^ j = s + 2 ^ (j + 1) := by rw [Nat.add_mul, Nat.div_mul_cancel hd, pow_succ2]
    by_cases hfit' : s + 2 ^ (j + 1) ≤ T
    · have hd' := align_dvd s T j hal hfit'
      have ho : (s / 2 ^ j) % 2 = 0 := Nat.mod_eq_zero_of_dvd (Nat.dvd_div_of_mul_dvd (by rw [← Nat.pow_succ]; exact hd'))
      rw [fullRootLoop_grow fuel j _ T ho (hend ▸ hfit'), Pow2.div_pow_succ']
      obtain ⟨J, hle, hloop, hdvd, hfitJ, hmax⟩ := ih (j + 1) hd' hfit'
      exact ⟨J, Nat.le_of_succ_le hle, hloop, hdvd, hfitJ, fun h => hmax (by rw [Nat.add_right_comm]; exact h)⟩
    · have hstop := Nat.lt_of_not_le hfit'
      rw [fullRootLoop_stop fuel j _ T (hend ▸ hstop)]
      exact ⟨j, Nat.le_refl _, rfl, hd, hfit, fun _ => hstop⟩

end HC.FullRoots

namespace HC.UpgradeSound
open HC HC.Flat HC.RefTree HC.RefProof HC.Offsets HC.FullRoots HC.Pow2

/-- `full_root` from an aligned leaf: the canonical iterator of the largest aligned tree that fits, and the
    leaf after it is aligned again -/
theorem fullRoot_canon (s T : Nat) (hal : Align s T) (hs : s < T) (hT : T < 2 ^ 64) :
    ∃ J, (iat 0 s).fullRoot (2 * T) = (true, iat J (s / 2 ^ J)) ∧ 2 ^ J ∣ s ∧ s + 2 ^ J ≤ T ∧ Align (s + 2 ^ J) T
      ∧ T < s + 2 ^ J + 2 ^ J := by
  have hcond : ¬ (2 * T ≤ (iat 0 s).index || decide ((iat 0 s).index % 2 = 1)) = true := by
    rw [iat_index, RefProof.index_zero, Nat.mul_mod_right, Bool.or_eq_true, decide_eq_true_eq, decide_eq_true_eq]
    exact fun h => h.elim (fun h => Nat.not_le_of_lt hs (Nat.le_of_mul_le_mul_left h (by decide))) (by decide)
  -- 70 is the fuel of `full_root` in the model; `J < 64` since the tree fits below `T < 2^64`
  obtain ⟨J, _, hloop, hdvd, hfit, hlargest⟩ := fullRootLoop_canon s T hal 70 0 (Nat.pow_zero 2 ▸ Nat.one_dvd s)
    (by rw [Nat.pow_zero]; exact hs)
  rw [Nat.pow_zero, Nat.div_one] at hloop
  have hJ : J < 0 + 70 :=
    Nat.lt_trans (depth_lt_of_span (o := 0) (by rw [Nat.one_mul]; exact Nat.le_trans (Nat.le_add_left _ _) hfit) hT) (by decide)
  have hmax : T < s + 2 ^ J + 2 ^ J := by rw [Nat.add_assoc, ← Nat.two_mul, ← pow_succ2]; exact hlargest hJ
  refine ⟨J, ?_, hdvd, hfit, ⟨J, Nat.dvd_add hdvd (Nat.dvd_refl _), hmax⟩, hmax⟩
  rw [Iter.fullRoot, if_neg hcond, hloop]

end HC.UpgradeSound

namespace HC.FullRoots
open HC HC.Flat HC.RefTree HC.RefProof HC.Offsets HC.UpgradeSound HC.Pow2

theorem fullRoot_done (s T : Nat) (hs : T ≤ s) : (iat 0 s).fullRoot (2 * T) = (false, iat 0 s) := by
  have : (2 * T ≤ (iat 0 s).index || decide ((iat 0 s).index % 2 = 1)) = true := by
    rw [iat_index, RefProof.index_zero, Bool.or_eq_true, decide_eq_true_eq]
    exact Or.inl (Nat.mul_le_mul_left 2 hs)
  rw [Iter.fullRoot, if_pos this]

/-- One round of a walk over the roots: at the start `s` of a depth-decreasing cover of `[s, T)`, `full_root`
    finds the first position of the cover, `next_tree` leads to the start of the rest, and the rest is again
    such a cover. -/
theorem fullRoot_cover {d o s T : Nat} {rest : List (Nat × Nat)} (hc : Cover ((d, o) :: rest) s T)
    (hdec : DecDepth ((d, o) :: rest)) (hal : Align s T) (hT : T < 2 ^ 64) :
    (iat 0 s).fullRoot (2 * T) = (true, iat d o) ∧ (iat d o).nextTree = iat 0 ((o + 1) * 2 ^ d) ∧ s = o * 2 ^ d
      ∧ (o + 1) * 2 ^ d ≤ T ∧ Cover rest ((o + 1) * 2 ^ d) T ∧ DecDepth rest ∧ Align ((o + 1) * 2 ^ d) T := by
  obtain ⟨c1, c2, c3⟩ := cover_lt _ s T d o rest rfl hc hdec
  obtain ⟨J, hfr, _, hfit, hal', hmax⟩ :=
    fullRoot_canon s T hal (Nat.lt_of_sub_pos (Nat.lt_of_lt_of_le (pow_pos' d) c1)) hT
  -- both `2^J` and `2^d` are the highest power of two in `T - s`
  obtain rfl : J = d := pow_sandwich (Nat.le_sub_of_add_le' hfit)
    (Nat.sub_lt_left_of_lt_add (Nat.le_trans (Nat.le_add_right _ _) hfit) (by rw [pow_succ2, Nat.two_mul, ← Nat.add_assoc]; exact hmax)) c1 c2
  have hend : (o + 1) * 2 ^ J = s + 2 ^ J := by rw [c3, succ_mul_pow]
  rw [show s / 2 ^ J = o by rw [c3]; exact Nat.mul_div_cancel _ (pow_pos' J)] at hfr
  cases hc with
  | cons _ _ _ _ _ _ hrest =>
    exact ⟨hfr, nextTree_iat J o, c3, hend ▸ hfit, hrest, (List.pairwise_cons.mp hdec).2, hend ▸ hal'⟩

end HC.FullRoots
