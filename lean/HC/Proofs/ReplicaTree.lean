import HC.Proofs.Sync
import HC.Proofs.ApplyTotal
import HC.Proofs.UpgradeBytes
/-!
The replica's sparse tree (C03, "replicas converge to the writer's data"): what makes an honest block land at
the byte offset it has in the writer's log.

* `scan_path`: `byte_offset_in_changeset` walks the node list of an accepted block changeset (leaf, sibling,
  parent, sibling, parent … up to the stored ancestor) and adds up the left siblings below the ancestor;
* `Growth.ClosedAt … L` (stated here, in its own namespace): a sparse replica of the first `L` blocks in which every
  stored node whose parent lies inside has its sibling and its parent stored — what makes the walks of
  `byte_offset_from_nodes` succeed on a *sparse* tree (`byteOffsetInChangeset_honest`, `byteRange_closed`); kept
  by every committed honest answer (`ClosedAt.insert_path`).  `Closed` is the case `L = bs.size` (`closedAt_full`);
* `flush_lookup`: `flush_nodes` moves the unflushed nodes to the store and every lookup answers as before.
-/
namespace HC.Replica
open HC HC.Codec HC.Flat HC.Tree HC.RefTree HC.RefProof HC.Sound HC.Offsets HC.TreeStore HC.Complete HC.UpgradeSound HC.CreateTotal HC.Oplog HC.Pow2

theorem climb_exact (C : Crypto) (bs : Array Bytes) : ∀ (k fuel d o : Nat) (rn : List Node), k < fuel →
    climb C fuel (plainQueue (sibPath C bs d o k)) (iat d o) (nodeAt C bs d o) rn
      = .ok (nodeAt C bs (d + k) (o / 2 ^ k), upPath C bs d o k ++ rn) :=
  climb_path C bs

theorem block_changeset_exact (C : Crypto) (bs : Array Bytes) (t : Tree) (f : File) (pk : Bytes) (i k fork : Nat)
    (hstored : t.node? f (Flat.index k (i / 2 ^ k)) = some (nodeAt C bs k (i / 2 ^ k))) :
    t.verifyProof C f ⟨fork, some ⟨i, bs.getD i [], sibPath C bs 0 i k⟩, none, none, none⟩ pk
      = .ok { t.changeset with rnodes := upPath C bs 0 i k ++ [nodeAt C bs 0 i] } :=
  block_proof_path C bs t f pk i k fork hstored

/-- the climb's list in the order `byte_offset_in_changeset` scans it (oldest first) -/
def downPath (C : Crypto) (bs : Array Bytes) : Nat → Nat → Nat → List Node
  | _, _, 0 => []
  | d, o, k+1 => nodeAt C bs d (sib o) :: nodeAt C bs (d + 1) (o / 2) :: downPath C bs (d + 1) (o / 2) k

theorem upPath_reverse (C : Crypto) (bs : Array Bytes) : ∀ (k d o : Nat), (upPath C bs d o k).reverse = downPath C bs d o k := by
  intro k
  induction k with
  | zero => intro d o; rfl
  | succ k ih => intro d o; simp [upPath, downPath, ih]

/-- a climb with its start node, oldest first: the node list of a changeset that has recorded just that climb -/
theorem path_reverse (C : Crypto) (bs : Array Bytes) (d o k : Nat) :
    (upPath C bs d o k ++ [nodeAt C bs d o]).reverse = nodeAt C bs d o :: downPath C bs d o k := by
  rw [List.reverse_append, upPath_reverse]; rfl

theorem len_parent (C : Crypto) (bs : Array Bytes) (d o : Nat) :
    (nodeAt C bs (d + 1) o).length = (nodeAt C bs d (2 * o)).length + (nodeAt C bs d (2 * o + 1)).length := by
  simp [nodeAt, RefTree.node]

theorem nodeAt_len (C : Crypto) (bs : Array Bytes) (d o : Nat) :
    psum bs (o * 2 ^ d) + (nodeAt C bs d o).length = psum bs ((o + 1) * 2 ^ d) := node_size C bs d o

/-- the bytes before a node are the bytes before its parent, and its left sibling if it is a right child -/
theorem psum_parent_start (C : Crypto) (bs : Array Bytes) (d o : Nat) :
    psum bs (o * 2 ^ d) = psum bs (o / 2 * 2 ^ (d + 1))
      + if o % 2 = 1 then (nodeAt C bs (d + 1) (o / 2)).length - (nodeAt C bs d o).length else 0 := by
  obtain ⟨q, rfl | rfl⟩ := bit_cases o
  · rw [Nat.mul_div_cancel_left q (by decide), parent_start, if_neg (by rw [Nat.mul_mod_right]; decide), Nat.add_zero]
  · rw [double_succ_div, parent_start, if_pos (double_succ_mod q), len_parent, Nat.add_sub_cancel, nodeAt_len]

/-- one round of the scan of `byte_offset_in_changeset` along the climb's list: the sibling is passed over, the
    parent is matched, and the offset grows by the left sibling's size if the node was a right child -/
theorem scan_step (C : Crypto) (bs : Array Bytes) (d o k off : Nat) :
    byteOffsetInChangeset.scan (downPath C bs d o (k + 1)) (iat (d + 1) (o / 2)) off (decide (o % 2 = 1)) (some (nodeAt C bs d o))
      = byteOffsetInChangeset.scan (downPath C bs (d + 1) (o / 2) k) (iat (d + 1 + 1) (o / 2 / 2))
          (off + if o % 2 = 1 then (nodeAt C bs (d + 1) (o / 2)).length - (nodeAt C bs d o).length else 0)
          (decide (o / 2 % 2 = 1)) (some (nodeAt C bs (d + 1) (o / 2))) := by
  have hne : (nodeAt C bs d (sib o)).index ≠ (iat (d + 1) (o / 2)).index :=
    fun e => Nat.succ_ne_self d (index_inj d (sib o) (d + 1) (o / 2) e).1.symm
  have heq : (nodeAt C bs (d + 1) (o / 2)).index = (iat (d + 1) (o / 2)).index := rfl
  have hir : (iat (d + 1) (o / 2)).isRight = decide (o / 2 % 2 = 1) := rfl
  simp only [downPath, byteOffsetInChangeset.scan, hne, ite_false, heq, ite_true, iat_parent, hir]
  by_cases ho : o % 2 = 1
  · simp only [ho, decide_true, ite_true]
  · simp only [ho, decide_false, ite_false, Nat.add_zero]

theorem scan_path (C : Crypto) (bs : Array Bytes) : ∀ (k d o off : Nat),
    ∃ r, byteOffsetInChangeset.scan (downPath C bs d o k) (iat (d + 1) (o / 2)) off (decide (o % 2 = 1)) (some (nodeAt C bs d o))
        = (r, some (nodeAt C bs (d + k) (o / 2 ^ k)))
      ∧ r + psum bs (o / 2 ^ k * 2 ^ (d + k)) = off + psum bs (o * 2 ^ d) := by
  intro k
  induction k with
  | zero => intro d o off; exact ⟨off, by simp [downPath, byteOffsetInChangeset.scan], by simp⟩
  | succ k ih =>
    intro d o off
    obtain ⟨r, h1, h2⟩ := ih (d + 1) (o / 2)
      (off + if o % 2 = 1 then (nodeAt C bs (d + 1) (o / 2)).length - (nodeAt C bs d o).length else 0)
    rw [Nat.add_assoc d 1 k, Nat.add_comm 1 k, div_pow_succ] at h1 h2
    exact ⟨r, (scan_step C bs d o k off).trans h1,
      by rw [h2, psum_parent_start C bs d o, Nat.add_assoc, Nat.add_comm (psum _ _)]⟩

theorem offsetDescend_sparse (C : Crypto) (bs : Array Bytes) (m : Nat) (t : Tree) (f : File) (s : Nat)
    (hL : LeftStored C bs m t f s) :
    ∀ (d o acc fuel : Nat), o * 2 ^ d ≤ s → s < (o + 1) * 2 ^ d → (o + 1) * 2 ^ d ≤ m → d < fuel →
      ∃ r, offsetDescend t f (2 * s) fuel (iat d o) acc = .ok r ∧ r + psum bs (o * 2 ^ d) = acc + psum bs s :=
  offsetDescend_stored C bs t f m s hL

theorem go_sparse (C : Crypto) (bs : Array Bytes) (m : Nat) (t : Tree) (f : File) (s : Nat) (hL : LeftStored C bs m t f s)
    (hm : m < 2 ^ 64) :
    ∀ (l : List (Nat × Nat)) (a b acc : Nat), Cover l a b → a ≤ s → s < b → b ≤ m →
      ∃ r, byteOffsetFromNodes.go t f (2 * s) (l.map fun p => nodeAt C bs p.1 p.2) (2 * a) acc = .ok r
        ∧ r + psum bs a = acc + psum bs s :=
  go_stored C bs t f m s hL hm

theorem byteOffsetFromNodes_sparse (C : Crypto) (bs : Array Bytes) (t : Tree) (f : File) (hm : bs.size < 2 ^ 64)
    (hroots : t.roots = RefTree.roots C bs) (d o : Nat) (hd : d ≤ 64) (hin : (o + 1) * 2 ^ d ≤ bs.size)
    (hL : LeftStored C bs bs.size t f (o * 2 ^ d)) :
    t.byteOffsetFromNodes f (Flat.index d o) = .ok (psum bs (o * 2 ^ d)) :=
  byteOffsetFromNodes_at C bs bs.size t f hm (hroots.trans (Growth.roots_eq_rootsAt C bs)) d o hin hL

theorem root_parent_out (n : Nat) : ∀ p ∈ rootsStack n, n < (p.2 / 2 + 1) * 2 ^ (p.1 + 1) := by
  intro p hp
  obtain ⟨h0, _, h2⟩ := (RefProof.mem_rootsStack_span n p.1 p.2).mp hp
  rw [Pow2.parent_end_even p.1 p.2 h0]
  exact h2

/-- `Growth.ClosedAt` at the writer's length -/
structure Closed (C : Crypto) (bs : Array Bytes) (t : Tree) (f : File) : Prop where
  sparse : Sparse C bs bs.size t f
  closed : ∀ d o, t.node? f (Flat.index d o) = some (nodeAt C bs d o) → (o / 2 + 1) * 2 ^ (d + 1) ≤ bs.size →
    t.node? f (Flat.index d (sib o)) = some (nodeAt C bs d (sib o))
      ∧ t.node? f (Flat.index (d + 1) (o / 2)) = some (nodeAt C bs (d + 1) (o / 2))

theorem nodeAt_inj (C : Crypto) (bs : Array Bytes) (d o d' o' : Nat) (h : nodeAt C bs d o = nodeAt C bs d' o') : d = d' ∧ o = o' :=
  index_inj d o d' o' (congrArg Node.index h)

theorem ref_unique (C : Crypto) (bs : Array Bytes) (x y : Node) (hx : ∃ d o, x = nodeAt C bs d o) (hy : ∃ d o, y = nodeAt C bs d o)
    (h : x.index = y.index) : x = y := by
  obtain ⟨d, o, rfl⟩ := hx
  obtain ⟨d', o', rfl⟩ := hy
  obtain ⟨rfl, rfl⟩ := index_inj _ _ _ _ (show Flat.index d o = Flat.index d' o' from h)
  rfl

theorem refs_of_inside {C : Crypto} {bs : Array Bytes} {l : List Node} {m : Nat}
    (h : ∀ n ∈ l, ∃ d o, n = nodeAt C bs d o ∧ (o + 1) * 2 ^ d ≤ m) : ∀ n ∈ l, ∃ d o, n = nodeAt C bs d o :=
  fun n hn => let ⟨d, o, e, _⟩ := h n hn; ⟨d, o, e⟩

theorem inside_mono {C : Crypto} {bs : Array Bytes} {l : List Node} {m m' : Nat} (hm : m ≤ m')
    (h : ∀ n ∈ l, ∃ d o, n = nodeAt C bs d o ∧ (o + 1) * 2 ^ d ≤ m) : ∀ n ∈ l, ∃ d o, n = nodeAt C bs d o ∧ (o + 1) * 2 ^ d ≤ m' :=
  fun n hn => let ⟨d, o, e, hb⟩ := h n hn; ⟨d, o, e, Nat.le_trans hb hm⟩

theorem insert_lookup (C : Crypto) (hC : HashWF C) (bs : Array Bytes) (t t' : Tree) (f : File) (l : List Node)
    (hl : ∀ n ∈ l, ∃ d o, n = nodeAt C bs d o) (hu : t'.unflushed = insertAll t.unflushed l) :
    (∀ d o, nodeAt C bs d o ∈ l → t'.node? f (Flat.index d o) = some (nodeAt C bs d o))
    ∧ (∀ d o, t.node? f (Flat.index d o) = some (nodeAt C bs d o) → t'.node? f (Flat.index d o) = some (nodeAt C bs d o))
    ∧ (∀ d o, t'.node? f (Flat.index d o) = some (nodeAt C bs d o) →
        nodeAt C bs d o ∈ l ∨ t.node? f (Flat.index d o) = some (nodeAt C bs d o)) := by
  -- at a position, "inserted there" is "the reference node of that position is in the list"
  have hlook : ∀ d o, (nodeAt C bs d o ∈ l ∧ t'.node? f (Flat.index d o) = some (nodeAt C bs d o))
      ∨ (nodeAt C bs d o ∉ l ∧ t'.node? f (Flat.index d o) = t.node? f (Flat.index d o)) := by
    intro d o
    rcases node?_insertAll C hC bs t t' f l hl hu (Flat.index d o) with ⟨d', o', e, hm, hget⟩ | ⟨hmiss, he⟩
    · obtain ⟨rfl, rfl⟩ := index_inj d o d' o' e
      exact Or.inl ⟨hm, hget⟩
    · exact Or.inr ⟨fun hm => hmiss _ hm rfl, he⟩
  refine ⟨fun d o hm => (hlook d o).elim And.right fun h => absurd hm h.1, fun d o hold => (hlook d o).elim And.right fun h => h.2 ▸ hold,
    fun d o hnew => (hlook d o).elim (fun h => Or.inl h.1) fun h => Or.inr (h.2 ▸ hnew)⟩

/-- the nodes of an accepted path answer from `(d₀, o₀)` over `k` levels: the path's nodes up to level `k` and their
    siblings below level `k` -/
theorem mem_pathNodes (C : Crypto) (bs : Array Bytes) (d0 o0 k : Nat) (n : Node) :
    n ∈ (nodeAt C bs d0 o0 :: downPath C bs d0 o0 k) ↔
      (∃ j, j ≤ k ∧ n = nodeAt C bs (d0 + j) (o0 / 2 ^ j)) ∨ (∃ j, j < k ∧ n = nodeAt C bs (d0 + j) (sib (o0 / 2 ^ j))) := by
  rw [← upPath_reverse, List.mem_cons, List.mem_reverse, mem_upPath]
  constructor
  · rintro (rfl | ⟨j, hj, rfl | rfl⟩)
    · exact Or.inl ⟨0, Nat.zero_le k, by rw [Nat.pow_zero, Nat.div_one]; rfl⟩
    · exact Or.inl ⟨j + 1, hj, rfl⟩
    · exact Or.inr ⟨j, hj, rfl⟩
  · rintro (⟨j, hj, rfl⟩ | ⟨j, hj, rfl⟩)
    · cases j with
      | zero => left; rw [Nat.pow_zero, Nat.div_one]; rfl
      | succ j => exact Or.inr ⟨j, hj, Or.inl rfl⟩
    · exact Or.inr ⟨j, hj, Or.inr rfl⟩

theorem pathNodes_inside (C : Crypto) (bs : Array Bytes) (d0 o0 k m : Nat) (hin : (o0 / 2 ^ k + 1) * 2 ^ (d0 + k) ≤ m) :
    ∀ n ∈ (nodeAt C bs d0 o0 :: downPath C bs d0 o0 k), ∃ d o, n = nodeAt C bs d o ∧ (o + 1) * 2 ^ d ≤ m := by
  intro n hn
  rcases (mem_pathNodes C bs d0 o0 k n).mp hn with ⟨j, hj, rfl⟩ | ⟨j, hj, rfl⟩
  · exact ⟨_, _, rfl, Nat.le_trans (anc_end_mono d0 o0 hj) hin⟩
  · refine ⟨_, _, rfl, Nat.le_trans (sib_bound (o0 / 2 ^ j) (d0 + j)) ?_⟩
    rw [div_pow_succ']
    exact Nat.le_trans (anc_end_mono d0 o0 hj) hin

/-- changesets made of reference nodes pass the oplog encoder's 32-byte-hash check -/
theorem encodable_of_ref (C : Crypto) (hC : HashWF C) (bs : Array Bytes) (cs : Changeset)
    (h : ∀ n ∈ cs.nodes, ∃ d o, n = nodeAt C bs d o) : Core.encodable cs = true := by
  simp only [Core.encodable, List.all_eq_true, beq_iff_eq]
  intro n hn
  obtain ⟨d, o, rfl⟩ := h n hn
  exact nodeAt_hash_len C hC bs d o

end HC.Replica

namespace HC.Growth
open HC HC.Codec HC.Flat HC.Tree HC.RefTree HC.RefProof HC.Sound HC.Offsets HC.TreeStore HC.Complete HC.UpgradeSound HC.CreateTotal HC.Replica HC.Pow2

/-- a sparse replica of the first `L` blocks of the log `bs` in which every stored node whose parent lies inside
    has its sibling and its parent stored -/
structure ClosedAt (C : Crypto) (bs : Array Bytes) (L : Nat) (t : Tree) (f : File) : Prop where
  sparse : Sparse C bs L t f
  closed : ∀ d o, t.node? f (Flat.index d o) = some (nodeAt C bs d o) → (o / 2 + 1) * 2 ^ (d + 1) ≤ L →
    t.node? f (Flat.index d (sib o)) = some (nodeAt C bs d (sib o))
      ∧ t.node? f (Flat.index (d + 1) (o / 2)) = some (nodeAt C bs (d + 1) (o / 2))

theorem closedAt_full (C : Crypto) (bs : Array Bytes) (t : Tree) (f : File) : ClosedAt C bs bs.size t f ↔ Closed C bs t f :=
  ⟨fun h => ⟨h.sparse, h.closed⟩, fun h => ⟨h.sparse, h.closed⟩⟩

theorem ClosedAt.anc_stored {C : Crypto} {bs : Array Bytes} {L : Nat} {t : Tree} {f : File} (h : ClosedAt C bs L t f) (d o : Nat)
    (hst : t.node? f (Flat.index d o) = some (nodeAt C bs d o)) :
    ∀ j, (o / 2 ^ j + 1) * 2 ^ (d + j) ≤ L → t.node? f (Flat.index (d + j) (o / 2 ^ j)) = some (nodeAt C bs (d + j) (o / 2 ^ j)) := by
  intro j
  induction j with
  | zero => intro _; rw [Nat.pow_zero, Nat.div_one]; exact hst
  | succ j ih =>
    intro hin
    rw [← div_pow_succ'] at hin ⊢
    exact (h.closed (d + j) (o / 2 ^ j) (ih (Nat.le_trans (child_span_le (d + j) (o / 2 ^ j)) hin)) hin).2

end HC.Growth

namespace HC.Replica
open HC HC.Codec HC.Flat HC.Tree HC.RefTree HC.RefProof HC.Sound HC.Offsets HC.TreeStore HC.Complete HC.UpgradeSound HC.CreateTotal HC.Pow2 HC.Growth

/-- a node below depth `e` does not start inside the right half of a node of depth `e + 1` -/
theorem depth_le_of_start {d o e q : Nat} (h1 : (2 * q + 1) * 2 ^ e ≤ o * 2 ^ d) (h2 : o * 2 ^ d < (2 * q + 2) * 2 ^ e) : d ≤ e := by
  by_contra hlt
  -- the start would be a multiple of `2^(e+1)` strictly between two consecutive ones
  have hp := pow_pos' e
  have hdvd : 2 ^ (e + 1) ∣ o * 2 ^ d := Nat.dvd_trans (Nat.pow_dvd_pow 2 (Nat.lt_of_not_le hlt)) (Nat.dvd_mul_left _ _)
  rw [succ_mul_pow, ← parent_start] at h1
  rw [← parent_end] at h2
  have := mult_gap (2 ^ (e + 1)) (q * 2 ^ (e + 1)) _ (Nat.dvd_mul_left _ _) hdvd (by omega)
  rw [succ_mul_pow] at h2
  omega

/-- the ancestor `j` levels up of the node at `(d, o)`, from the start of that node -/
theorem mul_pow_div (o d j : Nat) : o * 2 ^ d / 2 ^ (d + j) = o / 2 ^ j := by
  rw [Nat.pow_add, Nat.mul_comm (2 ^ d), Nat.mul_div_mul_right _ _ (pow_pos' d)]

end HC.Replica

namespace HC.Growth
open HC HC.Codec HC.Flat HC.Tree HC.RefTree HC.RefProof HC.Sound HC.Offsets HC.TreeStore HC.Complete HC.UpgradeSound HC.CreateTotal HC.Replica HC.Pow2

/-- on a closed replica, every left sibling the descent to the start of a stored node's span reads is stored -/
theorem ClosedAt.left_stored {C : Crypto} {bs : Array Bytes} {L : Nat} {t : Tree} {f : File} (h : ClosedAt C bs L t f) (d o : Nat)
    (hst : t.node? f (Flat.index d o) = some (nodeAt C bs d o)) : LeftStored C bs L t f (o * 2 ^ d) := by
  intro e q h1 h2 h3
  -- `(e, 2q+1)` is the ancestor of `(d, o)` at level `e`; its parent ends inside `L`, so its sibling `(e, 2q)` is stored
  obtain ⟨j, rfl⟩ := Nat.exists_eq_add_of_le (depth_le_of_start h1 h2)
  have hdiv : o / 2 ^ j = 2 * q + 1 := by rw [← mul_pow_div o d j]; exact div_eq_of_span _ _ _ h1 h2
  have hanc := h.anc_stored d o hst j (by rw [hdiv]; exact h3)
  rw [hdiv] at hanc
  have hq : (2 * q + 1) / 2 = q := double_succ_div q
  have := (h.closed (d + j) (2 * q + 1) hanc (by rw [hq, parent_end]; exact h3)).1
  rwa [sib_odd (Nat.succ_mod_two_eq_one_iff.mpr (Nat.mul_mod_right 2 q))] at this

/-- committing an accepted path answer (block or hash) from `(d₀, o₀)` up to a stored ancestor `k` levels above keeps
    the replica closed and stores the start node -/
theorem ClosedAt.insert_path {C : Crypto} (hC : HashWF C) {bs : Array Bytes} {L : Nat} {t : Tree} {f : File}
    (h : ClosedAt C bs L t f) (d0 o0 k : Nat)
    (hstored : t.node? f (Flat.index (d0 + k) (o0 / 2 ^ k)) = some (nodeAt C bs (d0 + k) (o0 / 2 ^ k)))
    (hin : (o0 / 2 ^ k + 1) * 2 ^ (d0 + k) ≤ L) (t' : Tree)
    (hu : t'.unflushed = insertAll t.unflushed (nodeAt C bs d0 o0 :: downPath C bs d0 o0 k))
    (hlen : t'.length = t.length) :
    ClosedAt C bs L t' f ∧ t'.node? f (Flat.index d0 o0) = some (nodeAt C bs d0 o0)
      ∧ (∀ d o, t.node? f (Flat.index d o) = some (nodeAt C bs d o) → t'.node? f (Flat.index d o) = some (nodeAt C bs d o)) := by
  have hmem := mem_pathNodes C bs d0 o0 k
  have hinside := pathNodes_inside C bs d0 o0 k L hin
  obtain ⟨hnew, hold, honly⟩ := insert_lookup C hC bs t t' f _ (refs_of_inside hinside) hu
  have hS : Sparse C bs L t' f :=
    Sync.sparse_insert C hC bs L L t t' f h.sparse (Nat.le_refl _) _ hinside hu (by rw [hlen]; exact h.sparse.length)
      (fun p hp => Or.inr (h.sparse.roots p hp))
  -- afterwards the path's nodes up to level `k` and their siblings below level `k` are stored
  have hpath : ∀ j, j ≤ k → t'.node? f (Flat.index (d0 + j) (o0 / 2 ^ j)) = some (nodeAt C bs (d0 + j) (o0 / 2 ^ j)) := by
    intro j hj
    rcases Nat.eq_or_lt_of_le hj with rfl | hlt
    · exact hold _ _ hstored
    · exact hnew _ _ ((hmem _).mpr (Or.inl ⟨j, hj, rfl⟩))
  have hsib : ∀ j, j < k → t'.node? f (Flat.index (d0 + j) (sib (o0 / 2 ^ j))) = some (nodeAt C bs (d0 + j) (sib (o0 / 2 ^ j))) :=
    fun j hj => hnew _ _ ((hmem _).mpr (Or.inr ⟨j, hj, rfl⟩))
  have hstart : t'.node? f (Flat.index d0 o0) = some (nodeAt C bs d0 o0) := hnew d0 o0 List.mem_cons_self
  refine ⟨⟨hS, fun d o hst hpar => ?_⟩, hstart, hold⟩
  -- a node that was stored before has sibling and parent from the old replica
  have hwas : t.node? f (Flat.index d o) = some (nodeAt C bs d o) →
      t'.node? f (Flat.index d (sib o)) = some (nodeAt C bs d (sib o))
        ∧ t'.node? f (Flat.index (d + 1) (o / 2)) = some (nodeAt C bs (d + 1) (o / 2)) :=
    fun hw => ⟨hold _ _ (h.closed d o hw hpar).1, hold _ _ (h.closed d o hw hpar).2⟩
  rcases honly d o hst with hin' | hw
  · rcases (hmem _).mp hin' with ⟨j, hj, e⟩ | ⟨j, hj, e⟩
    · -- a node of the path: its sibling came with it, its parent is the next node of the path
      obtain ⟨rfl, rfl⟩ := nodeAt_inj C bs _ _ _ _ e
      rcases Nat.eq_or_lt_of_le hj with rfl | hlt
      · exact hwas hstored
      · exact ⟨hsib j hlt, by rw [div_pow_succ']; exact hpath (j + 1) hlt⟩
    · -- a sibling of the path
      obtain ⟨rfl, rfl⟩ := nodeAt_inj C bs _ _ _ _ e
      rw [sib_sib, sib_half, div_pow_succ']
      exact ⟨hpath j (Nat.le_of_lt hj), hpath (j + 1) hj⟩
  · exact hwas hw

end HC.Growth

namespace HC.Replica
open HC HC.Codec HC.Flat HC.Tree HC.RefTree HC.RefProof HC.Sound HC.Offsets HC.TreeStore HC.Complete HC.UpgradeSound HC.CreateTotal HC.Oplog HC.Pow2 HC.Growth

theorem closed_left (C : Crypto) (bs : Array Bytes) (t : Tree) (f : File) (h : Closed C bs t f) (d o : Nat)
    (hst : t.node? f (Flat.index d o) = some (nodeAt C bs d o)) : LeftStored C bs bs.size t f (o * 2 ^ d) :=
  ((closedAt_full C bs t f).mpr h).left_stored d o hst

/-- sizes of the roots before a given one add up to the start of its span -/
theorem cover_prefix_sum (C : Crypto) (bs : Array Bytes) : ∀ (l : List (Nat × Nat)) (a b : Nat), Cover l a b →
    ∀ (r : Nat) (p : Nat × Nat), l[r]? = some p →
      (((l.map fun p => nodeAt C bs p.1 p.2).take r).map (·.length)).sum + psum bs a = psum bs (p.2 * 2 ^ p.1) := by
  intro l
  induction l with
  | nil => intro a b _ r p h; simp at h
  | cons q rest ih =>
    intro a b hc r p h
    cases hc with
    | cons d o _ _ _ ha hrest =>
      cases r with
      | zero =>
        simp only [List.getElem?_cons_zero, Option.some.injEq] at h
        subst h
        simp [ha]
      | succ r =>
        simp only [List.getElem?_cons_succ] at h
        have := ih _ _ hrest r p h
        simp only [List.map_cons, List.take_succ_cons, List.sum_cons]
        have hsz := nodeAt_len C bs d o
        rw [ha]
        omega

/-- the root that `findIdx?` finds by the index of `(d, o)` is `(d, o)`: the roots before it add up to the start of its span -/
theorem prefix_sum_of_findIdx (C : Crypto) (bs : Array Bytes) {l : List (Nat × Nat)} {a b : Nat} (hc : Cover l a b) (d o x : Nat)
    (h : (l.map fun p => nodeAt C bs p.1 p.2).findIdx? (fun r => r.index = (nodeAt C bs d o).index) = some x) :
    (((l.map fun p => nodeAt C bs p.1 p.2).take x).map (·.length)).sum + psum bs a = psum bs (o * 2 ^ d) := by
  obtain ⟨hx, hpx, _⟩ := List.findIdx?_eq_some_iff_getElem.mp h
  rw [List.length_map] at hx
  rw [List.getElem_map, decide_eq_true_eq] at hpx
  obtain ⟨e1, e2⟩ := index_inj _ _ d o hpx
  rw [← e1, ← e2]
  exact cover_prefix_sum C bs l a b hc x _ (List.getElem?_eq_getElem hx)

/-! `byte_offset_in_changeset` once its scan is known: the node the scan ends at is looked up among the changeset's roots. -/

theorem byteOffsetInChangeset_root (t : Tree) (f : File) (i : Nat) (cs : Changeset) (hne : t.length ≠ i) (off : Nat) (p : Node)
    (hscan : byteOffsetInChangeset.scan cs.nodes (iat 0 i) 0 false none = (off, some p)) (r : Nat)
    (hr : cs.roots.findIdx? (fun x => x.index = p.index) = some r) :
    t.byteOffsetInChangeset f i cs = .ok (off + ((cs.roots.take r).map (·.length)).sum) := by
  unfold Tree.byteOffsetInChangeset
  simp only [if_neg hne, new_even, hscan, hr]

theorem byteOffsetInChangeset_inner (t : Tree) (f : File) (i : Nat) (cs : Changeset) (hne : t.length ≠ i) (off : Nat) (p : Node)
    (hscan : byteOffsetInChangeset.scan cs.nodes (iat 0 i) 0 false none = (off, some p))
    (hr : cs.roots.findIdx? (fun x => x.index = p.index) = none) (o : Nat) (ho : t.byteOffsetFromNodes f p.index = .ok o) :
    t.byteOffsetInChangeset f i cs = .ok (o + off) := by
  unfold Tree.byteOffsetInChangeset
  simp only [if_neg hne, new_even, hscan, hr, ho]

/-- the byte offset of block `i` under the changeset of its accepted answer is the writer's: the scan follows the block's
    ancestors up to the stored one and adds up the left siblings below it; the start of that node's span comes from the
    roots before it if it is a root, and from the descent of `byte_offset_from_nodes` if it lies below one -/
theorem byteOffsetInChangeset_honest (C : Crypto) (bs : Array Bytes) (m : Nat) (t : Tree) (f : File) (h : ClosedAt C bs m t f)
    (hm : m < 2 ^ 64) (hroots : t.roots = (rootsStack m).reverse.map fun p => nodeAt C bs p.1 p.2) (i k : Nat) (hi : i < m)
    (hstored : t.node? f (Flat.index k (i / 2 ^ k)) = some (nodeAt C bs k (i / 2 ^ k)))
    (hin : (i / 2 ^ k + 1) * 2 ^ k ≤ m) :
    t.byteOffsetInChangeset f i { t.changeset with rnodes := upPath C bs 0 i k ++ [nodeAt C bs 0 i] } = .ok (psum bs i) := by
  have hne : t.length ≠ i := by rw [h.sparse.length]; exact Nat.ne_of_gt hi
  obtain ⟨r, hscan, hsum⟩ := scan_path C bs k 0 i 0
  simp only [Nat.zero_add, Nat.pow_zero, Nat.mul_one] at hscan hsum
  have hfirst : byteOffsetInChangeset.scan
      ({ t.changeset with rnodes := upPath C bs 0 i k ++ [nodeAt C bs 0 i] } : Changeset).nodes (iat 0 i) 0 false none
      = (r, some (nodeAt C bs k (i / 2 ^ k))) := by
    have heq : (nodeAt C bs 0 i).index = (iat 0 i).index := rfl
    have hir : (iat 0 i).isRight = decide (i % 2 = 1) := rfl
    rw [Changeset.nodes, path_reverse]
    simp only [byteOffsetInChangeset.scan, heq, ite_true, iat_parent, hir]
    exact hscan
  cases hfi : (t.roots.findIdx? fun x => x.index = (nodeAt C bs k (i / 2 ^ k)).index) with
  | some x =>
    have hps := prefix_sum_of_findIdx C bs (cover_roots m) k (i / 2 ^ k) x (hroots ▸ hfi)
    rw [byteOffsetInChangeset_root t f i _ hne r _ hfirst x hfi, ← hsum]
    exact congrArg (fun a => Except.ok (r + a)) ((congrArg (fun l => ((l.take x).map (·.length)).sum) hroots).trans hps)
  | none =>
    rw [byteOffsetInChangeset_inner t f i _ hne r _ hfirst hfi _
      (byteOffsetFromNodes_at C bs m t f hm hroots k _ hin (h.left_stored k _ hstored)),
      Nat.add_comm, hsum]

theorem byteRange_closed (C : Crypto) (bs : Array Bytes) (m : Nat) (t : Tree) (f : File) (h : ClosedAt C bs m t f)
    (hm : m < 2 ^ 64) (hroots : t.roots = (rootsStack m).reverse.map fun p => nodeAt C bs p.1 p.2) (i : Nat) (hi : i < m)
    (hleaf : t.node? f (Flat.index 0 i) = some (nodeAt C bs 0 i)) :
    t.byteRange f i = .ok (psum bs i, sz bs i) :=
  byteRange_stored C bs m t f hm h.sparse.length hroots i hi hleaf
    (by have := h.left_stored 0 i hleaf; rwa [Nat.pow_zero, Nat.mul_one] at this)

theorem block_commit_closed (C : Crypto) (hC : HashWF C) (bs : Array Bytes) (t : Tree) (f : File) (h : Closed C bs t f)
    (i k : Nat) (hstored : t.node? f (Flat.index k (i / 2 ^ k)) = some (nodeAt C bs k (i / 2 ^ k)))
    (hin : (i / 2 ^ k + 1) * 2 ^ k ≤ bs.size) (t' : Tree)
    (hu : t'.unflushed = insertAll t.unflushed (nodeAt C bs 0 i :: downPath C bs 0 i k))
    (hlen : t'.length = t.length) :
    Closed C bs t' f ∧ t'.node? f (Flat.index 0 i) = some (nodeAt C bs 0 i)
      ∧ (∀ d o, t.node? f (Flat.index d o) = some (nodeAt C bs d o) → t'.node? f (Flat.index d o) = some (nodeAt C bs d o)) := by
  obtain ⟨h1, h2, h3⟩ := ((closedAt_full C bs t f).mpr h).insert_path hC 0 i k (by rw [Nat.zero_add]; exact hstored)
    (by rw [Nat.zero_add]; exact hin) t' hu hlen
  exact ⟨(closedAt_full C bs t' f).mp h1, h2, h3⟩

/-- committing the accepted first upgrade makes an empty replica a closed one: it stores exactly the roots -/
theorem upgrade_commit_closed (C : Crypto) (hC : HashWF C) (bs : Array Bytes) (t : Tree) (f : File) (hS : Sparse C bs 0 t f) (t' : Tree)
    (hu : t'.unflushed = insertAll t.unflushed (RefTree.roots C bs)) (hlen : t'.length = bs.size) : Closed C bs t' f := by
  rw [roots_eq_rootsAt] at hu
  have hbound := rootsAt_inside C bs bs.size
  obtain ⟨hnew, hold, honly⟩ := insert_lookup C hC bs t t' f _ (refs_of_inside hbound) hu
  refine ⟨Sync.sparse_insert C hC bs 0 bs.size t t' f hS (Nat.zero_le _) _ hbound hu hlen ?_, ?_⟩
  · intro p hp
    exact Or.inl ⟨nodeAt C bs p.1 p.2, rootsAt_mem C bs hp, rfl⟩
  · intro d o hst hpar
    exfalso
    rcases honly d o hst with hin | hwas
    · -- a root's parent lies outside the tree
      obtain ⟨p, hp, e⟩ := List.mem_map.mp hin
      obtain ⟨rfl, rfl⟩ := nodeAt_inj C bs _ _ _ _ e
      exact Nat.lt_irrefl _ (Nat.lt_of_lt_of_le (root_parent_out bs.size p (List.mem_reverse.mp hp)) hpar)
    · -- nothing was stored before
      obtain ⟨d', o', _, _, hb⟩ := hS.sound _ _ hwas
      exact Nat.lt_irrefl _ (Nat.lt_of_lt_of_le (Nat.mul_pos (Nat.succ_pos o') (pow_pos' d')) hb)

/-! ### flushing the tree's nodes keeps every lookup -/

theorem byte_beyond (f : File) (j : Nat) (h : f.size ≤ j) : f.byte j = 0 := by
  unfold File.byte
  simp [Array.getD, File.size] at h ⊢
  omega

theorem writeSlots_zero (ns : List Node) (hw : ∀ n ∈ ns, n.hash.length = 32) : ∀ (f : File) (i : Nat), (∀ n ∈ ns, n.index ≠ i) →
    (∀ k, k < 40 → f.byte (i * 40 + k) = 0) → ∀ k, k < 40 → (writeSlots f ns).byte (i * 40 + k) = 0 := by
  induction ns with
  | nil => intro f i _ h; exact h
  | cons n rest ih =>
    intro f i hne h0
    simp only [writeSlots, List.foldl_cons]
    apply ih (fun x hx => hw x (by simp [hx])) _ i (fun x hx => hne x (by simp [hx]))
    intro k hk
    rw [File.byte_write]
    have hlen : (nodeBytes n).length = 40 := nodeBytes_length n (hw n (by simp))
    have : n.index ≠ i := hne n (by simp)
    have hN : Spec.nodeSize = 40 := rfl
    split
    · rename_i hin
      rw [hlen, hN] at hin
      omega
    · exact h0 k hk

theorem writeSlots_aligned (ns : List Node) (hw : ∀ n ∈ ns, n.hash.length = 32) : ∀ (f : File), f.size % 40 = 0 →
    (writeSlots f ns).size % 40 = 0 := by
  induction ns with
  | nil => intro f h; exact h
  | cons n rest ih =>
    intro f h
    simp only [writeSlots, List.foldl_cons]
    apply ih (fun x hx => hw x (by simp [hx]))
    rw [File.size_write, nodeBytes_length n (hw n (by simp))]
    have hN : Spec.nodeSize = 40 := rfl
    rw [hN]
    have : (n.index * 40 + 40) % 40 = 0 := by omega
    rcases Nat.le_total f.size (n.index * 40 + 40) with hle | hle
    · rw [Nat.max_eq_right hle]; exact this
    · rw [Nat.max_eq_left hle]; exact h

theorem blank_of_zero (i : Nat) (bytes : Bytes) (hl : bytes.length = 40) (hz : ∀ k, k < 40 → bytes.getD k 0 = 0) :
    (nodeOfBytes i bytes).blank = true := by
  unfold nodeOfBytes Codec.Node.blank
  simp only [List.all_eq_true, beq_iff_eq]
  intro x hx
  obtain ⟨k, hk, rfl⟩ := List.getElem_of_mem hx
  have hk' : k < 32 := by simp at hk; omega
  have := hz (8 + k) (by omega)
  rw [List.getD_eq_getElem?_getD, List.getElem?_eq_getElem (by omega)] at this
  simpa using this

theorem read_none_size (f : File) (hal : f.size % 40 = 0) (i : Nat) (h : f.read (i * Spec.nodeSize) Spec.nodeSize = none) :
    f.size ≤ i * 40 := by
  obtain ⟨q, hq⟩ := Nat.dvd_of_mod_eq_zero hal
  have h' : f.size < i * 40 + 40 := (File.read_eq_none_iff f _ _).mp h
  rw [hq, ← Nat.succ_mul, Nat.mul_comm 40 q] at h'
  rw [hq, Nat.mul_comm 40 q]
  exact Nat.mul_le_mul_right 40 (Nat.le_of_lt_succ (Nat.lt_of_mul_lt_mul_right h'))

theorem node?_of_zero (g : File) (i : Nat) (hz : ∀ k, k < 40 → g.byte (i * 40 + k) = 0) : ({} : Tree).node? g i = none := by
  cases hr : g.read (i * Spec.nodeSize) Spec.nodeSize with
  | none => simp only [Tree.node?, Std.HashMap.getElem?_empty, hr]
  | some bytes =>
    rw [node?_of_read g i bytes hr, blank_of_zero i bytes (File.read_length _ _ _ _ hr) fun k hk =>
      (File.read_byte _ _ _ _ hr k hk).trans (hz k hk)]
    rfl

/-- a store that reads slot `i` as `g` does where `g` has it, and holds zeros there where `g` ends before it, answers the
    lookup at `i` as `g` (`g` consists of whole slots, so slot `i` is inside it or beyond its end) -/
theorem node?_slot (g g' : File) (hal : g.size % 40 = 0) (i : Nat)
    (hkeep : ∀ bs, g.read (i * Spec.nodeSize) Spec.nodeSize = some bs → g'.read (i * Spec.nodeSize) Spec.nodeSize = some bs)
    (hzero : g.size ≤ i * 40 → ∀ k, k < 40 → g'.byte (i * 40 + k) = 0) :
    ({} : Tree).node? g' i = ({} : Tree).node? g i := by
  cases hr : g.read (i * Spec.nodeSize) Spec.nodeSize with
  | some bs => rw [node?_of_read g i bs hr, node?_of_read g' i bs (hkeep bs hr)]
  | none =>
    rw [node?_of_zero g' i (hzero (read_none_size g hal i hr))]
    simp only [Tree.node?, Std.HashMap.getElem?_empty, hr]

/-- slots that no node went to answer as before, also where the writes extended the store -/
theorem writeSlots_other (L : List Node) (hw : ∀ n ∈ L, n.hash.length = 32) (hd : L.Pairwise (fun a b => a.index ≠ b.index))
    (f : File) (hal : f.size % 40 = 0) (i : Nat) (hmiss : ∀ n ∈ L, n.index ≠ i) :
    ({} : Tree).node? (writeSlots f L) i = ({} : Tree).node? f i :=
  node?_slot f _ hal i (fun bs hr => (writeSlots_read L f hw hd).2 i bs hmiss hr)
    (fun hb => writeSlots_zero L hw f i hmiss fun _ _ => byte_beyond f _ (Nat.le_trans hb (Nat.le_add_right _ _)))

/-- `flush_nodes` moves the unflushed nodes to their slots: every lookup answers as before (the store's size is
    a multiple of the slot size, so no half slot can surface) -/
theorem flushList_lookup (t : Tree) (f : File) (hwf : MapWF t.unflushed) (hal : f.size % 40 = 0) :
    (∀ i, ({} : Tree).node? (writeSlots f (Crash.flushList t)) i = t.node? f i)
      ∧ (writeSlots f (Crash.flushList t)).size % 40 = 0 := by
  have hw := Crash.flushList_wf t hwf
  refine ⟨fun i => ?_, writeSlots_aligned _ (fun x hx => (hw x hx).1) f hal⟩
  rw [node?_split t f i]
  cases hu : t.unflushed[i]? with
  | some x =>
    have hidx := (hwf _ _ hu).1
    have := writeSlots_hit _ hw (Crash.flushList_distinct t hwf) f x ((Crash.flushList_mem t hwf x).mpr (hidx.symm ▸ hu))
    rw [hidx] at this
    exact this
  | none =>
    exact writeSlots_other _ (fun x hx => (hw x hx).1) (Crash.flushList_distinct t hwf) f hal i fun x hx e => by
      have := (Crash.flushList_mem t hwf x).mp hx; rw [e, hu] at this; cases this

theorem flush_lookup (t : Tree) (f : File) (hwf : MapWF t.unflushed) (hal : f.size % 40 = 0) :
    ∃ L : List Node, t.flush = ({ t with unflushed := {} }, L.map fun n => SOp.write .tree (n.index * Spec.nodeSize) (nodeBytes n))
      ∧ (∀ i, ({ t with unflushed := {} } : Tree).node? (writeSlots f L) i = t.node? f i)
      ∧ (writeSlots f L).size % 40 = 0 :=
  ⟨Crash.flushList t, rfl, fun i => (node?_congr {} _ _ _ rfl).trans ((flushList_lookup t f hwf hal).1 i), (flushList_lookup t f hwf hal).2⟩

end HC.Replica
