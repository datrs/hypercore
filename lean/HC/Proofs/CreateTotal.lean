import HC.Proofs.VerifyTotal
import HC.Proofs.Complete
import HC.Proofs.UpgradeSound
import HC.Proofs.FullRoots
/-!
`create_valueless_proof` returns a value or an error for **every** request — it never panics and never
loops (C09, the sending side).  Every loop of the Rust is a walk of a flat-tree iterator.  Climbs (`seek_proof`,
`block_and_seek_proof`, the "connect existing tree" walk of `upgrade_proof`) run `while iter.index() != root` and
are entered only when `root` contains the start, so they pass through `root` after `depth root − depth start`
steps; descents (`seek_trusted_tree`, `byte_offset_from_nodes`) lose a level per round; the loop over the full
roots takes one round per root of the length, of which there are at most 64.  Depths are at most 64 because the indices
are below 2^64 (`Canon`), so the fixed fuels of the model (80, 70) never run out.

The two loops of `upgrade_proof` are also described once for every tree, since the writer's answers (`UpgradeComplete`, `Growth`,
`BlockGrowWriter`, `NewBlockWriter`) need the same description: at the head, in `HC.Tree`, `treat` (what is done with one node),
`treatAll`, and one round of `upgradeLoop` and of `connectWalk` by the branch taken; in the section on the root loop, `rootWalk`
(the loop as a recursion over the list of roots) with `upgradeLoop_rootWalk`.  Totality and the honest answers are both
inductions over these lists, with no fuel and no iterator.
-/
namespace HC.Tree
open HC HC.Codec HC.Flat HC.RefProof

/-- what `upgrade_proof` does with a node it has decided on: the first one that holds the sub tree, while there is neither a
    block nor a seek section yet, goes to `block_and_seek_proof`; any other is fetched and sent -/
def treat (t : Tree) (f : File) (useSub : Bool) (ix : Option Indexed) (sk : Bool) (sub : Nat) (x : Iter) (acc : List Node) (p : LocalProof) :
    R (List Node × LocalProof) :=
  if (useSub && p.nodes.isNone && p.seek.isNone && x.contains sub) = true then
    andThen (t.blockAndSeekProof f ix sk sub x.index p) fun p' => .ok (acc, p')
  else andThen (t.requiredNode f x.index) fun n => .ok (acc ++ [n], p)

/-- `treat` along a list of node positions -/
def treatAll (t : Tree) (f : File) (useSub : Bool) (ix : Option Indexed) (sk : Bool) (sub : Nat) :
    List (Nat × Nat) → List Node → LocalProof → R (List Node × LocalProof)
  | [], acc, p => .ok (acc, p)
  | x :: l, acc, p => andThen (t.treat f useSub ix sk sub (iat x.1 x.2) acc p) fun w => treatAll t f useSub ix sk sub l w.1 w.2

section
variable {t : Tree} {f : File} {useSub : Bool} {ix : Option Indexed} {sk : Bool} {frm upto sub root target fuel : Nat} {it r : Iter}
  {hasUp : Bool} {acc : List Node} {p : LocalProof}

theorem upgradeLoop_done (hfr : it.fullRoot upto = (false, r)) :
    t.upgradeLoop f useSub ix sk frm upto sub (fuel + 1) it hasUp acc p = .ok (hasUp, acc, p) := by
  rw [upgradeLoop, hfr]; rfl

theorem upgradeLoop_skip (hfr : it.fullRoot upto = (true, r)) (hs : r.index + r.factor / 2 < frm) :
    t.upgradeLoop f useSub ix sk frm upto sub (fuel + 1) it hasUp acc p
      = t.upgradeLoop f useSub ix sk frm upto sub fuel r.nextTree hasUp acc p := by
  rw [upgradeLoop, hfr]
  simp only [Bool.not_true, Bool.false_eq_true, if_false, if_pos hs]

theorem upgradeLoop_connect (hfr : it.fullRoot upto = (true, r)) (hs : ¬ r.index + r.factor / 2 < frm)
    (hc : (!hasUp && r.contains (frm - 2)) = true) :
    t.upgradeLoop f useSub ix sk frm upto sub (fuel + 1) it hasUp acc p
      = andThen (t.connectWalk f useSub ix sk sub r.index (frm - 2) 80 (Iter.new (frm - 2)) acc p) fun w =>
          t.upgradeLoop f useSub ix sk frm upto sub fuel r.nextTree true w.1 w.2 := by
  rw [upgradeLoop, hfr]
  simp only [Bool.not_true, Bool.false_eq_true, if_false, if_neg hs, if_pos hc]
  cases t.connectWalk f useSub ix sk sub r.index (frm - 2) 80 (Iter.new (frm - 2)) acc p <;> rfl

theorem treat_andThen {α : Type} {x : Iter} {K : List Node → LocalProof → R α} :
    andThen (t.treat f useSub ix sk sub x acc p) (fun w => K w.1 w.2)
      = if (useSub && p.nodes.isNone && p.seek.isNone && x.contains sub) = true then
          andThen (t.blockAndSeekProof f ix sk sub x.index p) fun p' => K acc p'
        else andThen (t.requiredNode f x.index) fun n => K (acc ++ [n]) p := by
  unfold treat
  split <;> rw [andThen_assoc] <;> rfl

theorem upgradeLoop_send (hfr : it.fullRoot upto = (true, r)) (hs : ¬ r.index + r.factor / 2 < frm)
    (hc : (!hasUp && r.contains (frm - 2)) = false) :
    t.upgradeLoop f useSub ix sk frm upto sub (fuel + 1) it hasUp acc p
      = andThen (t.treat f useSub ix sk sub r acc p) fun w => t.upgradeLoop f useSub ix sk frm upto sub fuel r.nextTree true w.1 w.2 := by
  rw [treat_andThen, upgradeLoop, hfr]
  simp only [Bool.not_true, Bool.false_eq_true, if_false, if_neg hs, hc]
  split
  · cases t.blockAndSeekProof f ix sk sub r.index p <;> rfl
  · cases t.requiredNode f r.index <;> rfl

theorem connectWalk_root (h : it.index = root) :
    t.connectWalk f useSub ix sk sub root target (fuel + 1) it acc p = .ok (acc, p) := by
  rw [connectWalk, if_pos h]

theorem connectWalk_pass (h : it.index ≠ root) (hs : ¬ it.sibling.index > target) :
    t.connectWalk f useSub ix sk sub root target (fuel + 1) it acc p
      = t.connectWalk f useSub ix sk sub root target fuel it.sibling.parent acc p := by
  rw [connectWalk, if_neg h]
  simp only [if_neg hs]

theorem connectWalk_send (h : it.index ≠ root) (hs : it.sibling.index > target) :
    t.connectWalk f useSub ix sk sub root target (fuel + 1) it acc p
      = andThen (t.treat f useSub ix sk sub it.sibling acc p) fun w =>
          t.connectWalk f useSub ix sk sub root target fuel it.sibling.parent w.1 w.2 := by
  rw [treat_andThen, connectWalk, if_neg h]
  simp only [if_pos hs]
  split
  · cases t.blockAndSeekProof f ix sk sub it.sibling.index p <;> rfl
  · cases t.requiredNode f it.sibling.index <;> rfl

theorem treatAll_append {l l' : List (Nat × Nat)} :
    t.treatAll f useSub ix sk sub (l ++ l') acc p
      = andThen (t.treatAll f useSub ix sk sub l acc p) fun w => t.treatAll f useSub ix sk sub l' w.1 w.2 := by
  induction l generalizing acc p with
  | nil => rfl
  | cons x l ih =>
    rw [List.cons_append, treatAll, treatAll, andThen_assoc]
    exact congrArg (andThen _) (funext fun w => ih)

end

end HC.Tree

namespace HC.CreateTotal
open HC HC.Codec HC.Flat HC.Tree HC.RefTree HC.RefProof HC.Sound HC.Offsets HC.TreeStore HC.Complete HC.UpgradeSound HC.Pow2 HC.FullRoots

def Yields {α : Type} (P : α → Prop) (r : R α) : Prop := NotPanic r ∧ ∀ x, r = .ok x → P x

theorem Yields.ok {α : Type} {P : α → Prop} {x : α} (h : P x) : Yields P (.ok x) := ⟨notPanic_ok x, fun _ hx => by cases hx; exact h⟩
theorem Yields.error {α : Type} {P : α → Prop} {e : Fail} (h : NotPanic (.error e : R α)) : Yields P (.error e) := ⟨h, fun _ hx => nomatch hx⟩
theorem Yields.err {α : Type} {P : α → Prop} : Yields P (.error .err : R α) := .error notPanic_err

/-- `(d, o)` lies below `(D, O)` -/
def Anc (d o D O : Nat) : Prop := d ≤ D ∧ o / 2 ^ (D - d) = O

/-- an odd multiple of `2^d` strictly between two neighbouring multiples of `2^(D+1)` belongs to a node
    below `(D, O)` -/
theorem odd_between (D O d o : Nat) (h1 : O * 2 ^ (D + 1) < (2 * o + 1) * 2 ^ d) (h2 : (2 * o + 1) * 2 ^ d < (O + 1) * 2 ^ (D + 1)) :
    Anc d o D O := by
  have hle : d ≤ D := by
    refine Nat.le_of_lt_succ (Nat.lt_of_not_le fun hge => ?_)
    -- it would be a multiple of `2^(D+1)` itself
    have hgap := mult_gap (2 ^ (D + 1)) _ _ (Nat.dvd_mul_left _ O) (Nat.dvd_mul_left_of_dvd (Nat.pow_dvd_pow 2 hge) _) h1
    exact Nat.lt_irrefl _ (Nat.lt_of_lt_of_le h2 (Nat.succ_mul O _ ▸ hgap))
  refine ⟨hle, ?_⟩
  obtain ⟨k, rfl⟩ := Nat.exists_eq_add_of_le hle
  have eP : ∀ x, x * 2 ^ (d + k + 1) = 2 * (x * 2 ^ k) * 2 ^ d := fun x => by
    rw [Nat.add_right_comm, Nat.pow_add, pow_succ2, Nat.mul_comm (2 * 2 ^ d), Nat.mul_assoc 2, ← Nat.mul_assoc x, Nat.mul_left_comm 2, ← Nat.mul_assoc]
  rw [eP] at h1 h2
  have a1 := Nat.lt_of_mul_lt_mul_right h1
  have a2 := Nat.lt_of_mul_lt_mul_right h2
  rw [Nat.add_sub_cancel_left]
  exact div_eq_of_span o k O (Nat.le_of_mul_le_mul_left (Nat.le_of_lt_succ a1) (by decide))
    (Nat.lt_of_mul_lt_mul_left (Nat.lt_trans (Nat.lt_succ_self _) a2))

theorem contains_anc (D O d o : Nat) (h : (iat D O).contains (Flat.index d o) = true) : Anc d o D O := by
  rw [iat_contains, Bool.and_eq_true, decide_eq_true_eq, decide_eq_true_eq] at h
  have hi := index_add_one d o
  exact odd_between D O d o (Nat.lt_of_le_of_lt h.1 (Nat.lt_of_lt_of_eq (Nat.lt_succ_self _) hi))
    (hi ▸ Nat.lt_of_succ_le h.2)

theorem anc_parent (d o D O : Nat) (h : Anc d o D O) (hne : d < D) : Anc (d + 1) (o / 2) D O := by
  refine ⟨hne, ?_⟩
  rw [div_pow_succ, ← Nat.sub_add_comm hne, Nat.add_sub_add_right]
  exact h.2

theorem anc_top (d o O : Nat) (h : Anc d o d O) : o = O := by
  have := h.2; rwa [Nat.sub_self, Nat.pow_zero, Nat.div_one] at this

/-- The climbs run `while iter.index() != root`, one level per round.  A property of (fuel, iterator) that holds
    at the root `(D, O)`, and at a node below the root once it holds at the parent with one round less, holds
    at every `(d, o)` below the root when the fuel exceeds the gap `D - d`. -/
theorem climb_induction (D O : Nat) (P : Nat → Iter → Prop) (hroot : ∀ fuel, P (fuel + 1) (iat D O))
    (hstep : ∀ fuel d o, d < D → P fuel (iat (d + 1) (o / 2)) → P (fuel + 1) (iat d o)) :
    ∀ (gap d o fuel : Nat), d + gap = D → Anc d o D O → gap < fuel → P fuel (iat d o) := by
  intro gap
  induction gap with
  | zero =>
    intro d o fuel hd ha hf
    obtain ⟨fuel, rfl⟩ := Nat.exists_eq_succ_of_ne_zero (Nat.ne_of_gt hf)
    subst hd
    rw [anc_top d o O ha]
    exact hroot fuel
  | succ gap ih =>
    intro d o fuel hd ha hf
    obtain ⟨fuel, rfl⟩ := Nat.exists_eq_succ_of_ne_zero (Nat.ne_of_gt (Nat.zero_lt_of_lt hf))
    have hlt : d < D := hd ▸ Nat.lt_add_of_pos_right (Nat.succ_pos gap)
    exact hstep fuel d o hlt (ih (d + 1) (o / 2) fuel ((Nat.add_right_comm d 1 gap).trans hd) (anc_parent d o D O ha hlt)
      (Nat.lt_of_succ_lt_succ hf))

theorem index_ne_root {d o D O : Nat} (h : d < D) : ¬ (iat d o).index = Flat.index D O := by
  rw [iat_index, index_eq_index_iff]; exact fun e => Nat.ne_of_lt h e.1

/-- a climb that starts below a root of depth at most 64 has a gap the fuel 80 covers -/
theorem anc_gap {d o D O : Nat} (ha : Anc d o D O) (hD : D ≤ 64) : d + (D - d) = D ∧ D - d < 80 :=
  ⟨Nat.add_sub_cancel' ha.1, Nat.lt_of_le_of_lt (Nat.sub_le D d) (Nat.lt_of_le_of_lt hD (by decide))⟩

/-! ### climbs -/

theorem seekProof_go_total (t : Tree) (f : File) (D O : Nat) :
    ∀ (gap d o fuel : Nat) (acc : List Node), d + gap = D → Anc d o D O → gap < fuel →
      NotPanic (seekProof.go t f (Flat.index D O) fuel (iat d o) acc) := by
  intro gap d o fuel acc hd ha hf
  refine climb_induction D O (fun fuel it => ∀ acc, NotPanic (seekProof.go t f (Flat.index D O) fuel it acc)) ?_ ?_
    gap d o fuel hd ha hf acc
  · intro fuel acc
    rw [seekProof.go, if_pos (iat_index D O)]
    exact notPanic_ok _
  · intro fuel d o hlt ih acc
    rw [seekProof.go, if_neg (index_ne_root hlt)]
    dsimp only
    split
    next e he => exact (requiredNode_notPanic t f _).of_error he
    next n _ => rw [iat_sib_parent]; exact ih _

theorem seekProof_total (t : Tree) (f : File) (seekRoot root : Nat) (p : LocalProof) (h1 : Canon seekRoot) (h2 : Canon root) :
    NotPanic (t.seekProof f seekRoot root p) := by
  obtain ⟨d, o, hd, rfl, hnew⟩ := canon_new seekRoot h1
  obtain ⟨D, O, hD, rfl, hNew⟩ := canon_new root h2
  unfold Tree.seekProof
  rw [hNew, hnew]
  refine of_ite (fun _ => notPanic_err) fun hc => ?_
  · have ha := contains_anc D O d o (by simpa using hc)
    split
    next e he => exact (requiredNode_notPanic t f _).of_error he
    next n0 _ =>
      split
      next e he => exact (seekProof_go_total t f D O (D - d) d o 80 [n0] (anc_gap ha hD).1 ha (anc_gap ha hD).2).of_error he
      next => exact notPanic_ok _

theorem blockAndSeekProof_go_total (t : Tree) (f : File) (isSeek : Bool) (seekRoot : Nat) (hs : Canon seekRoot) (D O : Nat) (hD : D ≤ 64) :
    ∀ (gap d o fuel : Nat) (acc : List Node) (p : LocalProof), d + gap = D → Anc d o D O → gap < fuel →
      NotPanic (blockAndSeekProof.go t f isSeek seekRoot (Flat.index D O) fuel (iat d o) acc p) := by
  intro gap d o fuel acc p hd ha hf
  refine climb_induction D O (fun fuel it => ∀ acc p, NotPanic (blockAndSeekProof.go t f isSeek seekRoot (Flat.index D O) fuel it acc p))
    ?_ ?_ gap d o fuel hd ha hf acc p
  · intro fuel acc p
    rw [blockAndSeekProof.go, if_pos (iat_index D O)]
    exact notPanic_ok _
  · intro fuel d o hlt ih acc p
    rw [blockAndSeekProof.go, if_neg (index_ne_root hlt)]
    dsimp only
    rw [iat_sib_parent]
    refine of_ite (fun _ => ?_) fun _ => ?_
    · split
      next e he =>
        refine (seekProof_total t f seekRoot _ p hs ?_).of_error he
        rw [iat_sibling]; exact canon_index d (sib o) (Nat.le_trans (Nat.le_of_lt hlt) hD)
      next => exact ih _ _
    · split
      next e he => exact (requiredNode_notPanic t f _).of_error he
      next => exact ih _ _

theorem blockAndSeekProof_total (t : Tree) (f : File) (indexed : Option Indexed) (isSeek : Bool) (seekRoot root : Nat) (p : LocalProof)
    (hix : ∀ ix, indexed = some ix → Canon ix.index) (h1 : Canon seekRoot) (h2 : Canon root) :
    NotPanic (t.blockAndSeekProof f indexed isSeek seekRoot root p) := by
  unfold Tree.blockAndSeekProof
  cases indexed with
  | none => exact seekProof_total t f seekRoot root p h1 h2
  | some ix =>
    obtain ⟨d, o, hd, hi, hnew⟩ := canon_new ix.index (hix ix rfl)
    obtain ⟨D, O, hD, rfl, hNew⟩ := canon_new root h2
    dsimp only
    rw [hNew, hnew]
    refine of_ite (fun _ => notPanic_err) fun hc => ?_
    · rw [hi] at hc
      have ha := contains_anc D O d o (by simpa using hc)
      split
      next e hst =>
        -- the start failed: only `required_node` can fail there
        split at hst
        · split at hst
          next e' he => cases hst; exact (requiredNode_notPanic t f _).of_error he
          next => cases hst
        · cases hst
      next ns0 _ =>
        split
        next e he =>
          exact (blockAndSeekProof_go_total t f isSeek seekRoot h1 D O hD (D - d) d o 80 ns0 p (anc_gap ha hD).1 ha (anc_gap ha hD).2).of_error he
        next => exact notPanic_ok _

theorem treat_notPanic {t : Tree} {f : File} {useSub : Bool} {indexed : Option Indexed} {isSeek : Bool} {subTree : Nat}
    (hix : ∀ ix, indexed = some ix → Canon ix.index) (hsub : Canon subTree) {x : Iter} (hx : Canon x.index) {acc : List Node} {p : LocalProof} :
    NotPanic (t.treat f useSub indexed isSeek subTree x acc p) :=
  of_ite (fun _ => andThen_notPanic _ _ (blockAndSeekProof_total t f indexed isSeek subTree _ p hix hsub hx) fun _ _ => notPanic_ok _)
    fun _ => andThen_notPanic _ _ (requiredNode_notPanic t f _) fun _ _ => notPanic_ok _

theorem connectWalk_total (t : Tree) (f : File) (useSub : Bool) (indexed : Option Indexed) (isSeek : Bool) (subTree : Nat)
    (hix : ∀ ix, indexed = some ix → Canon ix.index) (hsub : Canon subTree) (target D O : Nat) (hD : D ≤ 64) :
    ∀ (gap d o fuel : Nat) (acc : List Node) (p : LocalProof), d + gap = D → Anc d o D O → gap < fuel →
      NotPanic (connectWalk t f useSub indexed isSeek subTree (Flat.index D O) target fuel (iat d o) acc p) := by
  intro gap d o fuel acc p hd ha hf
  refine climb_induction D O (fun fuel it => ∀ acc p, NotPanic (connectWalk t f useSub indexed isSeek subTree (Flat.index D O) target fuel it acc p))
    ?_ ?_ gap d o fuel hd ha hf acc p
  · intro fuel acc p
    rw [connectWalk, if_pos (iat_index D O)]
    exact notPanic_ok _
  · intro fuel d o hlt ih acc p
    by_cases hs : (iat d o).sibling.index > target
    · rw [connectWalk_send (index_ne_root hlt) hs, iat_sib_parent, iat_sibling]
      exact andThen_notPanic _ _ (treat_notPanic hix hsub (canon_index d (sib o) (Nat.le_trans (Nat.le_of_lt hlt) hD))) fun _ _ => ih _ _
    · rw [connectWalk_pass (index_ne_root hlt) hs, iat_sib_parent]
      exact ih _ _

/-! ### the loop over the full roots -/

/-- the test "this root ends before `frm`" of the root loop, in leaves -/
theorem iat_skip_iff {d o frm : Nat} : (iat d o).index + (iat d o).factor / 2 < frm ↔ 2 * ((o + 1) * 2 ^ d) ≤ frm := by
  rw [iat_index, iat_factor_half, ← index_end]; exact Iff.rfl

/-- the root loop of `upgrade_proof` / `additional_upgrade_proof` as a recursion over the roots still to come: a root that ends
    before `frm` is skipped; the first other one starts the "connect existing tree" walk if it holds the leaf before `frm`;
    every other one is treated -/
def rootWalk (t : Tree) (f : File) (useSub : Bool) (ix : Option Indexed) (sk : Bool) (frm sub : Nat) :
    List (Nat × Nat) → Bool → List Node → LocalProof → R (Bool × List Node × LocalProof)
  | [], hasUp, acc, p => .ok (hasUp, acc, p)
  | x :: l, hasUp, acc, p =>
    if 2 * ((x.2 + 1) * 2 ^ x.1) ≤ frm then rootWalk t f useSub ix sk frm sub l hasUp acc p
    else if (!hasUp && (iat x.1 x.2).contains (frm - 2)) = true then
      andThen (t.connectWalk f useSub ix sk sub (Flat.index x.1 x.2) (frm - 2) 80 (Iter.new (frm - 2)) acc p) fun w =>
        rootWalk t f useSub ix sk frm sub l true w.1 w.2
    else andThen (t.treat f useSub ix sk sub (iat x.1 x.2) acc p) fun w => rootWalk t f useSub ix sk frm sub l true w.1 w.2

section
variable {t : Tree} {f : File} {useSub : Bool} {ix : Option Indexed} {sk : Bool} {frm sub T s fuel : Nat} {ln l : List (Nat × Nat)}
  {hasUp : Bool} {acc : List Node} {p : LocalProof}

/-- **the root loop is `rootWalk`** over the depth-decreasing cover of the leaves that remain (`full_root` / `next_tree` walk it
    position by position, `FullRoots.fullRoot_cover`), one round of fuel per root -/
theorem upgradeLoop_rootWalk (hT : T < 2 ^ 64) (hc : Cover ln s T) (hdec : DecDepth ln) (hal : Align s T) (hf : ln.length < fuel) :
    t.upgradeLoop f useSub ix sk frm (2 * T) sub fuel (iat 0 s) hasUp acc p = rootWalk t f useSub ix sk frm sub ln hasUp acc p := by
  induction ln generalizing fuel s hasUp acc p with
  | nil =>
    obtain ⟨fuel, rfl⟩ := Nat.exists_eq_add_one_of_ne_zero (Nat.ne_of_gt hf)
    rw [cover_nil_iff.mp hc, upgradeLoop_done (fullRoot_done T T (Nat.le_refl _))]
    rfl
  | cons q ln ih =>
    obtain ⟨d, o⟩ := q
    obtain ⟨fuel, rfl⟩ := Nat.exists_eq_add_one_of_ne_zero (Nat.ne_of_gt (Nat.zero_lt_of_lt hf))
    obtain ⟨hfr, hnext, -, -, hrest, hdec', hal'⟩ := fullRoot_cover hc hdec hal hT
    have next := fun {hu acc p} => ih (hasUp := hu) (acc := acc) (p := p) hrest hdec' hal' (Nat.lt_of_succ_lt_succ hf)
    rw [rootWalk]
    by_cases hs : 2 * ((o + 1) * 2 ^ d) ≤ frm
    · rw [if_pos hs, upgradeLoop_skip hfr (iat_skip_iff.mpr hs), hnext]
      exact next
    · rw [if_neg hs]
      have hs' := mt iat_skip_iff.mp hs
      cases hcw : (!hasUp && (iat d o).contains (frm - 2))
      · rw [upgradeLoop_send hfr hs' hcw, hnext, if_neg Bool.false_ne_true]
        exact congrArg (andThen _) (funext fun w => next)
      · rw [upgradeLoop_connect hfr hs' hcw, hnext, if_pos rfl]
        exact congrArg (andThen _) (funext fun w => next)

/-- once the upgrade section has begun, `rootWalk` treats every root that does not end before `frm` -/
theorem rootWalk_tail (h : ∀ x ∈ l, frm < 2 * ((x.2 + 1) * 2 ^ x.1)) :
    rootWalk t f useSub ix sk frm sub l true acc p = andThen (t.treatAll f useSub ix sk sub l acc p) fun w => .ok (true, w.1, w.2) := by
  induction l generalizing acc p with
  | nil => rfl
  | cons x l ih =>
    rw [rootWalk, if_neg (Nat.not_le_of_gt (h x (List.mem_cons_self ..))), if_neg (by exact Bool.false_ne_true), treatAll, andThen_assoc]
    exact congrArg (andThen _) (funext fun w => ih fun y hy => h y (List.mem_cons_of_mem _ hy))

/-- from a root that is not skipped and starts no walk on, `rootWalk` treats all roots -/
theorem rootWalk_roots {x : Nat × Nat} (h : ∀ y ∈ x :: l, frm < 2 * ((y.2 + 1) * 2 ^ y.1))
    (hnc : (!hasUp && (iat x.1 x.2).contains (frm - 2)) = false) :
    rootWalk t f useSub ix sk frm sub (x :: l) hasUp acc p = andThen (t.treatAll f useSub ix sk sub (x :: l) acc p) fun w => .ok (true, w.1, w.2) := by
  rw [rootWalk, if_neg (Nat.not_le_of_gt (h x (List.mem_cons_self ..))), if_neg (by rw [hnc]; decide), treatAll, andThen_assoc]
  exact congrArg (andThen _) (funext fun w => rootWalk_tail fun y hy => h y (List.mem_cons_of_mem _ hy))

/-- in a cover of `[s, n)`, no root ends before `frm ≤ 2 s` (the hypothesis of `rootWalk_tail` / `rootWalk_roots`) -/
theorem cover_noskip {s n : Nat} (hc : Cover l s n) (hfrm : frm ≤ 2 * s) : ∀ x ∈ l, frm < 2 * ((x.2 + 1) * 2 ^ x.1) :=
  fun x hx => Nat.lt_of_le_of_lt (Nat.le_trans hfrm (Nat.mul_le_mul_left 2 (hc.lower x hx)))
    (Nat.mul_lt_mul_of_pos_left (Nat.mul_lt_mul_of_pos_right (Nat.lt_succ_self _) (pow_pos' _)) (by decide))

theorem rootWalk_notPanic (hix : ∀ i, ix = some i → Canon i.index) (hsub : Canon sub) (hfrm : frm % 2 = 0) (hd : ∀ x ∈ ln, x.1 < 64) :
    NotPanic (rootWalk t f useSub ix sk frm sub ln hasUp acc p) := by
  induction ln generalizing hasUp acc p with
  | nil => exact notPanic_ok _
  | cons x ln ih =>
    have hx := hd x (List.mem_cons_self ..)
    have next := fun {hu acc p} => ih (hasUp := hu) (acc := acc) (p := p) fun y hy => hd y (List.mem_cons_of_mem _ hy)
    rw [rootWalk]
    refine of_ite (fun _ => next) fun _ => of_ite (fun hc => ?_) fun _ => ?_
    · -- connect the existing tree: climb from leaf `frm - 2` to this root, which holds it
      obtain ⟨m, hm⟩ : 2 ∣ frm - 2 := Nat.dvd_of_mod_eq_zero (Nat.sub_mod_eq_zero_of_mod_eq (hfrm.trans (Nat.mod_self 2).symm))
      rw [hm, ← index_zero] at hc
      rw [hm, new_even]
      exact andThen_notPanic _ _ (connectWalk_total t f useSub ix sk sub hix hsub (2 * m) x.1 x.2 (Nat.le_of_lt hx) x.1 0 m 80 acc p
        (Nat.zero_add _) (contains_anc x.1 x.2 0 m (Bool.and_eq_true_iff.mp hc).2) (Nat.lt_trans hx (by decide))) fun _ _ => next
    · exact andThen_notPanic _ _ (treat_notPanic hix hsub (canon_index x.1 x.2 (Nat.le_of_lt hx))) fun _ _ => next

end

theorem decDepth_length {l : List (Nat × Nat)} {k : Nat} (hd : DecDepth l) (hk : ∀ p ∈ l, p.1 < k) : l.length ≤ k := by
  induction l generalizing k with
  | nil => exact Nat.zero_le k
  | cons q l ih =>
    obtain ⟨hhead, htail⟩ := List.pairwise_cons.mp hd
    exact Nat.succ_le_of_lt (Nat.lt_of_le_of_lt (ih htail hhead) (hk q (List.mem_cons_self ..)))

/-- the roots from an aligned leaf `s` on: one per binary digit of `T - s` -/
theorem align_cover {s T k : Nat} (hal : Align s T) (hs : s ≤ T) (hk : T - s < 2 ^ k) :
    ∃ ln, Cover ln s T ∧ DecDepth ln ∧ ln.length ≤ k := by
  obtain ⟨m, hdvd, hlt⟩ := hal
  have hm : T - s < 2 ^ m := Nat.sub_lt_left_of_lt_add hs hlt
  rcases Nat.le_total k m with hkm | hmk
  · obtain ⟨l, _, hc, hdec, hd⟩ := fullRootsAux_cover k (T - s) s k hk (Nat.dvd_trans (Nat.pow_dvd_pow 2 hkm) hdvd) (Nat.le_refl k)
    exact ⟨l, Nat.add_sub_cancel' hs ▸ hc, hdec, decDepth_length hdec hd⟩
  · obtain ⟨l, _, hc, hdec, hd⟩ := fullRootsAux_cover m (T - s) s m hm hdvd (Nat.le_refl m)
    exact ⟨l, Nat.add_sub_cancel' hs ▸ hc, hdec, Nat.le_trans (decDepth_length hdec hd) hmk⟩

/-- one round of fuel per root, and fewer than `2^k` remaining leaves have at most `k` roots -/
theorem upgradeLoop_notPanic {t : Tree} {f : File} {useSub : Bool} {indexed : Option Indexed} {isSeek : Bool} {frm T subTree : Nat}
    (hix : ∀ ix, indexed = some ix → Canon ix.index) (hsub : Canon subTree) (hT : T < 2 ^ 64) (hfrm : frm % 2 = 0)
    {k s fuel : Nat} {hasUp : Bool} {acc : List Node} {p : LocalProof} (hk : T - s < 2 ^ k) (hf : k < fuel) (hal : Align s T) :
    NotPanic (upgradeLoop t f useSub indexed isSeek frm (2 * T) subTree fuel (iat 0 s) hasUp acc p) := by
  by_cases hs : s ≤ T
  · -- `upgrade_proof` itself starts at leaf 0, where `cover_roots` would do; `align_cover` (with `decDepth_length`) is there for the
    -- arbitrary aligned start `s` and the measure `T - s < 2^k` in the statement of `upgradeLoop_total`
    obtain ⟨ln, hc, hdec, hlen⟩ := align_cover hal hs hk
    rw [upgradeLoop_rootWalk hT hc hdec hal (Nat.lt_of_le_of_lt hlen hf)]
    exact rootWalk_notPanic hix hsub hfrm fun x hx => depth_lt_of_span (hc.bound x hx) hT
  · obtain ⟨fuel, rfl⟩ := Nat.exists_eq_succ_of_ne_zero (Nat.ne_of_gt (Nat.zero_lt_of_lt hf))
    rw [upgradeLoop_done (fullRoot_done s T (Nat.le_of_not_le hs))]
    exact notPanic_ok _

/-- the loop as `upgrade_proof` enters it (`hasUp` is `frm = 0`); the hypothesis on `hasUp` is not used -/
theorem upgradeLoop_total (t : Tree) (f : File) (useSub : Bool) (indexed : Option Indexed) (isSeek : Bool) (frm T subTree : Nat)
    (hix : ∀ ix, indexed = some ix → Canon ix.index) (hsub : Canon subTree) (hT : T < 2 ^ 64)
    (hfrm : frm % 2 = 0) :
    ∀ (k s fuel : Nat) (hasUp : Bool) (acc : List Node) (p : LocalProof), T - s < 2 ^ k → k < fuel → Align s T →
      (hasUp = false → 2 ≤ frm) →
      NotPanic (upgradeLoop t f useSub indexed isSeek frm (2 * T) subTree fuel (iat 0 s) hasUp acc p) :=
  fun _ _ _ _ _ _ hk hf hal _ => upgradeLoop_notPanic hix hsub hT hfrm hk hf hal

/-! ### descents -/

theorem seekTrusted_go_total (t : Tree) (f : File) :
    ∀ (d o fuel bytes : Nat), d < fuel →
      NotPanic (seekTrustedTree.go t f fuel (iat d o) bytes)
      ∧ ∀ r, seekTrustedTree.go t f fuel (iat d o) bytes = .ok r → ∃ d' o', r = Flat.index d' o' ∧ d' ≤ d := by
  show ∀ (d o fuel bytes : Nat), d < fuel →
    Yields (fun r => ∃ d' o', r = Flat.index d' o' ∧ d' ≤ d) (seekTrustedTree.go t f fuel (iat d o) bytes)
  intro d
  induction d with
  | zero =>
    intro o fuel bytes hf
    obtain ⟨fuel, rfl⟩ := Nat.exists_eq_succ_of_ne_zero (Nat.ne_of_gt hf)
    rw [seekTrustedTree.go, if_pos (iat_index_even o)]
    exact .ok ⟨0, o, rfl, Nat.le_refl _⟩
  | succ d ih =>
    intro o fuel bytes hf
    obtain ⟨fuel, rfl⟩ := Nat.exists_eq_succ_of_ne_zero (Nat.ne_of_gt (Nat.zero_lt_of_lt hf))
    have down : ∀ o' b, Yields (fun r => ∃ d' o', r = Flat.index d' o' ∧ d' ≤ d + 1) (seekTrustedTree.go t f fuel (iat d o') b) :=
      fun o' b =>
        have h := ih o' fuel b (Nat.lt_of_succ_lt_succ hf)
        ⟨h.1, fun r hr => let ⟨d', o'', e, hd⟩ := h.2 r hr; ⟨d', o'', e, Nat.le_succ_of_le hd⟩⟩
    rw [seekTrustedTree.go, if_neg (by rw [iat_index_odd]; decide), iat_leftChild]
    dsimp only
    split
    next n _ =>
      refine of_ite (fun _ => .ok ⟨d, 2 * o, rfl, Nat.le_succ d⟩) fun _ => of_ite (fun _ => down _ _) fun _ => ?_
      rw [iat_sibling_even d (2 * o) (Nat.mul_mod_right 2 o)]; exact down _ _
    next =>
      rw [iat_parent_even]
      exact .ok ⟨d + 1, o, rfl, Nat.le_refl _⟩

theorem offsetDescend_total (t : Tree) (f : File) (i : Nat) :
    ∀ (d o acc fuel : Nat), o * 2 ^ d ≤ i → i < (o + 1) * 2 ^ d → d < fuel →
      NotPanic (offsetDescend t f (2 * i) fuel (iat d o) acc) := by
  intro d
  induction d with
  | zero =>
    intro o acc fuel h1 h2 hf
    obtain ⟨fuel, rfl⟩ := Nat.exists_eq_succ_of_ne_zero (Nat.ne_of_gt hf)
    rw [Nat.pow_zero, Nat.mul_one] at h1 h2
    rw [Nat.le_antisymm h1 (Nat.le_of_lt_succ h2), offsetDescend_leaf]
    exact notPanic_ok _
  | succ d ih =>
    intro o acc fuel h1 h2 hf
    obtain ⟨fuel, rfl⟩ := Nat.exists_eq_succ_of_ne_zero (Nat.ne_of_gt (Nat.zero_lt_of_lt hf))
    have hlt : d < fuel := Nat.lt_of_succ_lt_succ hf
    rw [(child_spans d o).1] at h1
    rw [parent_end] at h2
    by_cases hl : i < (2 * o + 1) * 2 ^ d
    · rw [offsetDescend_left t f i fuel d o acc hl]
      exact ih (2 * o) acc fuel h1 hl hlt
    · obtain ⟨hne, hcmp⟩ := index_succ_cmp d o i
      rw [offsetDescend_succ, iat_index, if_neg hne, if_neg (fun h => hl (hcmp.mp h)), iat_leftChild,
        iat_sibling_even d (2 * o) (Nat.mul_mod_right 2 o)]
      exact andThen_notPanic _ _ (requiredNode_notPanic t f _) fun n _ => ih (2 * o + 1) _ fuel (Nat.le_of_not_lt hl) h2 hlt

/-- the tree's roots sit at the positions of a cover of its leaves (true of every reachable tree: the
    positions are the full roots of the length) -/
def RootShape (t : Tree) : Prop :=
  t.length < 2 ^ 64 ∧ ∃ l : List (Nat × Nat), Cover l 0 t.length ∧ t.roots.map (·.index) = l.map (fun p => Flat.index p.1 p.2)

theorem offsetGo_total (t : Tree) (f : File) (i n : Nat) (hn : n < 2 ^ 64) :
    ∀ (l : List (Nat × Nat)) (roots : List Node) (a acc : Nat), Cover l a n → roots.map (·.index) = l.map (fun p => Flat.index p.1 p.2) →
      a ≤ i → NotPanic (byteOffsetFromNodes.go t f (2 * i) roots (2 * a) acc) := by
  intro l
  induction l with
  | nil =>
    intro roots a acc _ hr _
    rw [List.map_nil, List.map_eq_nil_iff] at hr
    rw [hr, byteOffsetFromNodes.go]
    exact notPanic_err
  | cons p rest ih =>
    intro roots a acc hc hr ha
    obtain ⟨r, rs, rfl⟩ := List.exists_cons_of_ne_nil (l := roots) (by intro h; rw [h] at hr; cases hr)
    rw [List.map_cons, List.map_cons, List.cons.injEq] at hr
    cases hc with
    | cons d o _ _ _ hao hrest =>
      rw [go_cons, hr.1, hao, index_head]
      refine of_ite (fun hge => ih rs ((o + 1) * 2 ^ d) _ hrest hr.2 (Nat.le_of_mul_le_mul_left hge (by decide))) fun hlt => ?_
      · rw [new_index_of_span hrest.le hn]
        -- the model's fuel 70 against a root of depth below 64
        exact offsetDescend_total t f i d o acc 70 (hao ▸ ha) (Nat.lt_of_not_le fun h => hlt (Nat.mul_le_mul_left 2 h))
          (Nat.lt_trans (depth_lt_of_span hrest.le hn) (by decide))

theorem leftSpan_even (i : Nat) (h : i % 2 = 1) : ∃ j, leftSpan i = 2 * j := by
  have hd : depth i ≠ 0 := by
    unfold depth depthAux
    simp [h]
  unfold leftSpan
  simp only [hd, ite_false]
  exact ⟨Flat.offset i * 2 ^ depth i, by rw [pow_succ2]; ring⟩

theorem byteOffsetFromNodes_total (t : Tree) (f : File) (hT : RootShape t) (index : Nat) :
    NotPanic (t.byteOffsetFromNodes f index) := by
  obtain ⟨hn, l, hc, hr⟩ := hT
  have key : ∀ j, NotPanic (byteOffsetFromNodes.go t f (2 * j) t.roots (2 * 0) 0) := fun j =>
    offsetGo_total t f j t.length hn l t.roots 0 0 hc hr (Nat.zero_le _)
  unfold Tree.byteOffsetFromNodes
  by_cases ho : index % 2 = 1
  · obtain ⟨j, hj⟩ := leftSpan_even index ho
    rw [if_pos ho, hj]
    exact key j
  · have e : 2 * (index / 2) = index := by
      have := Nat.div_add_mod index 2
      rwa [(Nat.mod_two_eq_zero_or_one index).resolve_right ho, Nat.add_zero] at this
    rw [if_neg ho, ← e]
    exact key _

/-! ### seeks -/

theorem seekTrustedTree_total (t : Tree) (f : File) (root bytes : Nat) (h : Canon root) :
    Yields Canon (t.seekTrustedTree f root bytes) := by
  obtain ⟨d, o, hd, hi, hnew⟩ := canon_new root h
  unfold Tree.seekTrustedTree
  refine of_ite (fun _ => .ok h) fun _ => ?_
  · rw [hnew]
    -- the model's fuel 80 against a depth of at most 64
    obtain ⟨h1, h2⟩ := seekTrusted_go_total t f d o 80 bytes (Nat.lt_of_le_of_lt hd (by decide))
    exact ⟨h1, fun r hr => let ⟨d', o', e, hd'⟩ := h2 r hr; ⟨d', o', e, Nat.le_trans hd' hd⟩⟩

theorem seekUntrustedTree_total (t : Tree) (f : File) (hT : RootShape t) (root bytes : Nat) (h : Canon root) :
    Yields Canon (t.seekUntrustedTree f root bytes) := by
  unfold Tree.seekUntrustedTree
  split
  next e he => exact .error ((byteOffsetFromNodes_total t f hT root).of_error he)
  next off _ =>
    dsimp only
    refine of_ite (fun _ => .err) fun _ => of_ite (fun _ => .ok h) fun _ => ?_
    split
    next e he => exact .error ((requiredNode_notPanic t f root).of_error he)
    next n _ => exact of_ite (fun _ => .err) fun _ => seekTrustedTree_total t f root _ h

theorem seekFromHead_go_total (t : Tree) (f : File) (head : Nat) (hh : Canon head) :
    ∀ (rs : List Nat) (bytes : Nat), (∀ r ∈ rs, Canon r) → Yields Canon (seekFromHead.go t f head rs bytes) := by
  intro rs
  induction rs with
  | nil => intro bytes _; exact .ok hh
  | cons r rs ih =>
    intro bytes hrs
    rw [seekFromHead.go]
    split
    next e he => exact .error ((requiredNode_notPanic t f r).of_error he)
    next n _ =>
      exact of_ite (fun _ => .ok (hrs r List.mem_cons_self)) fun _ =>
        of_ite (fun _ => ih _ (fun x hx => hrs x (List.mem_cons_of_mem _ hx))) fun _ =>
          seekTrustedTree_total t f r bytes (hrs r List.mem_cons_self)

theorem seekFromHead_total (t : Tree) (f : File) (T bytes : Nat) (hT : T < 2 ^ 64) :
    Yields Canon (t.seekFromHead f (2 * T) bytes) := by
  unfold Tree.seekFromHead
  apply seekFromHead_go_total t f (2 * T) (canon_even T)
  intro r hr
  rw [HC.FullRoots.fullRoots_eq T hT] at hr
  obtain ⟨p, hp, rfl⟩ := List.mem_map.mp hr
  exact canon_index p.1 p.2 (Nat.le_of_lt (depth_lt_of_span (rootsStack_bound T p (List.mem_reverse.mp hp)) hT))

/-! ### `nodes_to_root` stays below depth 65 -/

/-- the node `(65, 0)` spans every flat index up to `2^66 - 2`: `nodes_to_root` stops before it climbs there -/
theorem depth_le_of_not_contains {head d o : Nat} (hh : head + 2 ≤ 2 ^ 66) (hd : d ≤ 64) (ho : o * 2 ^ d < 2 ^ 64)
    (hc : ¬ (iat (d + 1) (o / 2)).contains head = true) : d + 1 ≤ 64 := by
  refine Nat.lt_of_le_of_ne hd fun h64 => hc ?_
  subst h64
  have ho0 : o = 0 := Nat.lt_one_iff.mp (Nat.lt_of_mul_lt_mul_right (by rwa [Nat.one_mul]))
  rw [ho0, iat_contains, Nat.zero_mul, Nat.zero_add, Nat.one_mul]
  exact Bool.and_eq_true_iff.mpr ⟨decide_eq_true (Nat.zero_le _), decide_eq_true hh⟩

theorem nodesToRoot_go_canon (head : Nat) (hh : head + 2 ≤ 2 ^ 66) :
    ∀ (fuel n d o : Nat), d ≤ 64 → o * 2 ^ d < 2 ^ 64 →
      NotPanic (nodesToRoot.go head fuel n (iat d o)) ∧ ∀ r, nodesToRoot.go head fuel n (iat d o) = .ok r → Canon r := by
  show ∀ (fuel n d o : Nat), d ≤ 64 → o * 2 ^ d < 2 ^ 64 → Yields Canon (nodesToRoot.go head fuel n (iat d o))
  have stop : ∀ fuel d o, d ≤ 64 → Yields Canon (nodesToRoot.go head fuel 0 (iat d o)) := fun fuel d o hd => by
    rw [nodesToRoot.go]
    exact .ok (canon_index d o hd)
  intro fuel
  induction fuel with
  | zero =>
    intro n d o hd _
    cases n with
    | zero => exact stop 0 d o hd
    | succ n => exact .err
  | succ fuel ih =>
    intro n d o hd ho
    cases n with
    | zero => exact stop _ d o hd
    | succ n =>
      rw [nodesToRoot.go, iat_parent]
      exact of_ite (fun _ => .err) fun hc => ih n (d + 1) (o / 2) (depth_le_of_not_contains hh hd ho hc) (Nat.lt_of_le_of_lt (parent_start_le d o) ho)

theorem nodesToRoot_total (index nodes head : Nat) (hh : head + 2 ≤ 2 ^ 66) (hi : index < 2 ^ 65 - 1) :
    Yields Canon (nodesToRoot index nodes head) := by
  obtain ⟨d, o, hd, rfl, hnew⟩ := canon_new index (canon_of_lt index hi)
  unfold nodesToRoot
  rw [hnew]
  exact nodesToRoot_go_canon head hh 80 nodes d o hd
    (Nat.lt_of_mul_lt_mul_left (a := 2) (Nat.lt_of_le_of_lt (index_ge_start d o) (Nat.lt_of_lt_of_le hi (by decide))))

/-! ### the whole of `create_valueless_proof`, stage by stage

`staged` is the body of `create_valueless_proof` cut into four functions (`create_eq`, by `rfl`), each with its own lemma. -/

def indexedOf (block hash : Option RequestBlock) : Option Indexed :=
  match block, hash with
  | some b, _ => some ⟨true, b.index * 2, b.nodes, b.index⟩
  | none, some h => some ⟨false, h.index, h.nodes, rightSpan h.index / 2⟩
  | none, none => none

def stage1 (t : Tree) (f : File) (indexed : Option Indexed) (seek : Option RequestSeek) (upgrade : Option RequestUpgrade)
    (frm upto head : Nat) : R (Nat × LocalProof × Bool) :=
  match indexed with
  | none => .ok (head, {}, false)
  | some ix =>
    if seek.isSome && upgrade.isSome && ix.index ≥ frm then .error .err else
    let untrusted := match upgrade with
      | some u => decide (ix.lastIndex < u.start)
      | none => true
    if untrusted then
      match nodesToRoot ix.index ix.nodes upto with
      | .error e => .error e
      | .ok subTree =>
        let seekRoot : R Nat := match seek with
          | some s => t.seekUntrustedTree f subTree s.bytes
          | none => .ok head
        match seekRoot with
        | .error e => .error e
        | .ok sr =>
          match t.blockAndSeekProof f (some ix) seek.isSome sr subTree {} with
          | .error e => .error e
          | .ok p => .ok (subTree, p, true)
    else if upgrade.isSome then .ok (ix.index, {}, false)
    else .ok (head, {}, false)

def stage2 (t : Tree) (f : File) (seek : Option RequestSeek) (upto subTree : Nat) (untrusted : Bool) : R Nat :=
  if !untrusted then
    match seek with
    | some s => t.seekFromHead f upto s.bytes
    | none => .ok subTree
  else .ok subTree

def stage3 (t : Tree) (f : File) (indexed : Option Indexed) (seek : Option RequestSeek) (upgrade : Option RequestUpgrade)
    (frm upto head subTree : Nat) (p : LocalProof) : R LocalProof :=
  if upgrade.isSome then
    match t.upgradeProof f indexed seek.isSome frm upto subTree p with
    | .error e => .error e
    | .ok p1 => if head > upto then t.additionalUpgradeProof f upto head p1 else .ok p1
  else .ok p

def assemble (t : Tree) (block hash : Option RequestBlock) (seek : Option RequestSeek) (upgrade : Option RequestUpgrade)
    (p : LocalProof) : R ValuelessProof :=
  let blk : R (Option DataHash) := match block with
    | some b => (match p.nodes with | some ns => .ok (some ⟨b.index, ns⟩) | none => .error .err)
    | none => .ok none
  let hsh : R (Option DataHash) := match block, hash with
    | none, some h => (match p.nodes with | some ns => .ok (some ⟨h.index, ns⟩) | none => .error .err)
    | _, _ => .ok none
  let sk : Option DataSeek := match seek with
    | some s => p.seek.map fun ns => ⟨s.bytes, ns⟩
    | none => none
  let up : R (Option DataUpgrade) := match upgrade with
    | some u =>
      (match p.upgrade, t.signature with
       | some ns, some sig => .ok (some ⟨u.start, u.length, ns, p.additional.getD [], sig⟩)
       | _, _ => .error .err)
    | none => .ok none
  match blk, hsh, up with
  | .ok b, .ok h, .ok u => .ok ⟨t.fork, b, h, sk, u⟩
  | .error e, _, _ => .error e
  | _, .error e, _ => .error e
  | _, _, .error e => .error e

def staged (t : Tree) (f : File) (block hash : Option RequestBlock) (seek : Option RequestSeek) (upgrade : Option RequestUpgrade)
    (frm upto : Nat) : R ValuelessProof :=
  let head := 2 * t.length
  if frm ≥ upto ∨ upto > head then .error .err else
  match stage1 t f (indexedOf block hash) seek upgrade frm upto head with
  | .error e => .error e
  | .ok (subTree, p, untrusted) =>
    match stage2 t f seek upto subTree untrusted with
    | .error e => .error e
    | .ok subTree =>
      match stage3 t f (indexedOf block hash) seek upgrade frm upto head subTree p with
      | .error e => .error e
      | .ok p => assemble t block hash seek upgrade p

theorem create_eq (t : Tree) (f : File) (block hash : Option RequestBlock) (seek : Option RequestSeek) (upgrade : Option RequestUpgrade) :
    t.createValuelessProof f block hash seek upgrade
      = match upgrade with
        | some u => staged t f block hash seek upgrade (u.start * 2) (u.start * 2 + u.length * 2)
        | none => staged t f block hash seek upgrade 0 (2 * t.length) := by
  cases upgrade <;> rfl

theorem indexedOf_index_lt (block hash : Option RequestBlock)
    (hb : ∀ b, block = some b → b.index < 2 ^ 63) (hh : ∀ h, hash = some h → h.index < 2 ^ 65 - 1) :
    ∀ ix, indexedOf block hash = some ix → ix.index < 2 ^ 65 - 1 := by
  intro ix hix
  unfold indexedOf at hix
  cases block with
  | some b => cases hix; exact Nat.lt_of_lt_of_le (Nat.mul_lt_mul_of_pos_right (hb b rfl) (by decide)) (by decide)
  | none =>
    cases hash with
    | some h => cases hix; exact hh h rfl
    | none => cases hix

theorem stage1_total (t : Tree) (f : File) (hT : RootShape t) (indexed : Option Indexed) (seek : Option RequestSeek)
    (upgrade : Option RequestUpgrade) (frm upto : Nat) (hix : ∀ ix, indexed = some ix → ix.index < 2 ^ 65 - 1)
    (hup : upto + 2 ≤ 2 ^ 66) :
    Yields (fun r => Canon r.1) (stage1 t f indexed seek upgrade frm upto (2 * t.length)) := by
  have hhead : Canon (2 * t.length) := canon_even _
  unfold stage1
  split
  · exact .ok hhead
  next ix =>
    have hci : Canon ix.index := canon_of_lt _ (hix ix rfl)
    dsimp only
    refine of_ite (fun _ => .err) fun _ => ?_
    · generalize (match upgrade with | some u => decide (ix.lastIndex < u.start) | none => true) = untrusted
      refine of_ite (fun _ => ?_) fun _ => of_ite (fun _ => .ok hci) fun _ => .ok hhead
      · obtain ⟨n1, n2⟩ := nodesToRoot_total ix.index ix.nodes upto hup (hix ix rfl)
        split
        next e he => exact .error (n1.of_error he)
        next subTree hn =>
          have hcs : Canon subTree := n2 subTree hn
          split
          next e he =>
            refine .error (NotPanic.of_error ?_ he)
            split
            · exact (seekUntrustedTree_total t f hT subTree _ hcs).1
            · exact notPanic_ok _
          next sr hsr =>
            have hsr : Canon sr := by
              split at hsr
              · exact (seekUntrustedTree_total t f hT subTree _ hcs).2 sr hsr
              · cases hsr; exact hhead
            split
            next e he =>
              exact .error ((blockAndSeekProof_total t f (some ix) seek.isSome sr subTree {} (fun _ h => by cases h; exact hci) hsr hcs).of_error he)
            next => exact .ok hcs

theorem stage2_total (t : Tree) (f : File) (seek : Option RequestSeek) (T subTree : Nat) (untrusted : Bool)
    (hT : T < 2 ^ 64) (hs : Canon subTree) : Yields Canon (stage2 t f seek (2 * T) subTree untrusted) := by
  unfold stage2
  refine of_ite (fun _ => ?_) fun _ => .ok hs
  split
  · exact seekFromHead_total t f T _ hT
  · exact .ok hs

theorem upgradeProof_total (t : Tree) (f : File) (indexed : Option Indexed) (isSeek : Bool) (frm T subTree : Nat) (p : LocalProof)
    (hix : ∀ ix, indexed = some ix → Canon ix.index) (hsub : Canon subTree) (hT : T < 2 ^ 64) (hfrm : frm % 2 = 0) :
    NotPanic (t.upgradeProof f indexed isSeek frm (2 * T) subTree p) := by
  unfold Tree.upgradeProof
  rw [show Iter.new 0 = iat 0 0 from new_even 0]
  split
  next e he =>
    -- fewer than `2^64` leaves: 64 rounds, and the model gives fuel 80
    exact (upgradeLoop_notPanic hix hsub hT hfrm (Nat.lt_of_le_of_lt (Nat.sub_le _ _) hT) (by decide) (align_zero T)).of_error he
  next => exact notPanic_ok _

theorem additionalUpgradeProof_total (t : Tree) (f : File) (frm T : Nat) (p : LocalProof) (hT : T < 2 ^ 64) (hfrm : frm % 2 = 0) :
    NotPanic (t.additionalUpgradeProof f frm (2 * T) p) := by
  unfold Tree.additionalUpgradeProof
  rw [show Iter.new 0 = iat 0 0 from new_even 0]
  split
  next e he =>
    exact (upgradeLoop_notPanic (indexed := none) (fun _ h => nomatch h) (canon_even 0) hT hfrm (Nat.lt_of_le_of_lt (Nat.sub_le _ _) hT) (by decide)
      (align_zero T)).of_error he
  next => exact notPanic_ok _

theorem stage3_total (t : Tree) (f : File) (hT : RootShape t) (indexed : Option Indexed) (seek : Option RequestSeek)
    (upgrade : Option RequestUpgrade) (frm T subTree : Nat) (p : LocalProof)
    (hix : ∀ ix, indexed = some ix → Canon ix.index) (hsub : Canon subTree) (hTT : T < 2 ^ 64) (hfrm : frm % 2 = 0) :
    NotPanic (stage3 t f indexed seek upgrade frm (2 * T) (2 * t.length) subTree p) := by
  unfold stage3
  refine of_ite (fun _ => ?_) fun _ => notPanic_ok _
  split
  next e he => exact (upgradeProof_total t f indexed seek.isSome frm T subTree p hix hsub hTT hfrm).of_error he
  next p1 _ =>
    exact of_ite (fun _ => additionalUpgradeProof_total t f (2 * T) t.length p1 hT.1 (Nat.mul_mod_right 2 T)) fun _ => notPanic_ok _

theorem assemble_total (t : Tree) (block hash : Option RequestBlock) (seek : Option RequestSeek) (upgrade : Option RequestUpgrade)
    (p : LocalProof) : NotPanic (assemble t block hash seek upgrade p) := by
  unfold assemble
  dsimp only
  split
  · exact notPanic_ok _
  next e he =>
    refine NotPanic.of_error ?_ he
    split
    · split
      · exact notPanic_ok _
      · exact notPanic_err
    · exact notPanic_ok _
  next e he _ =>
    refine NotPanic.of_error ?_ he
    split
    · split
      · exact notPanic_ok _
      · exact notPanic_err
    · exact notPanic_ok _
  next e he _ _ =>
    refine NotPanic.of_error ?_ he
    split
    · split
      · exact notPanic_ok _
      · exact notPanic_err
    · exact notPanic_ok _

/-- the block section of an assembled proof names the requested block -/
theorem assemble_block {t : Tree} {b : RequestBlock} {hash : Option RequestBlock} {seek : Option RequestSeek} {upgrade : Option RequestUpgrade}
    {p : LocalProof} {vp : ValuelessProof} (h : assemble t (some b) hash seek upgrade p = .ok vp) : ∃ ns, vp.block = some ⟨b.index, ns⟩ := by
  unfold assemble at h
  cases hn : p.nodes with
  | none => rw [hn] at h; cases h
  | some ns =>
    rw [hn] at h
    dsimp only at h
    split at h
    · rename_i bb _ _ e1 _ _
      cases e1; cases h; exact ⟨ns, rfl⟩
    all_goals cases h

/-- whatever `create_valueless_proof` returns was assembled from a local proof: the four stages before can only fail -/
theorem create_assembled {t : Tree} {f : File} {block hash : Option RequestBlock} {seek : Option RequestSeek} {upgrade : Option RequestUpgrade}
    {vp : ValuelessProof} (h : t.createValuelessProof f block hash seek upgrade = .ok vp) :
    ∃ p, assemble t block hash seek upgrade p = .ok vp := by
  have key : ∀ frm upto, staged t f block hash seek upgrade frm upto = .ok vp → ∃ p, assemble t block hash seek upgrade p = .ok vp := by
    intro frm upto hs
    unfold staged at hs
    dsimp only at hs
    split at hs
    · cases hs
    split at hs
    · cases hs
    split at hs
    · cases hs
    split at hs
    · cases hs
    exact ⟨_, hs⟩
  rw [create_eq] at h
  cases upgrade <;> exact key _ _ h

theorem staged_total (t : Tree) (f : File) (hT : RootShape t) (block hash : Option RequestBlock) (seek : Option RequestSeek)
    (upgrade : Option RequestUpgrade) (frm T : Nat) (hfrm : frm % 2 = 0)
    (hb : ∀ b, block = some b → b.index < 2 ^ 63) (hh : ∀ h, hash = some h → h.index < 2 ^ 65 - 1) :
    NotPanic (staged t f block hash seek upgrade frm (2 * T)) := by
  unfold staged
  dsimp only
  refine of_ite (fun _ => notPanic_err) fun hg => ?_
  · -- the upper end of the request does not lie beyond the tree
    have hle : T ≤ t.length := Nat.le_of_mul_le_mul_left (Nat.le_of_not_lt fun h => hg (Or.inr h)) (by decide)
    have hTT : T < 2 ^ 64 := Nat.lt_of_le_of_lt hle hT.1
    have hix := indexedOf_index_lt block hash hb hh
    obtain ⟨s1, s1c⟩ := stage1_total t f hT (indexedOf block hash) seek upgrade frm (2 * T) hix
      (Nat.le_trans (Nat.mul_le_mul_left 2 (Nat.succ_le_of_lt hTT)) (by decide))
    split
    next e he => exact s1.of_error he
    next subTree p untrusted h1 =>
      obtain ⟨s2, s2c⟩ := stage2_total t f seek T subTree untrusted hTT (s1c _ h1)
      split
      next e he => exact s2.of_error he
      next subTree2 h2 =>
        split
        next e he =>
          exact (stage3_total t f hT (indexedOf block hash) seek upgrade frm T subTree2 p
            (fun ix h => canon_of_lt _ (hix ix h)) (s2c _ h2) hTT hfrm).of_error he
        next p3 _ => exact assemble_total t block hash seek upgrade p3

/-- **`create_valueless_proof` is total** (C09, sending side): for every tree whose roots sit at the root
    positions of its length, every store content and every request whose block / hash index is a `u64`
    (below 2^63 for a block, whose index is doubled; below 2^65 − 1 for a tree node) — any node counts, any
    seek offset, any upgrade window — the answer is a proof or an error, never a panic or a loop that does
    not end. -/
theorem create_total (t : Tree) (f : File) (hT : RootShape t) (block hash : Option RequestBlock) (seek : Option RequestSeek)
    (upgrade : Option RequestUpgrade)
    (hb : ∀ b, block = some b → b.index < 2 ^ 63) (hh : ∀ h, hash = some h → h.index < 2 ^ 65 - 1) :
    NotPanic (t.createValuelessProof f block hash seek upgrade) := by
  rw [create_eq]
  cases upgrade with
  | none => exact staged_total t f hT block hash seek none 0 t.length rfl hb hh
  | some u =>
    have e : u.start * 2 + u.length * 2 = 2 * (u.start + u.length) := by ring
    simp only [e]
    exact staged_total t f hT block hash seek (some u) (u.start * 2) (u.start + u.length) (Nat.mul_mod_left _ 2) hb hh

end HC.CreateTotal
