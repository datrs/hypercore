import HC.Model.Bitfield
import HC.Spec.LogSpec
import HC.Proofs.File
/-! What a range update does to each bit (`Bitfield.get_setRange`), and the incremental maintenance of the contiguous
    length: `LogSpec.firstMissing_spec` for the specification's scan, then in `HC.Core` the header's scan and
    `updateContiguous_spec`. -/
namespace HC.Bitfield

theorem size_setBits (bits : Array Bool) (v : Bool) (start n : Nat) :
    (setBits bits v start n).size = bits.size := by
  induction n generalizing bits start with
  | zero => rfl
  | succ n ih => rw [setBits, ih, Array.size_setIfInBounds]

theorem getD_setBits (bits : Array Bool) (v : Bool) (start n i : Nat) :
    (setBits bits v start n).getD i false =
      if start ≤ i ∧ i < start + n ∧ i < bits.size then v else bits.getD i false := by
  induction n generalizing bits start with
  | zero => exact (if_neg fun h => Nat.not_lt_of_ge h.1 h.2.1).symm
  | succ n ih =>
    -- the first bit of the range is set, then the rest: `i` is in the rest, or is the first, or is outside
    rw [setBits, ih, getD_setIfInBounds, Array.size_setIfInBounds, Nat.add_right_comm start 1 n]
    by_cases h : start + 1 ≤ i ∧ i < start + n + 1 ∧ i < bits.size
    · rw [if_pos h, if_pos ⟨Nat.le_of_succ_le h.1, h.2⟩]
    · by_cases h1 : start = i ∧ start < bits.size
      · rw [if_neg h, if_pos h1, if_pos ⟨Nat.le_of_eq h1.1, h1.1 ▸ Nat.lt_succ_of_le (Nat.le_add_right _ _), h1.1 ▸ h1.2⟩]
      · rw [if_neg h, if_neg h1, if_neg fun c => (Nat.eq_or_lt_of_le c.1).elim (fun e => h1 ⟨e, e ▸ c.2.2⟩) fun l => h ⟨l, c.2⟩]

theorem getD_grow (bits : Array Bool) (n i : Nat) : (grow bits n).getD i false = bits.getD i false := by
  unfold grow
  split
  · rw [Array.getD_eq_getD_getElem?, Array.getD_eq_getD_getElem?, Array.getElem?_append]
    split
    · rfl
    · next h => rw [Array.getElem?_replicate, Array.getElem?_eq_none (Nat.le_of_not_lt h)]; split <;> rfl
  · rfl

theorem size_grow (bits : Array Bool) (n : Nat) : (grow bits n).size = max bits.size n := by
  unfold grow
  split
  · next h =>
    rw [Array.size_append, Array.size_replicate, Nat.add_sub_cancel' (Nat.le_of_lt h), Nat.max_eq_right (Nat.le_of_lt h)]
  · next h => rw [Nat.max_eq_left (Nat.le_of_not_lt h)]

theorem get_setRange (b : Bitfield) (start len : Nat) (v : Bool) (i : Nat) :
    (b.setRange start len v).get i = if start ≤ i ∧ i < start + len then v else b.get i := by
  unfold setRange get
  simp only
  generalize hbits : (if v = true then grow b.bits (start + len) else b.bits) = bits
  have hget : bits.getD i false = b.bits.getD i false := by
    rw [← hbits]; split
    · exact getD_grow _ _ _
    · rfl
  -- a range that is set lies inside the grown array; one that is cleared may stick out, over bits that read `false`
  have hsize : v = true → start + len ≤ bits.size := by
    intro hv; rw [← hbits, if_pos hv, size_grow]; exact Nat.le_max_right _ _
  rw [getD_setBits, hget]
  by_cases hin : start ≤ i ∧ i < start + len
  · rw [if_pos hin]
    by_cases hsz : i < bits.size
    · rw [if_pos (by omega)]
    · rw [if_neg (fun h => hsz h.2.2), ← hget, getD_of_size_le _ _ _ (Nat.le_of_not_lt hsz)]
      cases v
      · rfl
      · exact absurd (Nat.lt_of_lt_of_le hin.2 (hsize rfl)) hsz
  · -- outside the range, so outside the range clamped to the array
    rw [if_neg hin, if_neg fun h => hin ⟨h.1, Nat.lt_of_lt_of_le h.2.1 (Nat.add_le_add_left (Nat.min_le_left _ _) _)⟩]

theorem get_setRange_in (b : Bitfield) (v : Bool) {start len i : Nat} (h1 : start ≤ i) (h2 : i < start + len) :
    (b.setRange start len v).get i = v := by
  rw [get_setRange, if_pos ⟨h1, h2⟩]

theorem get_setRange_out (b : Bitfield) (v : Bool) {start len i : Nat} (h : ¬ (start ≤ i ∧ i < start + len)) :
    (b.setRange start len v).get i = b.get i := by
  rw [get_setRange, if_neg h]

theorem setRange_dirty_eq (b : Bitfield) (start len : Nat) (v : Bool) :
    (b.setRange start len v).dirty
      = b.dirty ++ (changedPages b.bits v start len).filter fun p => !b.dirty.contains p := rfl

theorem ofFile_empty : ofFile File.empty = {} := rfl

end HC.Bitfield

namespace HC.LogSpec

/-- `firstMissing held fuel c` is the first index from `c` on that is not held, unless the fuel runs out before it -/
theorem firstMissing_spec (held : Nat → Bool) (fuel c : Nat) :
    (∀ i, c ≤ i → i < firstMissing held fuel c → held i = true) ∧ c ≤ firstMissing held fuel c
      ∧ firstMissing held fuel c ≤ c + fuel ∧ (firstMissing held fuel c < c + fuel → held (firstMissing held fuel c) = false) := by
  induction fuel generalizing c with
  | zero => exact ⟨fun i h1 h2 => absurd h2 (Nat.not_lt.mpr h1), Nat.le_refl _, Nat.le_refl _, fun h => absurd h (Nat.lt_irrefl _)⟩
  | succ fuel ih =>
    rw [firstMissing]
    by_cases hc : held c = true
    · obtain ⟨h1, h2, h3, h4⟩ := ih (c + 1)
      have e : c + 1 + fuel = c + (fuel + 1) := Nat.add_right_comm c 1 fuel
      rw [if_pos hc]
      refine ⟨fun i hi1 hi2 => ?_, Nat.le_of_succ_le h2, e ▸ h3, fun h => h4 (e ▸ h)⟩
      by_cases hic : i = c
      · rw [hic]; exact hc
      · exact h1 i (Nat.lt_of_le_of_ne hi1 (Ne.symm hic)) hi2
    · rw [if_neg hc]
      exact ⟨fun i h1 h2 => absurd h2 (Nat.not_lt.mpr h1), Nat.le_refl _, Nat.le_add_right _ _, fun _ => Bool.eq_false_iff.mpr hc⟩

end HC.LogSpec

namespace HC.Core
open HC.Oplog HC.LogSpec

/-- `c` is the first index whose block is not held -/
def FirstMissing (b : Bitfield) (c : Nat) : Prop := (∀ i, i < c → b.get i = true) ∧ b.get c = false

theorem scan_eq_firstMissing (b : Bitfield) (fuel c : Nat) : updateContiguous.scan b fuel c = firstMissing b.get fuel c := by
  induction fuel generalizing c with
  | zero => rfl
  | succ fuel ih => rw [updateContiguous.scan, firstMissing, ih]

theorem scan_spec (b : Bitfield) (fuel c : Nat) (hf : b.bits.size < c + fuel) :
    (∀ i, c ≤ i → i < updateContiguous.scan b fuel c → b.get i = true)
      ∧ b.get (updateContiguous.scan b fuel c) = false ∧ c ≤ updateContiguous.scan b fuel c := by
  rw [scan_eq_firstMissing]
  obtain ⟨h1, h2, _, h4⟩ := firstMissing_spec b.get fuel c
  refine ⟨h1, ?_, h2⟩
  -- with fuel beyond the size of the bits, a scan that runs out of fuel has left the bits
  rcases Nat.lt_or_ge (firstMissing b.get fuel c) (c + fuel) with h | h
  · exact h4 h
  · exact getD_of_size_le _ _ _ (Nat.le_trans (Nat.le_of_lt hf) h)

/-- C08 — one step of the incremental maintenance: if the hint is the first missing index before a
    range update, `update_contiguous_length` makes it the first missing index after it. -/
theorem updateContiguous_spec (h : Header) (b : Bitfield) (u : BitfieldUpdate)
    (hc : FirstMissing b h.contiguous) (hl : 0 < u.length) :
    FirstMissing (b.setRange u.start u.length (!u.drop))
      (updateContiguous h (b.setRange u.start u.length (!u.drop)) u).contiguous := by
  obtain ⟨hlt, hat⟩ := hc
  unfold updateContiguous
  cases hd : u.drop with
  | true =>
    -- a cleared range lowers the hint to its start if it begins below the hint
    rw [if_pos rfl]
    by_cases hgt : h.contiguous > u.start
    · rw [if_pos hgt]
      exact ⟨fun i hi => (Bitfield.get_setRange_out b false (fun hin => Nat.not_lt.mpr hin.1 hi)).trans
          (hlt i (Nat.lt_trans hi hgt)),
        Bitfield.get_setRange_in b false (Nat.le_refl _) (Nat.lt_add_of_pos_right hl)⟩
    · rw [if_neg hgt]
      refine ⟨fun i hi => (Bitfield.get_setRange_out b false
        fun hin => Nat.not_le_of_lt (Nat.lt_of_lt_of_le hi (Nat.le_of_not_gt hgt)) hin.1).trans (hlt i hi), ?_⟩
      rw [Bitfield.get_setRange]
      split
      · rfl
      · exact hat
  | false =>
    rw [if_neg Bool.false_ne_true]
    by_cases hin : h.contiguous ≤ u.start + u.length ∧ h.contiguous ≥ u.start
    · -- the set range contains or touches the hint: everything below its end is held, scan on from there
      rw [if_pos hin]
      obtain ⟨s1, s2, -⟩ := scan_spec (b.setRange u.start u.length true)
        ((b.setRange u.start u.length true).bits.size + 1) (u.start + u.length)
        (Nat.lt_of_lt_of_le (Nat.lt_succ_self _) (Nat.le_add_left _ _))
      refine ⟨fun i hi => ?_, s2⟩
      by_cases h1 : u.start + u.length ≤ i
      · exact s1 i h1 hi
      · by_cases h2 : u.start ≤ i
        · exact Bitfield.get_setRange_in b true h2 (Nat.lt_of_not_le h1)
        · exact (Bitfield.get_setRange_out b true (fun h => h2 h.1)).trans (hlt i (Nat.lt_of_lt_of_le (Nat.lt_of_not_le h2) hin.2))
    · rw [if_neg hin]
      refine ⟨fun i hi => ?_, (Bitfield.get_setRange_out b true fun h => hin ⟨Nat.le_of_lt h.2, h.1⟩).trans hat⟩
      rw [Bitfield.get_setRange]
      split
      · rfl
      · exact hlt i hi

end HC.Core
