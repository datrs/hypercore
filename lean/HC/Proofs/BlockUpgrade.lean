import HC.Proofs.HashReq
/-!
A block of the part the replica already has, **together with an upgrade** in one proof (C03, tree level).

`verify_proof` hashes the block's path up to the stored ancestor and hands that root to `verify_upgrade` as the *extra*
node of its queue.  It lies inside the old tree, so no position the upgrade asks for is its position and the upgrade
runs as it does without a block (`verifyUpgrade_extra`).  The second half is the block's byte offset under the resulting
changeset: `byte_offset_in_changeset` scans the recorded nodes for the block's ancestors and stops at a root of the new
length or at a node whose parent is in the old tree (`scan_end`).  The scan with its full state (`BlockNewOffset.scanS`,
`scanS_chain`, `cover_find_root`, in their own namespace in the middle of the file) is shared with a block of the new part.
-/
namespace HC.BlockUpgrade
open HC HC.Codec HC.Flat HC.Tree HC.RefTree HC.RefProof HC.Sound HC.Offsets HC.TreeStore HC.Complete HC.UpgradeSound
  HC.Replica HC.Growth HC.HashReq

/-! ### an extra node that is never asked for -/

/-- `qx` is `q` with the extra node `x` waiting in it (the `length` field is not read by `verify_upgrade`) -/
def WithExtra (x : Node) (q qx : NodeQueue) : Prop :=
  qx.nodes = q.nodes ∧ qx.extra = some x ∧ q.extra = none ∧ ∀ n ∈ q.nodes, n.index ≠ x.index

theorem shift_sim (x : Node) (q qx : NodeQueue) (h : WithExtra x q qx) (idx : Nat) (n : Node) (q' : NodeQueue)
    (hs : q.shift idx = .ok (n, q')) : ∃ qx', qx.shift idx = .ok (n, qx') ∧ WithExtra x q' qx' := by
  obtain ⟨h1, h2, h3, h4⟩ := h
  obtain ⟨ns, hn, hi, rfl⟩ := shift_plain_ok h3 hs
  have hx : ∀ e, qx.extra = some e → e.index ≠ idx := by
    intro e he
    rw [h2] at he
    cases he
    rw [← hi]
    exact fun e => h4 n (by rw [hn]; exact List.mem_cons_self ..) e.symm
  exact ⟨_, shift_of_head qx n ns idx hx (by rw [h1, hn]) hi, rfl, h2, h3,
    fun m hm => h4 m (by rw [hn]; exact List.mem_cons_of_mem _ hm)⟩

theorem growLoop_sim (C : Crypto) (x : Node) (rootIndex : Nat) : ∀ (fuel : Nat) (cs : Changeset) (it : Iter) (q qx : NodeQueue)
    (cs' : Changeset) (it' : Iter) (q' : NodeQueue), WithExtra x q qx →
    growLoop C rootIndex fuel cs it q = .ok (cs', it', q') →
    ∃ qx', growLoop C rootIndex fuel cs it qx = .ok (cs', it', qx') ∧ WithExtra x q' qx' :=
  fun fuel cs it q qx cs' it' q' =>
    growLoop_queues C (WithExtra x) (fun q q₂ i n q' hQ => shift_sim x q q₂ hQ i n q') rootIndex fuel cs it q qx cs' it' q'

theorem upgradeRoots_sim (C : Crypto) (x : Node) (upto : Nat) : ∀ (fuel : Nat) (cs : Changeset) (it0 : Iter) (q qx : NodeQueue) (i : Nat) (g : Bool)
    (st' : UpState), WithExtra x q qx →
    upgradeRoots C upto fuel ⟨cs, it0, q, i, g⟩ = .ok st' →
    ∃ stx', upgradeRoots C upto fuel ⟨cs, it0, qx, i, g⟩ = .ok stx' ∧ WithExtra x st'.q stx'.q ∧ stx'.cs = st'.cs :=
  fun fuel cs it0 q qx i g st' =>
    upgradeRoots_queues C (WithExtra x) (fun q q₂ i n q' hQ => shift_sim x q q₂ hQ i n q') upto fuel cs it0 q qx i g st'

/-- **an extra node that no upgrade node shares its index with changes nothing**: the upgrade gives the same
    changeset and reports the extra node as not consumed -/
theorem verifyUpgrade_extra (C : Crypto) (fork : Nat) (u : DataUpgrade) (x : Node) (pk : Bytes) (cs cs' : Changeset)
    (hx : ∀ n ∈ u.nodes, n.index ≠ x.index) (h : verifyUpgrade C fork u none pk cs = .ok (true, cs')) :
    verifyUpgrade C fork u (some x) pk cs = .ok (false, cs') := by
  obtain ⟨st, last, y, hst, hl, hy, h64, hv, _, rfl⟩ := (verifyUpgrade_ok_iff ..).mp h
  obtain ⟨stx, hstx, hwx, hcs⟩ := upgradeRoots_sim C x _ _ cs (Iter.new 0) (NodeQueue.new u.nodes none)
    (NodeQueue.new u.nodes (some x)) 0 (!cs.roots.isEmpty) st ⟨rfl, rfl, rfl, hx⟩ hst
  refine (verifyUpgrade_ok_iff ..).mpr ⟨stx, last, y, hstx, ?_, ?_, h64, hv, ?_, rfl⟩
  · rw [hcs]; exact hl
  · rw [hcs]; exact hy
  · rw [hwx.2.1]; rfl

theorem up_lower (m n : Nat) : ∀ (ln : List (Nat × Nat)) (s : Nat) (us : List (Nat × Nat)), Cover ln s n → Up m s ln us →
    ∀ q ∈ us, m ≤ q.2 * 2 ^ q.1 :=
  fun ln s us hc hup => (BlockNew.up_cover m n ln s us hc hup).lower

theorem index_ne_of_before {d o d' o' : Nat} (h : (o + 1) * 2 ^ d ≤ o' * 2 ^ d') : Flat.index d o ≠ Flat.index d' o' := by
  intro e
  obtain ⟨rfl, rfl⟩ := index_inj _ _ _ _ e
  exact Nat.lt_irrefl _ (Nat.lt_of_lt_of_le (Nat.mul_lt_mul_of_pos_right (Nat.lt_succ_self o) (pow_pos' d)) h)

theorem commitable_upgraded (t : Tree) (cs : Changeset) (hu : cs.upgraded = true) (hl : cs.origLength = t.length)
    (hf : cs.origFork = t.fork) : t.commitable cs = true := by
  simp [Tree.commitable, hu, hl, hf]

/-- **what is left of `verify_proof` for a block with an upgrade**: the upgrade with the block's ancestor as extra node,
    from the changeset that holds the block's path; unless the upgrade consumes that node it must be the stored one -/
theorem verifyProof_block_upgrade (C : Crypto) (bs : Array Bytes) (t : Tree) (f : File) (pk : Bytes) (fork i k : Nat) (u : DataUpgrade)
    (consumed : Bool) (cs' : Changeset)
    (hu : verifyUpgrade C fork u (some (nodeAt C bs k (i / 2 ^ k))) pk
      { t.changeset with rnodes := upPath C bs 0 i k ++ [nodeAt C bs 0 i] } = .ok (consumed, cs'))
    (hst : consumed = true ∨ t.node? f (Flat.index k (i / 2 ^ k)) = some (nodeAt C bs k (i / 2 ^ k))) :
    t.verifyProof C f ⟨fork, some ⟨i, bs.getD i [], sibPath C bs 0 i k⟩, none, none, some u⟩ pk = .ok cs' :=
  (verifyProof_ok_iff ..).mpr ⟨_, _, verifyTree_block_path C bs i k t.changeset,
    Or.inr ⟨u, consumed, rfl, hu, hst.imp id (stored_root_ok t f _)⟩⟩

/-! ### the honest answer to "block `i` (below my length) and upgrade me from `m` to `n`" -/

theorem sib_ne (o : Nat) : sib o ≠ o := by
  unfold sib
  split <;> omega

/-- the nodes of a block's (or node's) climb, newest first, are ordered, and none is shallower than the start: each level
    puts its two nodes, which are shallower than everything recorded above, behind the rest -/
theorem ordered_path (C : Crypto) (bs : Array Bytes) : ∀ (k d o : Nat), Ordered C bs (upPath C bs d o k ++ [nodeAt C bs d o])
    ∧ ∀ x ∈ (upPath C bs d o k ++ [nodeAt C bs d o]), ∃ dx ox, x = nodeAt C bs dx ox ∧ d ≤ dx := by
  intro k
  induction k with
  | zero =>
    intro d o
    exact ⟨(ordered_iff C bs _).mpr ⟨List.pairwise_singleton _ _, List.pairwise_singleton _ _⟩,
      fun x hx => ⟨d, o, List.mem_singleton.mp hx, Nat.le_refl _⟩⟩
  | succ k ih =>
    intro d o
    obtain ⟨h1, h2⟩ := ih (d + 1) (o / 2)
    obtain ⟨p1, p2⟩ := (ordered_iff C bs _).mp h1
    have hlist : upPath C bs d o (k + 1) ++ [nodeAt C bs d o]
        = (upPath C bs (d + 1) (o / 2) k ++ [nodeAt C bs (d + 1) (o / 2)]) ++ [nodeAt C bs d (sib o), nodeAt C bs d o] := by
      rw [upPath, List.append_assoc, List.append_assoc]; rfl
    have hz : ∀ z ∈ [nodeAt C bs d (sib o), nodeAt C bs d o], ∃ o', z = nodeAt C bs d o' := by
      intro z hz
      rcases List.mem_cons.mp hz with rfl | hz
      · exact ⟨_, rfl⟩
      · exact ⟨_, List.mem_singleton.mp hz⟩
    rw [hlist]
    refine ⟨(ordered_iff C bs _).mpr ⟨List.pairwise_append.mpr ⟨p1, List.pairwise_pair.mpr ?_, fun y hy z hz' e => ?_⟩,
      List.pairwise_append.mpr ⟨p2, List.pairwise_pair.mpr ?_, fun y hy z hz' d' o1 o2 e1 e2 _ => ?_⟩⟩, fun x hx => ?_⟩
    · exact fun e => sib_ne o (index_inj _ _ _ _ e).2
    · obtain ⟨dy, oy, rfl, hle⟩ := h2 y hy
      obtain ⟨o', rfl⟩ := hz z hz'
      rw [(index_inj _ _ _ _ e).1] at hle
      exact Nat.not_succ_le_self d hle
    · intro d' o1 o2 e1 e2 _
      rw [← (nodeAt_inj C bs _ _ _ _ e2).1] at e1
      exact Nat.succ_ne_self d (nodeAt_inj C bs _ _ _ _ e1).1.symm
    · -- a node of depth `d` is not the parent of anything recorded above
      obtain ⟨dy, oy, ey, hle⟩ := h2 y hy
      obtain ⟨o', ez⟩ := hz z hz'
      rw [(nodeAt_inj C bs _ _ _ _ (ez.symm.trans e1)).1, ← (nodeAt_inj C bs _ _ _ _ (ey.symm.trans e2)).1] at hle
      exact Nat.not_succ_le_self _ (Nat.le_of_succ_le hle)
    · rcases List.mem_append.mp hx with hx | hx
      · obtain ⟨dx, ox, e, hle⟩ := h2 x hx
        exact ⟨dx, ox, e, Nat.le_of_succ_le hle⟩
      · obtain ⟨o', e⟩ := hz x hx
        exact ⟨d, o', e, Nat.le_refl _⟩

/-- the changeset after the block's climb satisfies the upgrade's invariant at the replica's length -/
theorem inv_after_block (C : Crypto) (hC : HashWF C) (bs : Array Bytes) (m : Nat) (c : Core) (d : Disk) (held : Nat → Bool)
    (h : RepRAt C bs m c d held) (i k : Nat)
    (hstored : c.tree.node? d.tree (Flat.index k (i / 2 ^ k)) = some (nodeAt C bs k (i / 2 ^ k))) (hin : (i / 2 ^ k + 1) * 2 ^ k ≤ m) :
    Inv C bs c.tree d.tree { c.tree.changeset with rnodes := upPath C bs 0 i k ++ [nodeAt C bs 0 i] } m := by
  have hinv0 := inv_changeset C bs m c d held h
  have hnodes : ({ c.tree.changeset with rnodes := upPath C bs 0 i k ++ [nodeAt C bs 0 i] } : Changeset).nodes
      = nodeAt C bs 0 i :: downPath C bs 0 i k := path_reverse C bs 0 i k
  refine ⟨hinv0.roots, hinv0.length, hinv0.bytes, ?_, fun x hx => ?_, (ordered_path C bs k 0 i).1⟩
  · -- closed: the block path hangs on a stored node
    exact (h.closed.insert_path hC 0 i k (by rw [Nat.zero_add]; exact hstored) (by rw [Nat.zero_add]; exact hin)
      (vt c.tree { c.tree.changeset with rnodes := upPath C bs 0 i k ++ [nodeAt C bs 0 i] }) (by simp only [vt, hnodes]) rfl).1
  · exact Replica.pathNodes_inside C bs 0 i k m (by rw [Nat.zero_add]; exact hin) x (by rw [← hnodes]; exact List.mem_reverse.mpr hx)

/-- **an honest block + upgrade proof (block below the replica's length) passes `verify_proof`**: for every replica
    state `RepRAt`, every block index `i < m` with the node count of the replica's own `missing_nodes` query, and every
    upgrade `m → n` of the writer's log: the proof made of the block's bytes, its reference sibling path, the honest upgrade
    nodes and the writer's signature for length `n` is accepted; the resulting changeset holds the reference roots of
    `n`, keeps the replica closed, is marked upgraded with the writer's signature, and is commitable -/
theorem honest_old_block_upgrade_accepted (C : Crypto) (hC : HashWF C) (bs : Array Bytes) (m n : Nat) (c : Core) (d : Disk) (held : Nat → Bool)
    (h : RepRAt C bs m c d held) (hm0 : 0 < m) (hmn : m < n) (hn : n ≤ bs.size) (us : List (Nat × Nat))
    (hup : Up m 0 (rootsStack n).reverse us) (sig : Bytes) (hsl : sig.length = 64)
    (hver : C.verify c.publicKey (signableAt C bs n c.tree.fork) sig = true) (i : Nat) (hi : i < m) :
    ∃ cs', c.tree.verifyProof C d.tree
        ⟨c.tree.fork, some ⟨i, bs.getD i [], sibPath C bs 0 i (c.tree.missingNodes d.tree (2 * i))⟩, none, none,
          some ⟨m, n - m, us.map (fun p => nodeAt C bs p.1 p.2), [], sig⟩⟩ c.publicKey = .ok cs'
      ∧ Inv C bs c.tree d.tree cs' n ∧ cs'.upgraded = true ∧ cs'.signature = some sig ∧ cs'.fork = c.tree.fork
      ∧ c.tree.commitable cs' = true
      ∧ cs'.ancestors = c.tree.length ∧ cs'.origLength = c.tree.length ∧ cs'.hash = some (rootsHash C cs'.roots)
      ∧ cs'.rnodes.length ≤ 64 + (2 * c.tree.missingNodes d.tree (2 * i) + 1) + 2 * us.length
      ∧ ∃ U, cs'.rnodes = U ++ (upPath C bs 0 i (c.tree.missingNodes d.tree (2 * i)) ++ [nodeAt C bs 0 i]) := by
  have hN : n < 2 ^ 64 := Nat.lt_of_le_of_lt hn h.small.1
  obtain ⟨hstored, hin⟩ := missingNodes_spec C bs m c.tree d.tree h.closed.sparse (Nat.lt_trans hmn hN) i hi
  generalize c.tree.missingNodes d.tree (2 * i) = k at hstored hin ⊢
  -- the upgrade runs from the changeset that holds the block's path as it would from the replica's own
  obtain ⟨cs', hvu, hinv, hfork, hsig, hupg, horigLen, horigFork, hanc, hhash, hcount, hsuf⟩ := grow_upgrade_accepted C hC bs c.tree d.tree m n hN hm0 hmn
    c.tree.fork c.publicKey sig _ (inv_after_block C hC bs m c d held h i k hstored hin) us hup hsl hver
  -- the block root ends inside the old tree, where the upgrade's nodes start: it is not one of them
  have hx : ∀ nd ∈ (us.map fun p => nodeAt C bs p.1 p.2), nd.index ≠ (nodeAt C bs k (i / 2 ^ k)).index := by
    intro nd hnd e
    obtain ⟨q, hq, rfl⟩ := List.mem_map.mp hnd
    exact index_ne_of_before (Nat.le_trans hin (up_lower m n _ 0 us (cover_roots n) hup q hq)) e.symm
  have hext := verifyUpgrade_extra C c.tree.fork ⟨m, n - m, us.map (fun p => nodeAt C bs p.1 p.2), [], sig⟩ (nodeAt C bs k (i / 2 ^ k))
    c.publicKey _ cs' hx hvu
  have hrl := roots_length_le C bs m c d held h
  have hbl : (upPath C bs 0 i k ++ [nodeAt C bs 0 i]).length = 2 * k + 1 := by rw [List.length_append, upPath_length]; rfl
  refine ⟨cs', verifyProof_block_upgrade C bs c.tree d.tree c.publicKey c.tree.fork i k _ false cs' hext (Or.inr hstored),
    hinv, hupg, hsig, hfork, commitable_upgraded c.tree cs' hupg horigLen horigFork, hanc, horigLen, hhash, ?_, hsuf⟩
  exact Nat.le_trans hcount (by rw [hbl]; exact Nat.add_le_add_right (Nat.add_le_add_right hrl _) _)

/-! ### the byte offset of the block under the new roots -/

/-- the ancestor of block `i` at depth `s` -/
def anc (C : Crypto) (bs : Array Bytes) (i s : Nat) : Node := nodeAt C bs s (i / 2 ^ s)

theorem anc_zero (C : Crypto) (bs : Array Bytes) (i : Nat) : anc C bs i 0 = nodeAt C bs 0 i := by
  rw [anc, Nat.pow_zero, Nat.div_one]

theorem anc_index_ne (C : Crypto) (bs : Array Bytes) (i s s' : Nat) (h : s ≠ s') : (anc C bs i s).index ≠ (anc C bs i s').index := by
  intro e
  exact h (index_inj _ _ _ _ (show Flat.index s _ = Flat.index s' _ from e)).1

/-- one step of the scan: the running offset plus the start of the current ancestor stays the same (the `match` is
    the scan's own update of the offset, as `scanS_hit` leaves it) -/
theorem step_offset (C : Crypto) (bs : Array Bytes) (d o off : Nat) :
    (match decide (o % 2 = 1), some (nodeAt C bs d o) with
      | true, some p => off + ((nodeAt C bs (d + 1) (o / 2)).length - p.length)
      | _, _ => off) + psum bs (o / 2 * 2 ^ (d + 1)) = off + psum bs (o * 2 ^ d) := by
  rw [psum_parent_start C bs d o]
  by_cases ho : o % 2 = 1
  · rw [decide_eq_true ho, if_pos ho]
    exact (Nat.add_assoc _ _ _).trans (congrArg (off + ·) (Nat.add_comm _ _))
  · rw [decide_eq_false ho, if_neg ho]
    rfl

/-- in a list (oldest first) without repeated indices in which parents come after their children, no node stands in
    front of a child of its -/
theorem parent_not_before (C : Crypto) (bs : Array Bytes) (l : List Node)
    (hdist : ∀ a b x, l = a ++ x :: b → (∀ y ∈ a, y.index ≠ x.index) ∧ (∀ y ∈ b, y.index ≠ x.index))
    (hord : ∀ a b d o, l = a ++ nodeAt C bs (d + 1) o :: b → ∀ o', o' / 2 = o → nodeAt C bs d o' ∈ l → nodeAt C bs d o' ∈ a)
    (a b : List Node) (d o o' : Nat) (hl : l = a ++ nodeAt C bs (d + 1) o :: b) (ho : o' / 2 = o)
    (hmem : nodeAt C bs d o' ∈ b) : False := by
  have hin : nodeAt C bs d o' ∈ l := by rw [hl]; exact List.mem_append_right _ (List.mem_cons_of_mem _ hmem)
  obtain ⟨b1, b2, hb⟩ := List.append_of_mem hmem
  have hl2 : l = (a ++ nodeAt C bs (d + 1) o :: b1) ++ nodeAt C bs d o' :: b2 := by rw [hl, hb, List.append_assoc]; rfl
  exact (hdist _ _ _ hl2).1 _ (List.mem_append_left _ (hord a b d o hl o' ho hin)) rfl

end HC.BlockUpgrade

namespace HC.BlockNewOffset
open HC HC.Codec HC.Flat HC.Tree HC.RefTree HC.RefProof HC.Sound HC.Offsets HC.TreeStore HC.Complete HC.UpgradeSound HC.Pow2
  HC.Replica HC.Growth HC.HashReq HC.BlockUpgrade

/-- the scan of `byte_offset_in_changeset` with its full state -/
def scanS : List Node → Iter → Nat → Bool → Option Node → (Iter × Nat × Bool × Option Node)
  | [], it, off, ir, par => (it, off, ir, par)
  | n :: ns, it, off, ir, par =>
    if n.index = it.index then
      scanS ns it.parent (match ir, par with | true, some p => off + (n.length - p.length) | _, _ => off) it.isRight (some n)
    else scanS ns it off ir par

theorem scanS_hit (n : Node) (ns : List Node) (d o off : Nat) (ir : Bool) (par : Option Node) (h : n.index = Flat.index d o) :
    scanS (n :: ns) (iat d o) off ir par
      = scanS ns (iat (d + 1) (o / 2)) (match ir, par with | true, some p => off + (n.length - p.length) | _, _ => off)
          (decide (o % 2 = 1)) (some n) := by
  have hi : n.index = (iat d o).index := h
  simp only [scanS, if_pos hi, iat_parent]
  rfl

theorem scanS_miss (n : Node) (ns : List Node) (it : Iter) (off : Nat) (ir : Bool) (par : Option Node) (h : n.index ≠ it.index) :
    scanS (n :: ns) it off ir par = scanS ns it off ir par := by
  simp only [scanS, if_neg h]

theorem scan_eq : ∀ (l : List Node) (it : Iter) (off : Nat) (ir : Bool) (par : Option Node),
    byteOffsetInChangeset.scan l it off ir par = ((scanS l it off ir par).2.1, (scanS l it off ir par).2.2.2) := by
  intro l
  induction l with
  | nil => intro it off ir par; rfl
  | cons n ns ih =>
    intro it off ir par
    simp only [byteOffsetInChangeset.scan, scanS]
    split
    · exact ih _ _ _ _
    · exact ih _ _ _ _

theorem scanS_append : ∀ (a b : List Node) (it : Iter) (off : Nat) (ir : Bool) (par : Option Node),
    scanS (a ++ b) it off ir par = scanS b (scanS a it off ir par).1 (scanS a it off ir par).2.1 (scanS a it off ir par).2.2.1 (scanS a it off ir par).2.2.2 := by
  intro a
  induction a with
  | nil => intro b it off ir par; rfl
  | cons n ns ih =>
    intro b it off ir par
    simp only [List.cons_append, scanS]
    split
    · exact ih b _ _ _ _
    · exact ih b _ _ _ _

/-- the scan follows the block's ancestors as far as they are in the list (with the full final state; no assumption on
    lower ancestors occurring again) -/
theorem scanS_chain (C : Crypto) (bs : Array Bytes) (i : Nat) (l : List Node) (href : ∀ x ∈ l, ∃ d o, x = nodeAt C bs d o)
    (hdist : ∀ a b x, l = a ++ x :: b → (∀ y ∈ a, y.index ≠ x.index) ∧ (∀ y ∈ b, y.index ≠ x.index))
    (hord : ∀ a b d o, l = a ++ nodeAt C bs (d + 1) o :: b → ∀ o', o' / 2 = o → nodeAt C bs d o' ∈ l → nodeAt C bs d o' ∈ a) :
    ∀ (r pre : List Node) (j off : Nat), l = pre ++ r →
      ∃ T off', j ≤ T
        ∧ scanS r (iat (j + 1) (i / 2 ^ (j + 1))) off (decide (i / 2 ^ j % 2 = 1)) (some (anc C bs i j))
            = (iat (T + 1) (i / 2 ^ (T + 1)), off', decide (i / 2 ^ T % 2 = 1), some (anc C bs i T))
        ∧ off' + psum bs (i / 2 ^ T * 2 ^ T) = off + psum bs (i / 2 ^ j * 2 ^ j)
        ∧ (∀ s, j < s → s ≤ T → anc C bs i s ∈ r) ∧ anc C bs i (T + 1) ∉ r := by
  intro r
  induction r with
  | nil =>
    intro pre j off _
    exact ⟨j, off, Nat.le_refl _, rfl, rfl, fun s h1 h2 => absurd h2 (Nat.not_le.mpr h1), List.not_mem_nil⟩
  | cons n r' ih =>
    intro pre j off hl
    have hl' : l = (pre ++ [n]) ++ r' := by rw [hl, List.append_assoc]; rfl
    by_cases hm : n.index = Flat.index (j + 1) (i / 2 ^ (j + 1))
    · -- the next ancestor
      have hn : n = anc C bs i (j + 1) :=
        ref_unique C bs n _ (href n (by rw [hl]; exact List.mem_append_right _ (List.mem_cons_self ..))) ⟨_, _, rfl⟩ hm
      obtain ⟨T, off', hT, hscan, hoff, hmemT, hnot⟩ := ih (pre ++ [n]) (j + 1)
        (match decide (i / 2 ^ j % 2 = 1), some (anc C bs i j) with
          | true, some p => off + (n.length - p.length)
          | _, _ => off) hl'
      refine ⟨T, off', Nat.le_of_succ_le hT, ?_, ?_, ?_, ?_⟩
      · rw [scanS_hit n r' _ _ off _ _ hm, div_pow_succ']
        rw [← hn] at hscan
        exact hscan
      · rw [hoff, hn]
        have := step_offset C bs j (i / 2 ^ j) off
        rw [div_pow_succ'] at this
        exact this
      · intro s h1 h2
        rcases Nat.eq_or_lt_of_le h1 with rfl | h1
        · rw [← hn]; exact List.mem_cons_self ..
        · exact List.mem_cons_of_mem _ (hmemT s h1 h2)
      · intro hmem
        rcases List.mem_cons.mp hmem with h | h
        · exact anc_index_ne C bs i (T + 1) (j + 1) (by omega) (by rw [h, hn])
        · exact hnot h
    · -- some other node: skipped
      obtain ⟨T, off', hT, hscan, hoff, hmemT, hnot⟩ := ih (pre ++ [n]) j off hl'
      refine ⟨T, off', hT, by rw [scanS_miss n r' _ off _ _ hm]; exact hscan, hoff,
        fun s h1 h2 => List.mem_cons_of_mem _ (hmemT s h1 h2), ?_⟩
      intro hmem
      rcases List.mem_cons.mp hmem with h | h
      · -- the skipped node is not the ancestor above the last one reached: it would stand in front of its child
        rcases Nat.eq_or_lt_of_le hT with rfl | hlt
        · exact hm (by rw [← h]; rfl)
        · exact parent_not_before C bs l hdist hord pre r' T (i / 2 ^ (T + 1)) (i / 2 ^ T) (by rw [hl, ← h]; rfl)
            (div_pow_succ' i T) (hmemT T hlt (Nat.le_refl _))
      · exact hnot h

theorem cover_find_root (C : Crypto) (bs : Array Bytes) : ∀ (l : List (Nat × Nat)) (s e : Nat), Cover l s e → ∀ p ∈ l,
    ∃ r, (l.map (fun q => nodeAt C bs q.1 q.2)).findIdx? (fun x => x.index = (nodeAt C bs p.1 p.2).index) = some r
      ∧ (((l.map (fun q => nodeAt C bs q.1 q.2)).take r).map (·.length)).sum + psum bs s = psum bs (p.2 * 2 ^ p.1) := by
  intro l s e hc p hp
  -- the search succeeds because the node is there; what it finds is told by `prefix_sum_of_findIdx`
  have hsome : ((l.map fun q => nodeAt C bs q.1 q.2).findIdx? fun x => x.index = (nodeAt C bs p.1 p.2).index).isSome := by
    rw [List.findIdx?_isSome]
    exact List.any_eq_true.mpr ⟨_, List.mem_map.mpr ⟨p, hp, rfl⟩, decide_eq_true rfl⟩
  obtain ⟨r, hr⟩ := Option.isSome_iff_exists.mp hsome
  exact ⟨r, hr, prefix_sum_of_findIdx C bs hc p.1 p.2 r hr⟩

end HC.BlockNewOffset

namespace HC.BlockUpgrade
open HC HC.Codec HC.Flat HC.Tree HC.RefTree HC.RefProof HC.Sound HC.Offsets HC.TreeStore HC.Complete HC.UpgradeSound HC.Pow2
  HC.Replica HC.Growth HC.HashReq

/-- `scanS_chain` read off for the scan of `byte_offset_in_changeset` itself (the last hypothesis is not needed) -/
theorem scan_chain (C : Crypto) (bs : Array Bytes) (i : Nat) (l : List Node) (href : ∀ x ∈ l, ∃ d o, x = nodeAt C bs d o)
    (hdist : ∀ a b x, l = a ++ x :: b → (∀ y ∈ a, y.index ≠ x.index) ∧ (∀ y ∈ b, y.index ≠ x.index))
    (hord : ∀ a b d o, l = a ++ nodeAt C bs (d + 1) o :: b → ∀ o', o' / 2 = o → nodeAt C bs d o' ∈ l → nodeAt C bs d o' ∈ a) :
    ∀ (r pre : List Node) (j off : Nat), l = pre ++ r → (∀ s, s ≤ j → anc C bs i s ∉ r) →
      ∃ T off', j ≤ T
        ∧ byteOffsetInChangeset.scan r (iat (j + 1) (i / 2 ^ (j + 1))) off (decide (i / 2 ^ j % 2 = 1)) (some (anc C bs i j)) = (off', some (anc C bs i T))
        ∧ off' + psum bs (i / 2 ^ T * 2 ^ T) = off + psum bs (i / 2 ^ j * 2 ^ j)
        ∧ (∀ s, j < s → s ≤ T → anc C bs i s ∈ r) ∧ anc C bs i (T + 1) ∉ r := by
  intro r pre j off hl _
  obtain ⟨T, off', hT, hscan, rest⟩ := BlockNewOffset.scanS_chain C bs i l href hdist hord r pre j off hl
  exact ⟨T, off', hT, by rw [BlockNewOffset.scan_eq, hscan], rest⟩

/-- the order facts for the list oldest first (`Changeset.nodes`) -/
theorem ordered_oldest (C : Crypto) (bs : Array Bytes) (rn : List Node) (h : Ordered C bs rn) :
    (∀ a b x, rn.reverse = a ++ x :: b → (∀ y ∈ a, y.index ≠ x.index) ∧ (∀ y ∈ b, y.index ≠ x.index))
      ∧ (∀ a b d o, rn.reverse = a ++ nodeAt C bs (d + 1) o :: b → ∀ o', o' / 2 = o → nodeAt C bs d o' ∈ rn.reverse → nodeAt C bs d o' ∈ a) := by
  obtain ⟨h1, h2⟩ := (ordered_iff C bs rn).mp h
  have r1 := (List.pairwise_reverse (R := fun x y : Node => y.index ≠ x.index)).mpr h1
  have r2 := (List.pairwise_reverse
    (R := fun x y : Node => ∀ d o o', x = nodeAt C bs (d + 1) o → y = nodeAt C bs d o' → o' / 2 ≠ o)).mpr h2
  constructor
  · intro a b x e
    rw [e] at r1
    obtain ⟨_, hxb, hax⟩ := List.pairwise_append.mp r1
    exact ⟨fun y hy => (hax y hy x List.mem_cons_self).symm, (List.pairwise_cons.mp hxb).1⟩
  · intro a b d o e o' ho hmem
    rw [e] at r2 hmem
    rcases List.mem_append.mp hmem with hm | hm
    · exact hm
    · rcases List.mem_cons.mp hm with e' | hm
      · exact absurd (nodeAt_inj C bs _ _ _ _ e').1 (Nat.ne_of_lt (Nat.lt_succ_self d))
      · exact absurd ho ((List.pairwise_cons.mp (List.pairwise_append.mp r2).2.1).1 _ hm d o o' rfl rfl)

theorem scanS_skip (it : Iter) (off : Nat) (ir : Bool) (par : Option Node) : ∀ (pre : List Node), (∀ y ∈ pre, y.index ≠ it.index) →
    BlockNewOffset.scanS pre it off ir par = (it, off, ir, par) := by
  intro pre
  induction pre with
  | nil => intro _; rfl
  | cons y pre ih =>
    intro h
    rw [BlockNewOffset.scanS_miss y pre it off ir par (h y (List.mem_cons_self ..))]
    exact ih (fun z hz => h z (List.mem_cons_of_mem _ hz))

/-- the scan from the start: it finds the leaf and then follows the ancestors as far as they are in the list -/
theorem scan_start (C : Crypto) (bs : Array Bytes) (i : Nat) (l : List Node) (href : ∀ x ∈ l, ∃ d o, x = nodeAt C bs d o)
    (hdist : ∀ a b x, l = a ++ x :: b → (∀ y ∈ a, y.index ≠ x.index) ∧ (∀ y ∈ b, y.index ≠ x.index))
    (hord : ∀ a b d o, l = a ++ nodeAt C bs (d + 1) o :: b → ∀ o', o' / 2 = o → nodeAt C bs d o' ∈ l → nodeAt C bs d o' ∈ a)
    (hleaf : nodeAt C bs 0 i ∈ l) :
    ∃ T off', byteOffsetInChangeset.scan l (iat 0 i) 0 false none = (off', some (anc C bs i T))
      ∧ off' + psum bs (i / 2 ^ T * 2 ^ T) = psum bs i
      ∧ (∀ s, s ≤ T → anc C bs i s ∈ l) ∧ anc C bs i (T + 1) ∉ l := by
  obtain ⟨pre, r', hl⟩ := List.append_of_mem hleaf
  obtain ⟨T, off', _, hscan, hoff, hmemT, hnot⟩ := BlockNewOffset.scanS_chain C bs i l href hdist hord r'
    (pre ++ [nodeAt C bs 0 i]) 0 0 (by rw [hl, List.append_assoc]; rfl)
  simp only [Nat.zero_add, Nat.pow_zero, Nat.pow_one, Nat.div_one, Nat.mul_one, anc_zero] at hscan hoff
  have hmem_all : ∀ s, s ≤ T → anc C bs i s ∈ nodeAt C bs 0 i :: r' := by
    intro s hs
    rcases Nat.eq_zero_or_pos s with rfl | h0
    · rw [anc_zero]; exact List.mem_cons_self ..
    · exact List.mem_cons_of_mem _ (hmemT s h0 hs)
  refine ⟨T, off', ?_, hoff, fun s hs => by rw [hl]; exact List.mem_append_right _ (hmem_all s hs), ?_⟩
  · rw [BlockNewOffset.scan_eq, hl, BlockNewOffset.scanS_append, scanS_skip _ _ _ _ pre (hdist pre r' _ hl).1,
      BlockNewOffset.scanS_hit _ r' 0 i 0 false none rfl, hscan]
  · intro hmem
    rw [hl] at hmem
    rcases List.mem_append.mp hmem with h | h
    · -- an ancestor in front of the leaf would stand in front of its child, which sits at or behind the leaf
      obtain ⟨p1, p2, hsp⟩ := List.append_of_mem h
      exact parent_not_before C bs l hdist hord p1 (p2 ++ nodeAt C bs 0 i :: r') T (i / 2 ^ (T + 1)) (i / 2 ^ T)
        (by rw [hl, hsp, List.append_assoc]; rfl) (div_pow_succ' i T) (List.mem_append_right _ (hmem_all T (Nat.le_refl _)))
    · rcases List.mem_cons.mp h with h | h
      · exact anc_index_ne C bs i (T + 1) 0 (Nat.succ_ne_zero T) (by rw [h, anc_zero])
      · exact hnot h

theorem anc_mem_upPath (C : Crypto) (bs : Array Bytes) (i k s : Nat) (h1 : 1 ≤ s) (h2 : s ≤ k) : anc C bs i s ∈ upPath C bs 0 i k := by
  obtain ⟨j, rfl⟩ : ∃ j, s = j + 1 := ⟨s - 1, (Nat.sub_add_cancel h1).symm⟩
  exact (mem_upPath C bs _ k 0 i).mpr ⟨j, h2, Or.inl (by rw [anc, Nat.zero_add])⟩

theorem anc_stored_at (C : Crypto) (bs : Array Bytes) (L : Nat) (t : Tree) (f : File) (h : ClosedAt C bs L t f) (d o : Nat)
    (hst : t.node? f (Flat.index d o) = some (nodeAt C bs d o)) :
    ∀ j, (o / 2 ^ j + 1) * 2 ^ (d + j) ≤ L → t.node? f (Flat.index (d + j) (o / 2 ^ j)) = some (nodeAt C bs (d + j) (o / 2 ^ j)) :=
  h.anc_stored d o hst

theorem anc_stored_upto (C : Crypto) (bs : Array Bytes) (L : Nat) (t : Tree) (f : File) (h : ClosedAt C bs L t f) (i k T : Nat) (hkT : k ≤ T)
    (hst : t.node? f (Flat.index k (i / 2 ^ k)) = some (anc C bs i k)) (hin : (i / 2 ^ T + 1) * 2 ^ T ≤ L) :
    t.node? f (Flat.index T (i / 2 ^ T)) = some (anc C bs i T) := by
  obtain ⟨j, rfl⟩ : ∃ j, T = k + j := ⟨T - k, (Nat.add_sub_cancel' hkT).symm⟩
  have := anc_stored_at C bs L t f h k (i / 2 ^ k) hst j
  rw [Nat.div_div_eq_div_mul, ← Nat.pow_add] at this
  exact this hin

/-- **where the scan can end**: a node recorded in the changeset of an upgrade to `n` whose parent is not recorded is a
    root of `n`, or its parent lies in the old tree and is stored there -/
theorem scan_end (C : Crypto) (hC : HashWF C) (bs : Array Bytes) (m n : Nat) (c : Core) (d : Disk) (held : Nat → Bool)
    (h : RepRAt C bs m c d held) (cs : Changeset) (hinv : Inv C bs c.tree d.tree cs n) (T o : Nat)
    (hTin : nodeAt C bs T o ∈ cs.nodes) (hnot : nodeAt C bs (T + 1) (o / 2) ∉ cs.nodes) (hnr : (T, o) ∉ rootsStack n) :
    (o / 2 + 1) * 2 ^ (T + 1) ≤ m
      ∧ c.tree.node? d.tree (Flat.index (T + 1) (o / 2)) = some (nodeAt C bs (T + 1) (o / 2)) := by
  obtain ⟨dd, oo, e, hb⟩ := inv_nodes_bound hinv _ hTin
  obtain ⟨rfl, rfl⟩ := nodeAt_inj C bs _ _ _ _ e
  -- not a root of `n`: the parent lies inside `n`, is stored in the view, and — not being in the list — in the old tree
  obtain ⟨hnew, _, honly⟩ := insert_lookup C hC bs c.tree (vt c.tree cs) d.tree cs.nodes (inv_nodes_ref hinv) rfl
  have hpar := (hinv.closed.closed T o (hnew T o hTin) (parent_inside n T o hb hnr)).2
  rcases honly (T + 1) (o / 2) hpar with h1 | h1
  · exact absurd h1 hnot
  · obtain ⟨d1, o1, e1, _, hb1⟩ := h.closed.sparse.sound _ _ h1
    obtain ⟨rfl, rfl⟩ := index_inj _ _ _ _ e1
    exact ⟨hb1, h1⟩

/-- the old tree's own descent gives the start of a stored node's span -/
theorem stored_start (C : Crypto) (bs : Array Bytes) (m : Nat) (c : Core) (d : Disk) (held : Nat → Bool) (h : RepRAt C bs m c d held)
    (T o : Nat) (hin : (o + 1) * 2 ^ T ≤ m) (hst : c.tree.node? d.tree (Flat.index T o) = some (nodeAt C bs T o)) :
    c.tree.byteOffsetFromNodes d.tree (Flat.index T o) = .ok (psum bs (o * 2 ^ T)) := by
  have hM : m < 2 ^ 64 := Nat.lt_of_le_of_lt h.le h.small.1
  exact byteOffsetFromNodes_at C bs m c.tree d.tree hM h.roots T o hin (h.closed.left_stored T o hst)

theorem rootsAt_findIdx_none (C : Crypto) (bs : Array Bytes) (n d o : Nat) (h : (d, o) ∉ rootsStack n) :
    (rootsAt C bs n).findIdx? (fun x => x.index = (nodeAt C bs d o).index) = none := by
  rw [List.findIdx?_eq_none_iff]
  intro x hx
  obtain ⟨p, hp, rfl⟩ := List.mem_map.mp hx
  rw [decide_eq_false_iff_not]
  intro e
  obtain ⟨e1, e2⟩ := index_inj _ _ _ _ (show Flat.index p.1 p.2 = Flat.index d o from e)
  exact h (by rw [← e1, ← e2]; exact List.mem_reverse.mp hp)

/-- the scan has ended at a root of `n`: the sizes of the roots before it lead to the start of its span -/
theorem offset_at_root (C : Crypto) (bs : Array Bytes) (n : Nat) (t : Tree) (f : File) (i : Nat) (cs : Changeset) (hne : t.length ≠ i)
    (hroots : cs.roots = rootsAt C bs n) (T : Nat) (hroot : (T, i / 2 ^ T) ∈ rootsStack n) (off : Nat)
    (hscan : byteOffsetInChangeset.scan cs.nodes (iat 0 i) 0 false none = (off, some (anc C bs i T)))
    (hoff : off + psum bs (i / 2 ^ T * 2 ^ T) = psum bs i) : t.byteOffsetInChangeset f i cs = .ok (psum bs i) := by
  obtain ⟨r, hr1, hr2⟩ := BlockNewOffset.cover_find_root C bs (rootsStack n).reverse 0 n (cover_roots n) (T, i / 2 ^ T)
    (List.mem_reverse.mpr hroot)
  rw [byteOffsetInChangeset_root t f i cs hne off _ hscan r (by rw [hroots]; exact hr1), hroots]
  have h0 : psum bs 0 = 0 := rfl
  rw [h0, Nat.add_zero] at hr2
  exact congrArg Except.ok (by rw [← hoff]; exact congrArg (off + ·) hr2)

/-- **the block lands at its offset**: for the changeset of an accepted block + upgrade proof (block below the replica's
    length) `byte_offset_in_changeset` returns the block's offset in the writer's log — whether the scan ends at the
    stored ancestor, at an old root that is still a root, or climbs through the merged parents to a new root -/
theorem offset_in_upgraded (C : Crypto) (hC : HashWF C) (bs : Array Bytes) (m n : Nat) (c : Core) (d : Disk) (held : Nat → Bool)
    (h : RepRAt C bs m c d held) (hn : n ≤ bs.size) (cs' : Changeset) (hinv : Inv C bs c.tree d.tree cs' n)
    (i k : Nat) (hi : i < m)
    (hstored : c.tree.node? d.tree (Flat.index k (i / 2 ^ k)) = some (nodeAt C bs k (i / 2 ^ k))) (hin : (i / 2 ^ k + 1) * 2 ^ k ≤ m)
    (hsuf : ∃ U, cs'.rnodes = U ++ (upPath C bs 0 i k ++ [nodeAt C bs 0 i])) :
    c.tree.byteOffsetInChangeset d.tree i cs' = .ok (psum bs i) := by
  have hne : c.tree.length ≠ i := by rw [h.closed.sparse.length]; exact Nat.ne_of_gt hi
  obtain ⟨U, hU⟩ := hsuf
  -- the path up to the stored ancestor is in the list, so the scan gets at least that far
  have hpath : ∀ s, s ≤ k → anc C bs i s ∈ cs'.nodes := by
    intro s hs
    rw [Changeset.nodes, List.mem_reverse, hU]
    apply List.mem_append_right
    rcases Nat.eq_zero_or_pos s with rfl | h0
    · rw [anc_zero]; exact List.mem_append_right _ (List.mem_singleton_self _)
    · exact List.mem_append_left _ (anc_mem_upPath C bs i k s h0 hs)
  obtain ⟨hdist, hord⟩ := ordered_oldest C bs cs'.rnodes hinv.order
  obtain ⟨T, off', hscan, hoff, hmemT, hnot⟩ := scan_start C bs i cs'.nodes (inv_nodes_ref hinv) hdist hord
    (by rw [← anc_zero]; exact hpath 0 (Nat.zero_le k))
  have hTk : k ≤ T := Nat.le_of_not_lt fun hlt => hnot (hpath (T + 1) hlt)
  by_cases hroot : (T, i / 2 ^ T) ∈ rootsStack n
  · exact offset_at_root C bs n c.tree d.tree i cs' hne (rootsAt_of_reverse hinv.roots) T hroot off' hscan hoff
  · -- the ancestor reached lies, with its parent, inside the old tree; being above the stored ancestor it is stored there
    obtain ⟨hparin, _⟩ := scan_end C hC bs m n c d held h cs' hinv T (i / 2 ^ T) (hmemT T (Nat.le_refl _))
      (by rw [div_pow_succ']; exact hnot) hroot
    rw [div_pow_succ'] at hparin
    have hTinm : (i / 2 ^ T + 1) * 2 ^ T ≤ m := Nat.le_trans (anc_step i T) hparin
    have hTold := anc_stored_upto C bs m c.tree d.tree h.closed i k T hTk hstored hTinm
    rw [byteOffsetInChangeset_inner c.tree d.tree i cs' hne off' _ hscan
      (by rw [rootsAt_of_reverse hinv.roots]; exact rootsAt_findIdx_none C bs n T _ hroot) _
      (stored_start C bs m c d held h T _ hTinm hTold), Nat.add_comm, hoff]

end HC.BlockUpgrade
