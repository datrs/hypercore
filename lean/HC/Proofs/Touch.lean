import HC.Proofs.LiveRefine
/-!
Which indices a logged entry touches, and what a trace of entries can and cannot do to the held set.
These are the facts that make the replay on open insensitive to bitfield pages that were already
flushed when the process died (pages that hold a *later* state than the header the replay starts from).
-/
namespace HC.Touch
open HC HC.Oplog HC.LogSpec HC.LiveRefine

def Touches (e : Entry) (i : Nat) : Prop := ∃ u, e.bitfield = some u ∧ u.start ≤ i ∧ i < u.start + u.length

def Clears (e : Entry) (i : Nat) : Prop := ∃ u, e.bitfield = some u ∧ u.drop = true ∧ u.start ≤ i ∧ i < u.start + u.length

theorem Clears.touches {e : Entry} {i : Nat} (h : Clears e i) : Touches e i := by
  obtain ⟨u, h1, _, h3, h4⟩ := h; exact ⟨u, h1, h3, h4⟩

/-- a logged entry carries a non-empty range update `u`: the held set changes on exactly that range, to `!u.drop`;
    a setting entry appends as many blocks as it sets, from the old length on; a dropping entry appends none -/
theorem step_update (C : Crypto) (a a' : Abs) (e : Entry) (h : EntryStep C a e a') :
    ∃ (u : BitfieldUpdate) (l : List Bytes), e.bitfield = some u ∧ 0 < u.length ∧ a'.blocks = a.blocks ++ l.toArray
      ∧ (∀ i, a'.held i = if u.start ≤ i ∧ i < u.start + u.length then !u.drop else a.held i)
      ∧ (if u.drop then l = [] else u.start = a.blocks.size ∧ u.length = l.length) := by
  cases h with
  | append batch nodes sig fk hne hw _ _ _ _ =>
    rw [step_append a batch hw hne]
    refine ⟨_, batch, rfl, List.length_pos_iff.mpr hne, rfl, fun i => ?_, rfl, rfl⟩
    exact or_range _ _ _ i
  | clear s e hse =>
    rw [step_clear a s e hse]
    refine ⟨_, [], rfl, Nat.sub_pos_of_lt hse, (Array.append_empty).symm, fun i => ?_, rfl⟩
    exact and_not_range _ s e i

theorem step_blocks (C : Crypto) (a a' : Abs) (e : Entry) (h : EntryStep C a e a') : ∃ l : List Bytes, a'.blocks = a.blocks ++ l.toArray := by
  obtain ⟨_, l, _, _, hb, _⟩ := step_update C a a' e h
  exact ⟨l, hb⟩

theorem step_size_le (C : Crypto) (a a' : Abs) (e : Entry) (h : EntryStep C a e a') : a.blocks.size ≤ a'.blocks.size := by
  obtain ⟨l, hb⟩ := step_blocks C a a' e h
  rw [hb, size_append_list]; exact Nat.le_add_right _ _

theorem step_untouched (C : Crypto) (a a' : Abs) (e : Entry) (h : EntryStep C a e a') (i : Nat) (hu : ¬ Touches e i) :
    a'.held i = a.held i := by
  obtain ⟨u, _, he, _, _, hh, _⟩ := step_update C a a' e h
  rw [hh, if_neg fun hin => hu ⟨u, he, hin⟩]

theorem step_kept (C : Crypto) (a a' : Abs) (e : Entry) (h : EntryStep C a e a') (i : Nat) (hh : a.held i = true) :
    a'.held i = true ∨ Clears e i := by
  obtain ⟨u, _, he, _, _, hheld, _⟩ := step_update C a a' e h
  rw [hheld]
  by_cases hin : u.start ≤ i ∧ i < u.start + u.length
  · rw [if_pos hin]
    cases hd : u.drop with
    | false => exact Or.inl rfl
    | true => exact Or.inr ⟨u, he, hd, hin⟩
  · rw [if_neg hin]; exact Or.inl hh

/-- a writer's entries never set a bit below the length -/
theorem step_low (C : Crypto) (a a' : Abs) (e : Entry) (h : EntryStep C a e a') (i : Nat) (hi : i < a.blocks.size)
    (hh : a.held i = false) : a'.held i = false := by
  obtain ⟨u, _, _, _, _, hheld, hset⟩ := step_update C a a' e h
  rw [hheld]
  split
  · rename_i hin
    cases hd : u.drop with
    | true => rfl
    | false => rw [hd] at hset; exact absurd hin.1 (by rw [hset.1]; exact Nat.not_le.mpr hi)
  · exact hh

theorem step_heldLt (C : Crypto) (a a' : Abs) (e : Entry) (h : EntryStep C a e a')
    (hlt : ∀ i, a.held i = true → i < a.blocks.size) : ∀ i, a'.held i = true → i < a'.blocks.size := by
  obtain ⟨u, l, _, _, hb, hheld, hset⟩ := step_update C a a' e h
  intro i hi
  rw [hb, size_append_list]
  rw [hheld] at hi
  split at hi
  · rename_i hin
    cases hd : u.drop with
    | true => rw [hd] at hi; cases hi
    | false => rw [hd] at hset; rw [← hset.1, ← hset.2]; exact hin.2
  · exact Nat.lt_of_lt_of_le (hlt i hi) (Nat.le_add_right _ _)

theorem trace_size_le (C : Crypto) (a0 a : Abs) (es : List Entry) (h : Trace C a0 es a) : a0.blocks.size ≤ a.blocks.size := by
  induction h with
  | nil a => exact Nat.le_refl _
  | cons a a1 a2 e es hs _ _ ih => exact Nat.le_trans (step_size_le C a a1 e hs) ih

theorem trace_small (C : Crypto) (a0 a : Abs) (es : List Entry) (h : Trace C a0 es a) (h0 : Small a0) : Small a := by
  induction h with
  | nil a => exact h0
  | cons a a1 a2 e es _ hsm _ ih => exact ih hsm

theorem trace_blocks (C : Crypto) (a0 a : Abs) (es : List Entry) (h : Trace C a0 es a) :
    ∃ l : List Bytes, a.blocks = a0.blocks ++ l.toArray := by
  induction h with
  | nil a => exact ⟨[], by simp⟩
  | cons a a1 a2 e es hs _ _ ih =>
    obtain ⟨l1, h1⟩ := step_blocks C a a1 e hs
    obtain ⟨l2, h2⟩ := ih
    exact ⟨l1 ++ l2, by rw [h2, h1]; simp [Array.append_assoc]⟩

theorem trace_untouched (C : Crypto) (a0 a : Abs) (es : List Entry) (h : Trace C a0 es a) (i : Nat)
    (hu : ∀ e ∈ es, ¬ Touches e i) : a.held i = a0.held i := by
  induction h with
  | nil a => rfl
  | cons a a1 a2 e es hs _ _ ih =>
    rw [ih (fun x hx => hu x (List.mem_cons_of_mem _ hx)), step_untouched C a a1 e hs i (hu e List.mem_cons_self)]

theorem trace_kept (C : Crypto) (a0 a : Abs) (es : List Entry) (h : Trace C a0 es a) (i : Nat) (hh : a0.held i = true) :
    a.held i = true ∨ ∃ e ∈ es, Clears e i := by
  induction h with
  | nil a => exact Or.inl hh
  | cons a a1 a2 e es hs _ _ ih =>
    rcases step_kept C a a1 e hs i hh with h1 | h1
    · rcases ih h1 with h2 | ⟨x, hx, hc⟩
      · exact Or.inl h2
      · exact Or.inr ⟨x, List.mem_cons_of_mem _ hx, hc⟩
    · exact Or.inr ⟨e, List.mem_cons_self, h1⟩

theorem trace_low (C : Crypto) (a0 a : Abs) (es : List Entry) (h : Trace C a0 es a) (i : Nat) (hi : i < a0.blocks.size)
    (hh : a0.held i = false) : a.held i = false := by
  induction h with
  | nil a => exact hh
  | cons a a1 a2 e es hs _ _ ih =>
    exact ih (Nat.lt_of_lt_of_le hi (step_size_le C a a1 e hs)) (step_low C a a1 e hs i hi hh)

theorem trace_heldLt (C : Crypto) (a0 a : Abs) (es : List Entry) (h : Trace C a0 es a)
    (hlt : ∀ i, a0.held i = true → i < a0.blocks.size) : ∀ i, a.held i = true → i < a.blocks.size := by
  induction h with
  | nil a => exact hlt
  | cons a a1 a2 e es hs _ _ ih => exact ih (step_heldLt C a a1 e hs hlt)

end HC.Touch
