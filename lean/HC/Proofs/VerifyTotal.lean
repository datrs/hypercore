import HC.Proofs.Verify
/-!
`verify_upgrade` and `verify_proof` return a value or an error for **every** proof — they never panic
and never loop: each loop of the Rust has a measure that the inputs bound, and the model's fuel is that bound.
The root loop: the iterator's index grows in every round (`nextTree` jumps past the right edge `mu` of the
current subtree, and merging in `append_root` never moves that edge to the left) and the loop stops once the
index reaches `to`.  The grow loop consumes one queued node per round.  The descent for additional nodes halves
the iterator's factor, a power of two, per round.
-/
namespace HC.Tree
open HC.Codec HC.Flat

/-- the right edge of the iterator's subtree: one past its last flat index, one before the index `next_tree` moves to -/
def mu (it : Iter) : Nat := it.index + it.factor / 2

def Pow2 (it : Iter) : Prop := ∃ k, it.factor = 2 ^ (k + 1)

theorem pow2_new (i : Nat) : Pow2 (Iter.new i) := by
  unfold Iter.new
  split
  · exact ⟨depth i, rfl⟩
  · exact ⟨0, rfl⟩

theorem sibling_of_left (it : Iter) (h : it.offset % 2 = 0) : it.sibling = ⟨it.index + it.factor, it.offset + 1, it.factor⟩ := by
  rw [Iter.sibling, Iter.isLeft, if_pos (decide_eq_true h)]; rfl

/-- (a right node has a nonzero offset, so `prev` does move) -/
theorem sibling_of_right (it : Iter) (h : it.offset % 2 = 1) : it.sibling = ⟨it.index - it.factor, it.offset - 1, it.factor⟩ := by
  rw [Iter.sibling, Iter.isLeft, if_neg (by rw [h]; decide), Iter.prev, if_neg (fun h0 => by rw [h0] at h; cases h)]

theorem parent_of_left (it : Iter) (h : it.offset % 2 = 0) : it.parent = ⟨it.index + it.factor / 2, it.offset / 2, it.factor * 2⟩ := by
  rw [Iter.parent, if_neg (by rw [h]; decide)]

theorem parent_of_right (it : Iter) (h : it.offset % 2 = 1) :
    it.parent = ⟨it.index - it.factor / 2, (it.offset - 1) / 2, it.factor * 2⟩ := by
  rw [Iter.parent, if_pos h]

theorem factor_sibling (it : Iter) : it.sibling.factor = it.factor := by
  rcases Nat.mod_two_eq_zero_or_one it.offset with h | h
  · rw [sibling_of_left it h]
  · rw [sibling_of_right it h]

theorem factor_parent (it : Iter) : it.parent.factor = it.factor * 2 := by
  rcases Nat.mod_two_eq_zero_or_one it.offset with h | h
  · rw [parent_of_left it h]
  · rw [parent_of_right it h]

theorem pow2_sibling (it : Iter) (h : Pow2 it) : Pow2 it.sibling := by
  obtain ⟨k, hk⟩ := h; exact ⟨k, by rw [factor_sibling, hk]⟩

theorem pow2_parent (it : Iter) (h : Pow2 it) : Pow2 it.parent := by
  obtain ⟨k, hk⟩ := h
  exact ⟨k + 1, by rw [factor_parent, hk, ← Nat.pow_succ]⟩

theorem factor_leftChild (it : Iter) (h : it.factor ≠ 2) : it.leftChild.factor = it.factor / 2 := by
  rw [Iter.leftChild, if_neg h]

theorem pow2_leftChild (it : Iter) (h : Pow2 it) : Pow2 it.leftChild := by
  obtain ⟨k, hk⟩ := h
  by_cases h2 : it.factor = 2
  · rw [Iter.leftChild, if_pos h2]; exact ⟨k, hk⟩
  · cases k with
    | zero => exact absurd hk h2
    | succ k => exact ⟨k, by rw [factor_leftChild it h2, hk, Nat.pow_succ, Nat.mul_div_cancel _ (by decide)]⟩

/-! ### the right edge never moves left when climbing -/

theorem pred_even {o : Nat} (h : o % 2 = 1) : (o - 1) % 2 = 0 := by
  cases o with
  | zero => cases h
  | succ k =>
    rcases Nat.mod_two_eq_zero_or_one k with h0 | h1
    · exact h0
    · rw [Nat.add_mod, h1] at h; cases h

theorem succ_odd {o : Nat} (h : o % 2 = 0) : (o + 1) % 2 = 1 := by rw [Nat.add_mod, h]

/-- going to the sibling and up: the new subtree contains the old one, so its right edge is not further left -/
theorem mu_sibling_parent (it : Iter) : mu it ≤ mu it.sibling.parent := by
  have h1 : it.factor * 2 / 2 = it.factor := Nat.mul_div_cancel _ (by decide)
  have h2 : it.factor / 2 ≤ it.factor := Nat.div_le_self _ _
  rcases Nat.mod_two_eq_zero_or_one it.offset with h | h
  · rw [sibling_of_left it h, parent_of_right ⟨_, it.offset + 1, _⟩ (succ_odd h)]
    unfold mu
    dsimp only
    rw [h1]
    exact Nat.le_trans (Nat.add_le_add_left h2 _) (Nat.add_le_add_right (Nat.le_sub_of_add_le (Nat.add_le_add_left h2 _)) _)
  · rw [sibling_of_right it h, parent_of_left ⟨_, it.offset - 1, _⟩ (pred_even h)]
    unfold mu
    dsimp only
    rw [h1, Nat.add_right_comm]
    exact Nat.add_le_add_right (Nat.le_add_of_sub_le (Nat.le_refl _)) _

theorem mu_sibling_sibling (it : Iter) : mu it ≤ mu it.sibling.sibling := by
  rcases Nat.mod_two_eq_zero_or_one it.offset with h | h
  · rw [sibling_of_left it h, sibling_of_right ⟨_, it.offset + 1, _⟩ (succ_odd h)]
    exact Nat.add_le_add_right (Nat.le_sub_of_add_le (Nat.le_refl _)) _
  · rw [sibling_of_right it h, sibling_of_left ⟨_, it.offset - 1, _⟩ (pred_even h)]
    exact Nat.add_le_add_right (Nat.le_add_of_sub_le (Nat.le_refl _)) _

/-- merging in `append_root` never moves the right edge of the iterator's subtree to the left -/
theorem appendRoot_mu (C : Crypto) (cs : Changeset) (n : Node) (it : Iter) : mu it ≤ mu (appendRoot C cs n it).2 :=
  HC.Tree.mergeLoop_inv C (fun _ _ x => mu it ≤ mu x) (fun _ _ x h => Nat.le_trans h (mu_sibling_sibling x))
    (fun _ _ _ _ x h => Nat.le_trans h (mu_sibling_parent x)) _ _ _ it (Nat.le_refl _)

theorem appendRoot_pow2 (C : Crypto) (cs : Changeset) (n : Node) (it : Iter) (hp : Pow2 it) : Pow2 (appendRoot C cs n it).2 :=
  HC.Tree.mergeLoop_inv C (fun _ _ x => Pow2 x) (fun _ _ _ h => pow2_sibling _ (pow2_sibling _ h))
    (fun _ _ _ _ _ h => pow2_parent _ (pow2_sibling _ h)) _ _ _ it hp

theorem nextTree_index (it : Iter) : it.nextTree.index = mu it + 1 := rfl

theorem growLoop_notPanic (C : Crypto) (rootIndex : Nat) (fuel : Nat) : ∀ (cs : Changeset) (it : Iter) (q : NodeQueue),
    q.count < fuel → NotPanic (growLoop C rootIndex fuel cs it q)
      ∧ ∀ r, growLoop C rootIndex fuel cs it q = .ok r → r.2.1.index = rootIndex := by
  induction fuel with
  | zero => intro cs it q h; exact absurd h (Nat.not_lt_zero _)
  | succ fuel ih =>
    intro cs it q hq
    rw [growLoop_succ]
    split
    · rename_i hidx
      exact ⟨notPanic_ok _, fun r hr => by cases hr; exact hidx⟩
    · have hstep := fun x (hs : q.shift it.sibling.index = .ok x) =>
        ih (appendRoot C cs x.1 it.sibling).1 (appendRoot C cs x.1 it.sibling).2 x.2
          (by rw [← shift_count q _ x.1 x.2 hs] at hq; exact Nat.lt_of_succ_lt_succ hq)
      refine ⟨andThen_notPanic _ _ (shift_ne_panic q _) fun x hs => (hstep x hs).1, fun r hr => ?_⟩
      obtain ⟨x, hs, hr⟩ := (andThen_ok_iff _ _ _).mp hr
      exact (hstep x hs).2 r hr

/-- for every fuel: running out of it only ends the climb early (`full_root` gives 70) -/
theorem fullRootLoop_index (fuel : Nat) : ∀ (it : Iter) (i : Nat), it.index < i →
    it.index ≤ (Iter.fullRootLoop fuel it i).index ∧ (Iter.fullRootLoop fuel it i).index < i := by
  induction fuel with
  | zero => intro it i h; exact ⟨Nat.le_refl _, h⟩
  | succ fuel ih =>
    intro it i h
    unfold Iter.fullRootLoop
    split
    · rename_i hgt
      obtain ⟨i1, i2⟩ := ih ⟨it.index + it.factor / 2, it.offset / 2, it.factor * 2⟩ i
        (Nat.lt_of_le_of_lt (Nat.add_le_add_right (Nat.le_add_right _ _) _) hgt)
      exact ⟨Nat.le_trans (Nat.le_add_right _ _) i1, i2⟩
    · exact ⟨Nat.le_refl _, h⟩

theorem fullRoot_index (it : Iter) (i : Nat) (h : (it.fullRoot i).1 = true) :
    it.index ≤ (it.fullRoot i).2.index ∧ (it.fullRoot i).2.index < i := by
  unfold Iter.fullRoot at h ⊢
  split
  · rename_i hc; simp [hc] at h
  · rename_i hc
    simp only [Bool.or_eq_true, decide_eq_true_eq, not_or] at hc
    exact fullRootLoop_index 70 it i (Nat.lt_of_not_le hc.1)

/-! ### the root loop of `verify_upgrade` -/

theorem upgradeRoots_notPanic (C : Crypto) (to : Nat) (fuel : Nat) : ∀ (st : UpState),
    0 < fuel → to + 1 ≤ st.it.index + fuel → NotPanic (upgradeRoots C to fuel st) := by
  induction fuel with
  | zero => intro st h; exact absurd h (Nat.lt_irrefl 0)
  | succ fuel ih =>
    intro st _ hb
    rw [upgradeRoots_succ]
    split
    · exact notPanic_ok _
    · rename_i hfull
      -- every other round ends with `nextTree` of an iterator whose right edge is not left of the full root
      have hfi := fullRoot_index st.it to (by simpa using hfull)
      have hto : to ≤ st.it.index + fuel := Nat.le_of_succ_le_succ hb
      have hfuel : 0 < fuel := Nat.pos_of_ne_zero fun h0 =>
        Nat.lt_irrefl _ (Nat.lt_of_lt_of_le (Nat.lt_of_le_of_lt hfi.1 hfi.2) (by rw [h0] at hto; exact hto))
      have next : ∀ (st' : UpState) (it' : Iter), st'.it = it'.nextTree → (st.it.fullRoot to).2.index ≤ mu it' →
          NotPanic (upgradeRoots C to fuel st') := by
        intro st' it' e hmu
        apply ih st' hfuel
        rw [e, nextTree_index, Nat.add_right_comm]
        exact Nat.succ_le_succ (Nat.le_trans hto (Nat.add_le_add_right (Nat.le_trans hfi.1 hmu) fuel))
      split
      · exact next _ _ rfl (Nat.le_add_right _ _)
      · split
        · -- the model's fuel `nodes.length + 3` is more than the queue holds, and every round shifts one node out
          have hg := growLoop_notPanic C (st.it.fullRoot to).2.index (st.q.nodes.length + 3) st.cs
            (Iter.new (st.cs.roots.getLast?.getD default).index) st.q st.q.count_lt
          apply andThen_notPanic _ _ hg.1
          intro r hr
          have hidx := hg.2 r hr
          exact next _ r.2.1 rfl (hidx ▸ Nat.le_add_right _ _)
        · apply andThen_notPanic _ _ (shift_ne_panic _ _)
          intro x _
          exact next _ _ rfl (Nat.le_trans (Nat.le_add_right _ _) (appendRoot_mu C st.cs x.1 _))

/-! ### additional nodes -/

theorem extraSiblings_pow2 (C : Crypto) (fuel : Nat) : ∀ (cs : Changeset) (it : Iter) (ex : List Node), Pow2 it →
    Pow2 (extraSiblings C fuel cs it ex).2.1 := by
  induction fuel with
  | zero => intro cs it ex hp; simp only [extraSiblings]; exact hp
  | succ fuel ih =>
    intro cs it ex hp
    cases ex with
    | nil => simp only [extraSiblings]; exact hp
    | cons n ex =>
      simp only [extraSiblings]
      split
      · exact ih _ _ _ (appendRoot_pow2 C cs n it.sibling (pow2_sibling it hp))
      · exact pow2_sibling it hp

theorem descendTo_succ (target fuel : Nat) (it : Iter) :
    descendTo target (fuel + 1) it =
      if it.index = target then .ok it else if it.factor = 2 then .error .err else descendTo target fuel it.leftChild := by
  rw [descendTo]

theorem descendTo_notPanic (target : Nat) : ∀ (k fuel : Nat) (it : Iter), it.factor = 2 ^ (k + 1) → k < fuel →
    NotPanic (descendTo target fuel it) ∧ ∀ r, descendTo target fuel it = .ok r → Pow2 r := by
  intro k
  induction k with
  | zero =>
    intro fuel it hf hk
    obtain ⟨fuel, rfl⟩ := Nat.exists_eq_add_one_of_ne_zero (Nat.ne_of_gt hk)
    rw [descendTo_succ]
    by_cases hi : it.index = target
    · rw [if_pos hi]
      exact ⟨notPanic_ok _, fun r hr => by cases hr; exact ⟨0, hf⟩⟩
    · rw [if_neg hi, if_pos (show it.factor = 2 from hf)]
      exact ⟨notPanic_err, fun r hr => by cases hr⟩
  | succ k ih =>
    intro fuel it hf hk
    obtain ⟨fuel, rfl⟩ := Nat.exists_eq_add_one_of_ne_zero (Nat.ne_of_gt (Nat.lt_of_le_of_lt (Nat.zero_le _) hk))
    rw [descendTo_succ]
    by_cases hi : it.index = target
    · rw [if_pos hi]
      exact ⟨notPanic_ok _, fun r hr => by cases hr; exact ⟨k + 1, hf⟩⟩
    · have hne : ¬ it.factor = 2 := by
        rw [hf]
        exact Nat.ne_of_gt (Nat.pow_lt_pow_right (by decide : 1 < 2) (Nat.succ_lt_succ (Nat.succ_pos k)))
      rw [if_neg hi, if_neg hne]
      exact ih fuel it.leftChild (by rw [factor_leftChild it hne, hf, Nat.pow_succ, Nat.mul_div_cancel _ (by decide)])
        (Nat.lt_of_succ_lt_succ hk)

theorem extraRest_notPanic (C : Crypto) : ∀ (ex : List Node) (cs : Changeset) (it : Iter), Pow2 it →
    NotPanic (extraRest C cs it ex) := by
  intro ex
  induction ex with
  | nil => intro cs it _; exact notPanic_ok _
  | cons n ex ih =>
    intro cs it hp
    obtain ⟨k, hk⟩ := hp
    -- the model's fuel `it.factor + 1 = 2^(k+1) + 1` is more than the `k` halvings that are left
    obtain ⟨d1, d2⟩ := descendTo_notPanic n.index k (it.factor + 1) it hk (by rw [hk]; exact Nat.lt_succ_of_lt (Nat.lt_trans (Nat.lt_succ_self k) Nat.lt_two_pow_self))
    rw [extraRest_cons]
    apply andThen_notPanic _ _ d1
    intro it1 hd
    exact ih _ _ (pow2_sibling _ (appendRoot_pow2 C cs n it1 (d2 it1 hd)))

theorem checkSignature_notPanic (C : Crypto) (fork : Nat) (u : DataUpgrade) (pk : Bytes) (consumed : Bool) (cs : Changeset) :
    NotPanic (checkSignature C fork u pk consumed cs) := by
  unfold checkSignature
  dsimp only
  split
  · exact notPanic_err
  · split
    · exact notPanic_err
    · exact notPanic_ok _

theorem verifyUpgrade_notPanic (C : Crypto) (fork : Nat) (u : DataUpgrade) (blockRoot : Option Node) (pk : Bytes)
    (cs : Changeset) : NotPanic (verifyUpgrade C fork u blockRoot pk cs) := by
  unfold verifyUpgrade
  apply andThen_notPanic
  · -- the model's fuel `to + 2`, from index 0
    apply upgradeRoots_notPanic
    · exact Nat.succ_pos _
    · rw [index_new, Nat.zero_add]; exact Nat.le_succ _
  · intro st _
    split
    · exact notPanic_err
    · apply andThen_notPanic
      · apply extraRest_notPanic
        exact extraSiblings_pow2 C _ _ _ _ (pow2_new _)
      · intro x _
        exact checkSignature_notPanic C fork u pk _ _

/-- **C09, verification side.**  `verify_proof` returns a changeset or an error for every proof, every
    tree state and every key: it never panics and none of its loops runs out of fuel. -/
theorem verifyProof_notPanic (C : Crypto) (t : Tree) (f : File) (p : Proof) (pk : Bytes) :
    NotPanic (verifyProof C t f p pk) := by
  rw [verifyProof_eq]
  apply andThen_notPanic _ _ (verifyTree_notPanic C p.block p.hash p.seek t.changeset)
  intro x _
  cases p.upgrade with
  | none => exact checkStored_notPanic t f _ _
  | some u =>
    apply andThen_notPanic _ _ (verifyUpgrade_notPanic C p.fork u x.1 pk x.2)
    intro y _
    exact checkStored_notPanic t f _ _

end HC.Tree
