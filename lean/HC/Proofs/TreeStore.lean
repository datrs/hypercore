import HC.Proofs.Offsets
import HC.Proofs.File
/-!
The node lookup of the tree (`Tree.node?`: unflushed map first, then the tree store) agrees with the
reference tree, and stays so across `commit` (new nodes enter the unflushed map) and `flush` (they move to their
40-byte slots in the store).  A slot write that is torn after some of its bytes leaves alone every slot that
already holds what was being written, and every other slot (`tornSlot_read`).  At the end, in namespace `HC.Tree`:
the tree that a successful `commit` returns, with and without an upgrade, and `verifyProof` followed by `commit`
on a proof that carries only an upgrade (stated here, the lowest module that has `insertAll`).
-/
namespace HC.TreeStore
open HC HC.Codec HC.Flat HC.Tree HC.RefTree HC.RefProof HC.Offsets

/-- what reading nodes back needs from the hash functions: 32-byte digests, never all zero (a node
    whose hash is all zero is indistinguishable from an unwritten slot — the crate's "blank" node) -/
structure HashWF (C : Crypto) : Prop where
  leaf_len : ∀ x, (C.leaf x).length = 32
  parent_len : ∀ n a b, (C.parent n a b).length = 32
  leaf_nz : ∀ x, (C.leaf x).all (· == 0) = false
  parent_nz : ∀ n a b, (C.parent n a b).all (· == 0) = false

def TreeWF (C : Crypto) : Prop := ∀ l, (C.tree l).length = 32

theorem nodeAt_hash_len (C : Crypto) (hC : HashWF C) (bs : Array Bytes) (d o : Nat) : (nodeAt C bs d o).hash.length = 32 := by
  cases d with
  | zero => simp [nodeAt, RefTree.node, hC.leaf_len]
  | succ d => simp [nodeAt, RefTree.node, hC.parent_len]

theorem nodeAt_not_blank (C : Crypto) (hC : HashWF C) (bs : Array Bytes) (d o : Nat) : (nodeAt C bs d o).blank = false := by
  cases d with
  | zero => simp [nodeAt, RefTree.node, Codec.Node.blank, hC.leaf_nz]
  | succ d => simp [nodeAt, RefTree.node, Codec.Node.blank, hC.parent_nz]

theorem nodeAt_index (C : Crypto) (bs : Array Bytes) (d o : Nat) : (nodeAt C bs d o).index = Flat.index d o := rfl

theorem nodeAt_length_le (C : Crypto) (bs : Array Bytes) (d o : Nat) : (nodeAt C bs d o).length ≤ psum bs ((o + 1) * 2 ^ d) := by
  exact node_size C bs d o ▸ Nat.le_add_left _ _

theorem nodeAt_append (C : Crypto) (bs : Array Bytes) (l : List Bytes) (d o : Nat) (h : (o + 1) * 2 ^ d ≤ bs.size) :
    nodeAt C (bs ++ l.toArray) d o = nodeAt C bs d o :=
  nodeAt_congr C bs (bs ++ l.toArray) d o fun i hi => by
    have : i < bs.size := Nat.lt_of_lt_of_le hi h
    simp [Array.getD_eq_getD_getElem?, Array.getElem?_append_left this]

abbrev NMap := Std.HashMap Nat Node

def insertAll (m : NMap) (l : List Node) : NMap := l.foldl (fun m n => m.insert n.index n) m

theorem insertAll_miss (l : List Node) (m : NMap) (i : Nat) (h : ∀ n ∈ l, n.index ≠ i) : (insertAll m l)[i]? = m[i]? := by
  induction l generalizing m with
  | nil => rfl
  | cons n ns ih =>
    refine (ih (m.insert n.index n) fun x hx => h x (List.mem_cons_of_mem _ hx)).trans ?_
    rw [Std.HashMap.getElem?_insert, if_neg (by rw [beq_iff_eq]; exact h n List.mem_cons_self)]

theorem insertAll_hit (l : List Node) (m : NMap) (i : Nat) (h : ∃ n ∈ l, n.index = i) :
    ∃ n ∈ l, n.index = i ∧ (insertAll m l)[i]? = some n := by
  induction l generalizing m with
  | nil => obtain ⟨n, hn, _⟩ := h; cases hn
  | cons n ns ih =>
    by_cases hrest : ∃ x ∈ ns, x.index = i
    · obtain ⟨x, hx, hxi, hget⟩ := ih (m.insert n.index n) hrest
      exact ⟨x, List.mem_cons_of_mem _ hx, hxi, hget⟩
    · -- the last node with this index is the head
      have hmiss : ∀ x ∈ ns, x.index ≠ i := fun x hx e => hrest ⟨x, hx, e⟩
      obtain ⟨x, hx, hxi⟩ := h
      have hn : n.index = i := by
        rcases List.mem_cons.mp hx with rfl | hx'
        · exact hxi
        · exact absurd hxi (hmiss x hx')
      refine ⟨n, List.mem_cons_self, hn, (insertAll_miss ns (m.insert n.index n) i hmiss).trans ?_⟩
      rw [Std.HashMap.getElem?_insert, if_pos (by rw [beq_iff_eq]; exact hn)]

/-- every entry of the map sits under its own index and has the on-disk shape -/
def MapWF (m : NMap) : Prop := ∀ (k : Nat) (n : Node), m[k]? = some n → n.index = k ∧ n.hash.length = 32 ∧ n.length < 2 ^ 64

theorem mapWF_insertAll (l : List Node) (m : NMap) (hm : MapWF m) (hl : ∀ n ∈ l, n.hash.length = 32 ∧ n.length < 2 ^ 64) :
    MapWF (insertAll m l) := by
  intro k n hk
  by_cases h : ∃ x ∈ l, x.index = k
  · obtain ⟨x, hx, hxi, hget⟩ := insertAll_hit l m k h
    rw [hget] at hk
    have hxn : x = n := Option.some.inj hk
    rw [← hxn]
    exact ⟨hxi, hl x hx⟩
  · rw [insertAll_miss l m k (fun x hx e => h ⟨x, hx, e⟩)] at hk
    exact hm k n hk

theorem appendMany_nodes (C : Crypto) (batch : List Bytes) (bs : Array Bytes) (cs : Changeset) (h : RootsOK C bs cs) :
    ∃ added, (batch.foldl (Tree.append C) cs).rnodes = added ++ cs.rnodes
      ∧ (∀ n ∈ added, ∃ d o, n = nodeAt C (bs ++ batch.toArray) d o ∧ (o + 1) * 2 ^ d ≤ bs.size + batch.length)
      ∧ (∀ d o, bs.size < (o + 1) * 2 ^ d → (o + 1) * 2 ^ d ≤ bs.size + batch.length →
           nodeAt C (bs ++ batch.toArray) d o ∈ added) := by
  induction batch generalizing bs cs with
  | nil =>
    exact ⟨[], rfl, fun n hn => absurd hn List.not_mem_nil, fun d o h1 h2 => absurd h2 (Nat.not_le_of_lt h1)⟩
  | cons b rest ih =>
    obtain ⟨h1, a1, e1, s1, c1⟩ := append_ref C bs cs b h
    obtain ⟨a2, e2, s2, c2⟩ := ih (bs.push b) (Tree.append C cs b) h1
    rw [Array.size_push, Nat.add_right_comm] at s2 c2
    rw [append_cons_toArray]
    refine ⟨a2 ++ a1, by rw [List.foldl_cons, e2, e1, List.append_assoc], fun n hn => ?_, fun d o h3 h4 => ?_⟩
    · rcases List.mem_append.mp hn with hn | hn
      · exact s2 n hn
      · obtain ⟨d, o, rfl, hb⟩ := s1 n hn
        exact ⟨d, o, (nodeAt_append C (bs.push b) rest d o ((Array.size_push ..).symm ▸ hb)).symm,
          Nat.le_trans hb (Nat.succ_le_succ (Nat.le_add_right _ _))⟩
    · rcases Nat.eq_or_lt_of_le (Nat.succ_le_of_lt h3) with heq | hlt
      · rw [nodeAt_append C (bs.push b) rest d o ((Array.size_push ..).symm ▸ Nat.le_of_eq heq.symm)]
        exact List.mem_append_right _ (c1 d o heq.symm)
      · exact List.mem_append_left _ (c2 d o hlt h4)

theorem mergeLoop_count (C : Crypto) (fuel : Nat) : ∀ (rroots nodes : List Node) (it : Iter),
    (mergeLoop C fuel rroots nodes it).1.length + (mergeLoop C fuel rroots nodes it).2.1.length
      = rroots.length + nodes.length :=
  fun rroots nodes it =>
    mergeLoop_inv C (fun r n _ => r.length + n.length = rroots.length + nodes.length) (fun _ _ _ h => h)
      (fun a b rest n it h => by rw [List.length_cons, List.length_cons] at h ⊢; omega)
      fuel rroots nodes it rfl

theorem appendRoot_count (C : Crypto) (cs : Changeset) (n : Node) (it : Iter) :
    (appendRoot C cs n it).1.roots.length + (appendRoot C cs n it).1.rnodes.length = cs.roots.length + cs.rnodes.length + 2 := by
  have := mergeLoop_count C (cs.roots.length + 1) (n :: cs.roots.reverse) (n :: cs.rnodes) it
  simp only [List.length_cons, List.length_reverse] at this
  simp only [appendRoot]
  generalize mergeLoop C (cs.roots.length + 1) (n :: cs.roots.reverse) (n :: cs.rnodes) it = r at this ⊢
  obtain ⟨x, y, z⟩ := r
  simp only [List.length_reverse] at this ⊢
  omega

theorem append_count (C : Crypto) (cs : Changeset) (b : Bytes) :
    (Tree.append C cs b).roots.length + (Tree.append C cs b).rnodes.length = cs.roots.length + cs.rnodes.length + 2 :=
  appendRoot_count C cs _ _

theorem appendMany_count (C : Crypto) (batch : List Bytes) (cs : Changeset) :
    (batch.foldl (Tree.append C) cs).roots.length + (batch.foldl (Tree.append C) cs).rnodes.length
      = cs.roots.length + cs.rnodes.length + 2 * batch.length := by
  induction batch generalizing cs with
  | nil => simp
  | cons b rest ih =>
    simp only [List.foldl_cons, ih, append_count, List.length_cons]; omega

/-! ### `commit` keeps the lookup exact -/

theorem node?_congr (t t' : Tree) (f : File) (i : Nat) (h : t'.unflushed[i]? = t.unflushed[i]?) : t'.node? f i = t.node? f i := by
  simp [Tree.node?, h]

theorem node?_of_unflushed (t : Tree) (f : File) (i : Nat) (n : Node) (h : t.unflushed[i]? = some n) (hb : n.blank = false) :
    t.node? f i = some n := by
  simp [Tree.node?, h, hb]

/-- the lookup after reference nodes have entered the unflushed map: an index among theirs answers with the node inserted
    there, every other index as before -/
theorem node?_insertAll (C : Crypto) (hC : HashWF C) (bs : Array Bytes) (t t' : Tree) (f : File) (l : List Node)
    (hl : ∀ n ∈ l, ∃ d o, n = nodeAt C bs d o) (hu : t'.unflushed = insertAll t.unflushed l) (i : Nat) :
    (∃ d o, i = Flat.index d o ∧ nodeAt C bs d o ∈ l ∧ t'.node? f i = some (nodeAt C bs d o))
      ∨ ((∀ n ∈ l, n.index ≠ i) ∧ t'.node? f i = t.node? f i) := by
  by_cases hex : ∃ n ∈ l, n.index = i
  · obtain ⟨x, hx, hxi, hget⟩ := insertAll_hit l t.unflushed i hex
    obtain ⟨d, o, rfl⟩ := hl x hx
    exact Or.inl ⟨d, o, hxi.symm, hx, node?_of_unflushed t' f i _ (hu ▸ hget) (nodeAt_not_blank C hC bs d o)⟩
  · have hmiss : ∀ n ∈ l, n.index ≠ i := fun n hn e => hex ⟨n, hn, e⟩
    exact Or.inr ⟨hmiss, node?_congr t t' f i (hu ▸ insertAll_miss l t.unflushed i hmiss)⟩

theorem nodesOK_insert_gen (C : Crypto) (hC : HashWF C) (bs : Array Bytes) (more : List Bytes) (t t' : Tree) (f : File)
    (nodes : List Node) (ht' : t'.unflushed = insertAll t.unflushed nodes)
    (sound : ∀ n ∈ nodes, ∃ d o, n = nodeAt C (bs ++ more.toArray) d o ∧ (o + 1) * 2 ^ d ≤ bs.size + more.length)
    (compl : ∀ d o, bs.size < (o + 1) * 2 ^ d → (o + 1) * 2 ^ d ≤ bs.size + more.length → nodeAt C (bs ++ more.toArray) d o ∈ nodes)
    (hN : NodesOK C bs t f) : NodesOK C (bs ++ more.toArray) t' f := by
  intro d o hb
  rw [Array.size_append, List.size_toArray] at hb
  rcases node?_insertAll C hC _ t t' f nodes (fun n hn => let ⟨d, o, e, _⟩ := sound n hn; ⟨d, o, e⟩) ht' (Flat.index d o) with
    ⟨d', o', e, _, hget⟩ | ⟨hmiss, hsame⟩
  · obtain ⟨rfl, rfl⟩ := index_inj d o d' o' e
    exact hget
  · -- a new position would be among the inserted nodes
    have hold : (o + 1) * 2 ^ d ≤ bs.size := Nat.le_of_not_lt fun hlt => hmiss _ (compl d o hlt hb) rfl
    rw [hsame, hN d o hold, nodeAt_append C bs more d o hold]

theorem nodesOK_insert (C : Crypto) (hC : HashWF C) (bs : Array Bytes) (batch : List Bytes) (t t' : Tree) (f : File)
    (cs : Changeset) (hcs : RootsOK C bs cs) (hrn : cs.rnodes = [])
    (ht' : t'.unflushed = insertAll t.unflushed (batch.foldl (Tree.append C) cs).nodes)
    (hN : NodesOK C bs t f) : NodesOK C (bs ++ batch.toArray) t' f := by
  obtain ⟨added, eadd, sound, compl⟩ := appendMany_nodes C batch bs cs hcs
  rw [hrn, List.append_nil] at eadd
  have hnodes : ∀ n, n ∈ (batch.foldl (Tree.append C) cs).nodes ↔ n ∈ added := fun n => by
    rw [Changeset.nodes, eadd, List.mem_reverse]
  exact nodesOK_insert_gen C hC bs batch t t' f _ ht' (fun n hn => sound n ((hnodes n).mp hn))
    (fun d o h1 h2 => (hnodes _).mpr (compl d o h1 h2)) hN

/-! ### `flush` keeps the lookup exact -/

theorem nodeBytes_length (n : Node) (h : n.hash.length = 32) : (nodeBytes n).length = 40 := by
  simp [nodeBytes, le8, leBytes_length, h]

theorem nodeOfBytes_nodeBytes (n : Node) (h : n.length < 2 ^ 64) : nodeOfBytes n.index (nodeBytes n) = n := by
  have h8 : (le8 n.length).length = 8 := by simp [le8, leBytes_length]
  have : leVal (le8 n.length) = n.length := leVal_leBytes 8 n.length (by simpa using h)
  simp [nodeOfBytes, nodeBytes, h8, this]

def writeSlots (f : File) (ns : List Node) : File := ns.foldl (fun f n => f.write (n.index * Spec.nodeSize) (nodeBytes n)) f

theorem writeSlots_read (ns : List Node) (f : File) (hwf : ∀ n ∈ ns, n.hash.length = 32)
    (hd : ns.Pairwise (fun a b => a.index ≠ b.index)) :
    (∀ n ∈ ns, (writeSlots f ns).read (n.index * Spec.nodeSize) Spec.nodeSize = some (nodeBytes n))
      ∧ (∀ i bs, (∀ n ∈ ns, n.index ≠ i) → f.read (i * Spec.nodeSize) Spec.nodeSize = some bs →
           (writeSlots f ns).read (i * Spec.nodeSize) Spec.nodeSize = some bs) := by
  induction ns generalizing f with
  | nil => exact ⟨fun n hn => (by cases hn), fun i bs _ h => h⟩
  | cons n rest ih =>
    obtain ⟨hd1, hd2⟩ := List.pairwise_cons.mp hd
    obtain ⟨ih1, ih2⟩ := ih (f.write (n.index * Spec.nodeSize) (nodeBytes n)) (fun x hx => hwf x (by simp [hx])) hd2
    have hlen : (nodeBytes n).length = 40 := nodeBytes_length n (hwf n (by simp))
    constructor
    · intro x hx
      rcases List.mem_cons.mp hx with rfl | hx
      · simp only [writeSlots, List.foldl_cons]
        apply ih2 x.index (nodeBytes x) (fun y hy => (hd1 y hy).symm)
        have := File.read_write_same f (x.index * Spec.nodeSize) (nodeBytes x)
        rw [hlen] at this
        exact this
      · exact ih1 x hx
    · intro i bs hi hr
      simp only [writeSlots, List.foldl_cons]
      apply ih2 i bs (fun y hy => hi y (by simp [hy]))
      apply File.read_write_disjoint f _ _ _ _ _ hr
      have : n.index ≠ i := hi n (by simp)
      rw [hlen]
      simp only [Spec.nodeSize]
      omega

theorem leBytes_leVal (l : Bytes) : leBytes (leVal l) l.length = l := by
  induction l with
  | nil => rfl
  | cons b l ih =>
    simp only [leVal, List.length_cons, leBytes]
    have hb : b.toNat < 256 := b.toNat_lt
    have h1 : (b.toNat + 256 * leVal l) % 256 = b.toNat := by rw [Nat.add_mul_mod_self_left, Nat.mod_eq_of_lt hb]
    have h2 : (b.toNat + 256 * leVal l) / 256 = leVal l := by
      rw [Nat.add_mul_div_left _ _ (by decide), Nat.div_eq_of_lt hb, Nat.zero_add]
    rw [h1, h2, ih]
    simp

theorem nodeBytes_nodeOfBytes (i : Nat) (bs : Bytes) (h : bs.length = 40) : nodeBytes (nodeOfBytes i bs) = bs := by
  have h8 : (bs.take 8).length = 8 := by rw [List.length_take, h]; rfl
  have := leBytes_leVal (bs.take 8)
  rw [h8] at this
  simp only [nodeBytes, nodeOfBytes, le8, this, List.take_append_drop]

theorem read_write_take (f : File) (off : Nat) (bs : Bytes) (t : Nat) (hr : f.read off bs.length = some bs) :
    (f.write off (bs.take t)).read off bs.length = some bs := by
  apply File.read_of_bytes
  · rw [File.size_write]
    exact Nat.le_trans (File.read_size _ _ _ _ hr) (Nat.le_max_left _ _)
  · intro k hk
    rw [File.byte_write]
    split
    · rename_i hin
      have hkt : k < t := by
        have := Nat.lt_of_add_lt_add_left hin.2
        rw [List.length_take] at this
        exact Nat.lt_of_lt_of_le this (Nat.min_le_left _ _)
      rw [Nat.add_sub_cancel_left, List.getD_eq_getElem?_getD, List.getElem?_take, if_pos hkt, ← List.getD_eq_getElem?_getD]
    · exact (File.read_byte _ _ _ _ hr k hk).symm

/-- the write of `n`'s slot torn after `t` bytes: slot `i` reads as before if it is another slot, or is `n`'s
    and held `n` already -/
theorem tornSlot_read (f : File) (n : Node) (hw : n.hash.length = 32) (t : Nat) (i : Nat) (bs : Bytes)
    (hr : f.read (i * Spec.nodeSize) Spec.nodeSize = some bs)
    (hsame : n.index = i → nodeBytes n = bs) :
    (f.write (n.index * Spec.nodeSize) ((nodeBytes n).take t)).read (i * Spec.nodeSize) Spec.nodeSize = some bs := by
  have hlen := File.read_length _ _ _ _ hr
  by_cases hi : n.index = i
  · rw [hi, hsame hi, ← hlen]
    exact read_write_take f _ bs t (hlen ▸ hr)
  · have hl : ((nodeBytes n).take t).length ≤ 40 := by
      rw [List.length_take, nodeBytes_length n hw]; exact Nat.min_le_right _ _
    apply File.read_write_disjoint f _ _ _ _ _ hr
    rw [show Spec.nodeSize = 40 from rfl]
    omega

/-! ### slots: what the store holds at an index once nodes have gone to their slots -/

/-- an unflushed node shadows its slot; elsewhere the lookup is the store's -/
theorem node?_split (t : Tree) (f : File) (i : Nat) :
    t.node? f i = (match t.unflushed[i]? with
      | some n => if n.blank then none else some n
      | none => ({} : Tree).node? f i) := by
  simp only [Tree.node?, Std.HashMap.getElem?_empty]
  cases t.unflushed[i]? <;> rfl

theorem node?_of_read (f : File) (i : Nat) (bs : Bytes) (h : f.read (i * Spec.nodeSize) Spec.nodeSize = some bs) :
    ({} : Tree).node? f i = if (nodeOfBytes i bs).blank then none else some (nodeOfBytes i bs) := by
  simp only [Tree.node?, Std.HashMap.getElem?_empty, h]

theorem node?_empty (f : File) (i : Nat) (n : Node) (h : ({} : Tree).node? f i = some n) :
    ∃ bs, f.read (i * Spec.nodeSize) Spec.nodeSize = some bs ∧ nodeOfBytes i bs = n := by
  cases hr : f.read (i * Spec.nodeSize) Spec.nodeSize with
  | none => simp [Tree.node?, hr] at h
  | some bs =>
    rw [node?_of_read f i bs hr] at h
    split at h
    · cases h
    · exact ⟨bs, rfl, Option.some.inj h⟩

theorem some_of_nonblank {x n : Node} (h : (if x.blank then none else some x) = some n) : x = n ∧ n.blank = false := by
  cases hb : x.blank with
  | true => rw [hb, if_pos rfl] at h; cases h
  | false => rw [hb, if_neg Bool.false_ne_true] at h; cases h; exact ⟨rfl, hb⟩

theorem node?_nonblank (t : Tree) (f : File) (i : Nat) (n : Node) (h : t.node? f i = some n) : n.blank = false := by
  rw [node?_split] at h
  cases hu : t.unflushed[i]? with
  | some x => rw [hu] at h; exact (some_of_nonblank h).2
  | none =>
    rw [hu] at h
    obtain ⟨bs, hr, _⟩ := node?_empty f i n h
    rw [node?_of_read f i bs hr] at h
    exact (some_of_nonblank h).2

/-- a node that went to its slot is what the store holds there -/
theorem writeSlots_hit (L : List Node) (hw : ∀ n ∈ L, n.hash.length = 32 ∧ n.length < 2 ^ 64)
    (hd : L.Pairwise (fun a b => a.index ≠ b.index)) (f : File) (n : Node) (hn : n ∈ L) :
    ({} : Tree).node? (writeSlots f L) n.index = if n.blank then none else some n := by
  rw [node?_of_read _ _ _ ((writeSlots_read L f (fun x hx => (hw x hx).1) hd).1 n hn), nodeOfBytes_nodeBytes n (hw n hn).2]

/-- a node the store holds is still there when other nodes — or that node again — have gone to their slots -/
theorem writeSlots_keep (L : List Node) (hw : ∀ n ∈ L, n.hash.length = 32 ∧ n.length < 2 ^ 64)
    (hd : L.Pairwise (fun a b => a.index ≠ b.index)) (f : File) (i : Nat) (x : Node) (h : ({} : Tree).node? f i = some x)
    (hsame : ∀ n ∈ L, n.index = i → n = x) : ({} : Tree).node? (writeSlots f L) i = some x := by
  by_cases hex : ∃ n ∈ L, n.index = i
  · obtain ⟨n, hn, rfl⟩ := hex
    rw [writeSlots_hit L hw hd f n hn, hsame n hn rfl, node?_nonblank _ _ _ _ h]
    rfl
  · obtain ⟨bs, hr, _⟩ := node?_empty f i x h
    rw [node?_of_read _ _ _ ((writeSlots_read L f (fun n hn => (hw n hn).1) hd).2 i bs (fun n hn e => hex ⟨n, hn, e⟩) hr),
      ← node?_of_read f i bs hr]
    exact h

/-- … and when the write of another node's slot, or of that node again, is torn -/
theorem tornSlot_keep (f : File) (n : Node) (hw : n.hash.length = 32) (t i : Nat) (x : Node) (h : ({} : Tree).node? f i = some x)
    (hsame : n.index = i → n = x) : ({} : Tree).node? (f.write (n.index * Spec.nodeSize) ((nodeBytes n).take t)) i = some x := by
  obtain ⟨bs, hr, hdec⟩ := node?_empty f i x h
  have hr' := tornSlot_read f n hw t i bs hr fun hi => by
    rw [hsame hi, ← hdec]; exact nodeBytes_nodeOfBytes i bs (File.read_length _ _ _ _ hr)
  rw [node?_of_read _ _ _ hr', ← node?_of_read f i bs hr]
  exact h

theorem applyAll_tree_writes (d : Disk) (ns : List Node) :
    d.applyAll (ns.map fun n => SOp.write .tree (n.index * Spec.nodeSize) (nodeBytes n))
      = { d with tree := writeSlots d.tree ns } :=
  Disk.applyAll_writes d .tree _ _ ns

/-- the nodes that `flush` writes are those of the unflushed map, each index once -/
theorem flushList_spec (m : NMap) (hwf : MapWF m) :
    (∀ n, n ∈ (m.toList.map (·.2)).mergeSort (fun a b => a.index ≤ b.index) ↔ m[n.index]? = some n)
      ∧ ((m.toList.map (·.2)).mergeSort (fun a b => a.index ≤ b.index)).Pairwise (fun a b => a.index ≠ b.index) := by
  have hkey : ∀ p ∈ m.toList, p.2.index = p.1 := fun p hp =>
    (hwf p.1 p.2 (Std.HashMap.mem_toList_iff_getElem?_eq_some.mp hp)).1
  constructor
  · intro n
    rw [List.mem_mergeSort, List.mem_map]
    constructor
    · rintro ⟨p, hp, rfl⟩
      rw [hkey p hp]
      exact Std.HashMap.mem_toList_iff_getElem?_eq_some.mp hp
    · exact fun h => ⟨(n.index, n), Std.HashMap.mem_toList_iff_getElem?_eq_some.mpr h, rfl⟩
  · refine ((List.mergeSort_perm _ _).pairwise_iff (fun h e => h e.symm)).mpr ?_
    rw [List.pairwise_map]
    refine (Std.HashMap.distinct_keys_toList (m := m)).imp_of_mem fun {a b} ha hb hab => ?_
    rw [hkey a ha, hkey b hb]
    exact fun e => by simp [e] at hab

/-- the sorted list of unflushed nodes a tree flush writes -/
def _root_.HC.Crash.flushList (t : Tree) : List Node := (t.unflushed.toList.map (·.2)).mergeSort (fun a b => a.index ≤ b.index)

theorem _root_.HC.Crash.flush_journal (t : Tree) :
    t.flush.2 = (Crash.flushList t).map fun n => SOp.write .tree (n.index * Spec.nodeSize) (nodeBytes n) := rfl

theorem _root_.HC.Crash.flushList_mem (t : Tree) (hwf : MapWF t.unflushed) (n : Node) :
    n ∈ Crash.flushList t ↔ t.unflushed[n.index]? = some n :=
  (flushList_spec t.unflushed hwf).1 n

theorem _root_.HC.Crash.flushList_distinct (t : Tree) (hwf : MapWF t.unflushed) :
    (Crash.flushList t).Pairwise (fun a b => a.index ≠ b.index) :=
  (flushList_spec t.unflushed hwf).2

theorem _root_.HC.Crash.flushList_wf (t : Tree) (hwf : MapWF t.unflushed) :
    ∀ n ∈ Crash.flushList t, n.hash.length = 32 ∧ n.length < 2 ^ 64 :=
  fun n hn => (hwf _ _ ((Crash.flushList_mem t hwf n).mp hn)).2

theorem node?_flush (t : Tree) (d : Disk) (hwf : MapWF t.unflushed) (i : Nat) (n : Node)
    (h : t.node? d.tree i = some n) : (t.flush).1.node? (d.applyAll (t.flush).2).tree i = some n := by
  rw [Crash.flush_journal, applyAll_tree_writes]
  refine (node?_congr {} _ _ _ rfl).trans ?_
  rw [node?_split] at h
  cases hu : t.unflushed[i]? with
  | some x =>
    rw [hu] at h
    have hidx := (hwf _ _ hu).1
    have := writeSlots_hit _ (Crash.flushList_wf t hwf) (Crash.flushList_distinct t hwf) d.tree x
      ((Crash.flushList_mem t hwf x).mpr (hidx.symm ▸ hu))
    rw [hidx] at this
    exact this.trans h
  | none =>
    rw [hu] at h
    exact writeSlots_keep _ (Crash.flushList_wf t hwf) (Crash.flushList_distinct t hwf) d.tree i n h fun x hx e => by
      have := (Crash.flushList_mem t hwf x).mp hx; rw [e, hu] at this; cases this

theorem nodesOK_flush (C : Crypto) (hC : HashWF C) (bs : Array Bytes) (t : Tree) (d : Disk)
    (hwf : MapWF t.unflushed) (hN : NodesOK C bs t d.tree) :
    NodesOK C bs (t.flush).1 (d.applyAll (t.flush).2).tree ∧ MapWF (t.flush).1.unflushed
      ∧ (d.applyAll (t.flush).2).data = d.data := by
  refine ⟨fun dd o hb => node?_flush t d hwf _ _ (hN dd o hb), fun k n h => ?_, ?_⟩
  · rw [show (t.flush).1.unflushed = {} from rfl, Std.HashMap.getElem?_empty] at h
    cases h
  · rw [show t.flush = (_, _) from rfl]
    dsimp only
    rw [applyAll_tree_writes]

end HC.TreeStore

namespace HC.Tree
open HC.Codec HC.TreeStore

theorem commitable_of_orig (t : Tree) (cs : Changeset) (hl : cs.origLength = t.length) (hf : cs.origFork = t.fork) :
    t.commitable cs = true := by
  simp [commitable, hl, hf]

theorem commit_plain (t : Tree) (cs : Changeset) (hc : t.commitable cs = true) (hu : cs.upgraded = false) :
    t.commit cs = .ok { t with unflushed := insertAll t.unflushed cs.nodes } :=
  (commit_ok_iff t _ cs).mpr ⟨hc, fun h => (by rw [hu] at h; cases h.1), by rw [hu]; rfl⟩

theorem commit_upgrade (t : Tree) (cs : Changeset) (hc : t.commitable cs = true) (hu : cs.upgraded = true)
    (ha : cs.origLength ≤ cs.ancestors) :
    t.commit cs = .ok { t with roots := cs.roots, length := cs.length, byteLength := cs.byteLength, fork := cs.fork,
                               signature := cs.signature, unflushed := insertAll t.unflushed cs.nodes } :=
  (commit_ok_iff t _ cs).mpr ⟨hc, fun h => Nat.lt_irrefl _ (Nat.lt_of_lt_of_le h.2 ha), by rw [hu]; rfl⟩

/-- a proof that carries an upgrade and nothing else; `ho1 ho2 ha`: `verify_upgrade` kept the origin of the tree's
    own changeset, so that the commit is accepted and does not truncate -/
theorem upgrade_only_accepted (C : Crypto) (t : Tree) (f : File) (pk : Bytes) (fork : Nat) (u : DataUpgrade) (b : Bool)
    (cs : Changeset) (hvu : verifyUpgrade C fork u none pk t.changeset = .ok (b, cs)) (hup : cs.upgraded = true)
    (ho1 : cs.origLength = t.changeset.origLength) (ho2 : cs.origFork = t.changeset.origFork)
    (ha : cs.ancestors = t.changeset.ancestors) :
    t.verifyProof C f ⟨fork, none, none, none, some u⟩ pk = .ok cs
      ∧ t.commit cs = .ok { t with roots := cs.roots, length := cs.length, byteLength := cs.byteLength, fork := cs.fork,
                                   signature := cs.signature, unflushed := insertAll t.unflushed cs.nodes } := by
  refine ⟨?_, commit_upgrade t cs (commitable_of_orig t cs ho1 ho2) hup (by rw [ho1, ha]; exact Nat.le_refl _)⟩
  rw [verifyProof_eq, verifyTree_nothing C none t.changeset rfl]
  simp only [ok_andThen, hvu, ite_self]
  rfl

end HC.Tree
