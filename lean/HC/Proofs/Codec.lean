import HC.Model.Codec
/-! Round trips, sizes, and monotonicity of the decoders under extension of the input (`Mono`, from which
    `prefix_none` gets that every strict prefix of an encoding is rejected).

The decoders of the model are written `match d bs with | none => none | some (a, r) => k a r`.  `Mono.step` is
the closure lemma for that shape.  `Mono.uint`, `Mono.bytes` and `Mono.nodes` restate it with the match written
out at the three result types that occur: Lean compiles one matcher per type, and a decoder of the model unifies
only with a statement that uses the same matcher. -/
namespace HC.Codec

/-- A successful decode is not disturbed by further input: the value is the same and the rest is extended. -/
def Mono {α : Type} (d : Bytes → Option (α × Bytes)) : Prop :=
  ∀ q s a r, d q = some (a, r) → d (q ++ s) = some (a, r ++ s)

theorem Mono.pure {α : Type} (a : α) : Mono fun r => some (a, r) := by
  intro q s b r h; cases h; rfl

/-- `F` is what is done with the result of `d`: it passes failure on and treats the rest monotonically. -/
theorem Mono.step {α β : Type} {d : Bytes → Option (α × Bytes)} (hd : Mono d)
    {F : Option (α × Bytes) → Option (β × Bytes)} (h0 : F none = none) (hk : ∀ a, Mono fun r => F (some (a, r))) :
    Mono fun bs => F (d bs) := by
  intro q s b r h
  show F (d (q ++ s)) = some (b, r ++ s)
  replace h : F (d q) = some (b, r) := h
  cases hq : d q with
  | none => rw [hq, h0] at h; cases h
  | some p =>
    rw [hq] at h
    rw [hd q s p.1 p.2 hq]
    exact hk p.1 p.2 s b r h

theorem Mono.uint {β : Type} {d : Bytes → Option (Nat × Bytes)} {k : Nat → Bytes → Option (β × Bytes)}
    (hd : Mono d) (hk : ∀ a, Mono (k a)) : Mono fun bs => match d bs with | none => none | some (a, r) => k a r :=
  Mono.step hd (F := fun x => match x with | none => none | some (a, r) => k a r) rfl hk

theorem Mono.bytes {β : Type} {d : Bytes → Option (Bytes × Bytes)} {k : Bytes → Bytes → Option (β × Bytes)}
    (hd : Mono d) (hk : ∀ a, Mono (k a)) : Mono fun bs => match d bs with | none => none | some (a, r) => k a r :=
  Mono.step hd (F := fun x => match x with | none => none | some (a, r) => k a r) rfl hk

theorem takeN_append (k : Nat) (a r : Bytes) (h : a.length = k) : takeN k (a ++ r) = some (a, r) := by
  simp [takeN, h]

theorem takeN_mono (k : Nat) : Mono (takeN k) := by
  intro q s a r h
  unfold takeN at h ⊢
  split at h
  · cases h
  · next hk =>
    cases h
    have hk' : k ≤ q.length := Nat.le_of_not_lt hk
    rw [if_neg (by rw [List.length_append]; omega), List.take_append_of_le_length hk',
      List.drop_append_of_le_length hk']

theorem encUint_length (n : Nat) : (encUint n).length = sizeUint n := by
  simp only [encUint, sizeUint, apply_ite List.length, List.length_cons, leBytes_length, List.length_nil]

theorem decUint_encUint (n : Nat) (h : U64 n) (rest : Bytes) :
    decUint (encUint n ++ rest) = some (n, rest) := by
  unfold U64 at h
  unfold encUint
  by_cases h1 : n < 0xfd
  · have : (UInt8.ofNat n).toNat = n := by rw [UInt8.toNat_ofNat']; omega
    rw [if_pos h1, List.singleton_append, decUint, this, if_pos h1]
  · by_cases h2 : n ≤ 0xffff
    · rw [if_neg h1, if_pos h2, List.cons_append, decUint, if_neg (by decide), if_pos (by decide),
        takeN_append _ _ _ (leBytes_length n 2)]
      exact congrArg (fun v => some (v, rest)) (leVal_leBytes 2 n (Nat.lt_succ_of_le h2))
    · by_cases h3 : n ≤ 0xffffffff
      · rw [if_neg h1, if_neg h2, if_pos h3, List.cons_append, decUint, if_neg (by decide), if_neg (by decide),
          if_pos (by decide), takeN_append _ _ _ (leBytes_length n 4)]
        exact congrArg (fun v => some (v, rest)) (leVal_leBytes 4 n (Nat.lt_succ_of_le h3))
      · rw [if_neg h1, if_neg h2, if_neg h3, List.cons_append, decUint, if_neg (by decide), if_neg (by decide),
          if_neg (by decide), takeN_append _ _ _ (leBytes_length n 8)]
        exact congrArg (fun v => some (v, rest)) (leVal_leBytes 8 n h)

theorem decUint_mono : Mono decUint := by
  intro q s n r h
  cases q with
  | nil => cases h
  | cons b rest =>
    refine (?_ : Mono fun rest => decUint (b :: rest)) rest s n r h
    -- after the tag byte: the value is the byte itself, or 2, 4 or 8 little-endian bytes follow
    have hle : ∀ k, Mono fun bs => (takeN k bs).map fun (x, r) => (leVal x, r) := fun k =>
      Mono.step (takeN_mono k) (F := fun o => o.map fun (x, r) => (leVal x, r)) rfl fun x => by exact Mono.pure (leVal x)
    by_cases h1 : b.toNat < 0xfd
    · simp only [decUint, if_pos h1]; exact Mono.pure _
    · by_cases h2 : b.toNat = 0xfd
      · simp only [decUint, if_neg h1, if_pos h2]; exact hle 2
      · by_cases h3 : b.toNat = 0xfe
        · simp only [decUint, if_neg h1, if_neg h2, if_pos h3]; exact hle 4
        · simp only [decUint, if_neg h1, if_neg h2, if_neg h3]; exact hle 8

theorem encBuf_length (b : Bytes) : (encBuf b).length = sizeBuf b := by
  simp [encBuf, sizeBuf, encUint_length]

theorem decBuf_encBuf (b : Bytes) (h : U64 b.length) (rest : Bytes) :
    decBuf (encBuf b ++ rest) = some (b, rest) := by
  simp [decBuf, encBuf, List.append_assoc, decUint_encUint _ h, takeN_append]

theorem decBuf_mono : Mono decBuf :=
  Mono.uint decUint_mono takeN_mono

theorem decMany_enc {α : Type} (e : α → Bytes) (d : Bytes → Option (α × Bytes)) (l : List α)
    (h : ∀ a ∈ l, ∀ r, d (e a ++ r) = some (a, r)) (rest : Bytes) :
    decMany d l.length ((l.map e).flatten ++ rest) = some (l, rest) := by
  induction l with
  | nil => simp [decMany]
  | cons a as ih =>
    have ha := h a (by simp) ((as.map e).flatten ++ rest)
    have ih' := ih (fun x hx r => h x (by simp [hx]) r)
    simp [decMany, List.append_assoc, ha, ih']

theorem decMany_mono {α : Type} {d : Bytes → Option (α × Bytes)} (hd : Mono d) (n : Nat) : Mono (decMany d n) := by
  induction n with
  | zero => exact Mono.pure []
  | succ n ih =>
    intro q s l r h
    simp only [decMany] at h ⊢
    split at h
    · cases h
    · next a r1 h1 =>
      split at h
      · cases h
      · next as r2 h2 =>
        cases h
        simp only [hd _ s _ _ h1, ih _ s _ _ h2]

theorem encArr_length {α : Type} (e : α → Bytes) (sz : α → Nat) (l : List α)
    (h : ∀ a ∈ l, (e a).length = sz a) :
    (encArr e l).length = sizeUint l.length + (l.map sz).sum := by
  simp only [encArr, List.length_append, encUint_length, List.length_flatten, List.map_map]
  congr 2
  apply List.map_congr_left
  intro a ha; exact h a ha

theorem decArr_encArr {α : Type} (e : α → Bytes) (d : Bytes → Option (α × Bytes)) (l : List α)
    (hl : U64 l.length) (h : ∀ a ∈ l, ∀ r, d (e a ++ r) = some (a, r)) (rest : Bytes) :
    decArr d (encArr e l ++ rest) = some (l, rest) := by
  simp [decArr, encArr, List.append_assoc, decUint_encUint _ hl, decMany_enc e d l h]

theorem decArr_mono {α : Type} {d : Bytes → Option (α × Bytes)} (hd : Mono d) : Mono (decArr d) :=
  Mono.uint decUint_mono (decMany_mono hd)

theorem encNode_length (n : Node) (h : n.WF) : (encNode n).length = sizeNode n := by
  simp [encNode, sizeNode, encUint_length, h.2.2]; omega

theorem decNode_encNode (n : Node) (h : n.WF) (rest : Bytes) :
    decNode (encNode n ++ rest) = some (n, rest) := by
  obtain ⟨h1, h2, h3⟩ := h
  simp [decNode, encNode, List.append_assoc, decUint_encUint _ h1, decUint_encUint _ h2,
    takeN_append _ _ _ h3]

theorem decNode_mono : Mono decNode :=
  Mono.uint decUint_mono fun _ => Mono.uint decUint_mono fun _ => Mono.bytes (takeN_mono 32) fun _ => Mono.pure _

theorem encNodes_length (l : List Node) (h : NodesWF l) : (encNodes l).length = sizeNodes l :=
  encArr_length encNode sizeNode l (fun a ha => encNode_length a (h.2 a ha))

theorem decNodes_encNodes (l : List Node) (h : NodesWF l) (rest : Bytes) :
    decNodes (encNodes l ++ rest) = some (l, rest) :=
  decArr_encArr encNode decNode l h.1 (fun a ha r => decNode_encNode a (h.2 a ha) r) rest

theorem decNodes_mono : Mono decNodes :=
  decArr_mono decNode_mono

theorem Mono.nodes {β : Type} {d : Bytes → Option (List Node × Bytes)} {k : List Node → Bytes → Option (β × Bytes)}
    (hd : Mono d) (hk : ∀ a, Mono (k a)) : Mono fun bs => match d bs with | none => none | some (a, r) => k a r :=
  Mono.step hd (F := fun x => match x with | none => none | some (a, r) => k a r) rfl hk

/-- a decoder that round-trips on `e` and ignores what follows rejects every strict prefix of `e` -/
theorem prefix_none {α : Type} (dec : Bytes → Option (α × Bytes)) (e : Bytes) (v : α)
    (rt : dec e = some (v, [])) (mono : Mono dec)
    (q s : Bytes) (hs : s ≠ []) (h : q ++ s = e) : dec q = none := by
  cases hq : dec q with
  | none => rfl
  | some p =>
    -- otherwise `dec e` would leave `p.2 ++ s ≠ []`
    have := mono q s p.1 p.2 hq
    rw [h, rt] at this
    have h2 : p.2 ++ s = [] := (Prod.mk.inj (Option.some.inj this)).2.symm
    exact absurd (List.append_eq_nil_iff.mp h2).2 hs

end HC.Codec
