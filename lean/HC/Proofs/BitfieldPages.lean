import HC.Proofs.Bitfield
import HC.Proofs.Journal
/-!
Bitfield pages on disk: `flush` writes every dirty page as 4096 bytes (bit `i` of the bitfield is bit
`i % 8` of byte `i / 8`), `open` reads the store back bit by bit.  If every bit that differs from the
store lies on a dirty page, the store after a flush decodes to exactly the bits in memory.
-/
namespace HC.Spec

theorem pageBytes_eq : pageBytes = 4096 := rfl
theorem pageBits_eq : pageBits = 32768 := rfl

theorem mod4_of_pageBytes {n : Nat} (h : n % pageBytes = 0) : n % 4 = 0 := by
  rw [← Nat.mod_mod_of_dvd n (by decide : 4 ∣ pageBytes), h]

theorem div8_div_pageBytes (i : Nat) : i / 8 / pageBytes = i / pageBits := by
  rw [pageBytes_eq, pageBits_eq, Nat.div_div_eq_div_mul]

end HC.Spec

namespace HC.BitfieldPages
open HC HC.Bitfield

theorem bitSum_lt (f : Nat → Bool) (n : Nat) :
    (List.range n).foldl (fun acc k => acc + if f k then 2 ^ k else 0) 0 < 2 ^ n := by
  induction n with
  | zero => exact Nat.one_pos
  | succ n ih =>
    rw [List.range_succ, List.foldl_append, List.foldl_cons, List.foldl_nil, Nat.pow_succ, Nat.mul_two]
    split
    · exact Nat.add_lt_add_right ih _
    · exact Nat.lt_of_lt_of_le ih (Nat.le_add_right _ _)

/-- Bit `j` of `Σ_{k<n, f k} 2^k` is `f j`. -/
theorem testBit_bitSum (f : Nat → Bool) (n j : Nat) :
    ((List.range n).foldl (fun acc k => acc + if f k then 2 ^ k else 0) 0).testBit j = (decide (j < n) && f j) := by
  by_cases hj : j < n
  · rw [decide_eq_true hj, Bool.true_and]
    induction n with
    | zero => exact absurd hj (Nat.not_lt_zero j)
    | succ n ih =>
      rw [List.range_succ, List.foldl_append, List.foldl_cons, List.foldl_nil]
      have hlt := bitSum_lt f n
      generalize (List.range n).foldl (fun acc k => acc + if f k then 2 ^ k else 0) 0 = s at ih hlt
      rcases Nat.lt_succ_iff_lt_or_eq.mp hj with hj | rfl
      · -- below the new digit `2^n` nothing changes
        rw [← ih hj]
        split
        · rw [Nat.add_comm, Nat.testBit_two_pow_add_gt hj]
        · rfl
      · -- `s < 2^j`, so bit `j` is the new digit
        cases f j
        · exact Nat.testBit_lt_two_pow hlt
        · rw [if_pos rfl, Nat.add_comm, Nat.testBit_two_pow_add_eq, Nat.testBit_lt_two_pow hlt]; rfl
  · rw [decide_eq_false hj, Bool.false_and]
    exact Nat.testBit_lt_two_pow
      (Nat.lt_of_lt_of_le (bitSum_lt f n) (Nat.pow_le_pow_right Nat.two_pos (Nat.le_of_not_lt hj)))

theorem byte_bit8 : ∀ (b0 b1 b2 b3 b4 b5 b6 b7 : Bool) (j : Fin 8),
    decide ((UInt8.ofNat (0 + (if b0 then 2 ^ 0 else 0) + (if b1 then 2 ^ 1 else 0) + (if b2 then 2 ^ 2 else 0)
      + (if b3 then 2 ^ 3 else 0) + (if b4 then 2 ^ 4 else 0) + (if b5 then 2 ^ 5 else 0) + (if b6 then 2 ^ 6 else 0)
      + (if b7 then 2 ^ 7 else 0))).toNat / 2 ^ j.val % 2 = 1) = [b0, b1, b2, b3, b4, b5, b6, b7].getD j.val false := by
  intro b0 b1 b2 b3 b4 b5 b6 b7 j
  -- the sum is the fold of `testBit_bitSum` over `range 8`, written out
  have h := testBit_bitSum (fun k => [b0, b1, b2, b3, b4, b5, b6, b7].getD k false) 8 j
  rw [decide_eq_true j.isLt, Bool.true_and] at h
  rw [← Nat.testBit_eq_decide_div_mod_eq, UInt8.toNat_ofNat', Nat.testBit_mod_two_pow, decide_eq_true j.isLt,
    Bool.true_and]
  exact h

theorem bitsToByte_bit (bits : Array Bool) (base j : Nat) (hj : j < 8) :
    decide ((bitsToByte bits base).toNat / 2 ^ j % 2 = 1) = bits.getD (base + j) false := by
  rw [← Nat.testBit_eq_decide_div_mod_eq, bitsToByte, UInt8.toNat_ofNat', Nat.testBit_mod_two_pow,
    testBit_bitSum (fun k => bits.getD (base + k) false), decide_eq_true hj, Bool.true_and, Bool.true_and]

theorem bitsToByte_get (b : Bitfield) (i : Nat) :
    decide ((bitsToByte b.bits (i / 8 * 8)).toNat / 2 ^ (i % 8) % 2 = 1) = b.get i := by
  rw [bitsToByte_bit _ _ _ (Nat.mod_lt _ (by decide)), Nat.div_add_mod']
  rfl

theorem ofFile_get (f : File) (i : Nat) :
    (Bitfield.ofFile f).get i = (decide (i < (f.size - f.size % 4) * 8) && decide ((f.byte (i / 8)).toNat / 2 ^ (i % 8) % 2 = 1)) := by
  simp only [Bitfield.ofFile, Bitfield.get, File.byte, Array.getD_eq_getD_getElem?, Array.getElem?_ofFn]
  split
  · next h => rw [decide_eq_true h, Bool.true_and]; rfl
  · next h => rw [decide_eq_false h, Bool.false_and]; rfl

theorem ofFile_get_of_le (f : File) (i : Nat) (h : (f.size - f.size % 4) * 8 ≤ i) : (Bitfield.ofFile f).get i = false := by
  rw [ofFile_get, decide_eq_false (Nat.not_lt.mpr h), Bool.false_and]

/-- In a store of whole pages the size bound of `ofFile_get` can be dropped: no bit is cut off by the
    rounding to four bytes, and bytes beyond the end read as 0. -/
theorem ofFile_get_aligned (f : File) (hf : f.size % Spec.pageBytes = 0) (i : Nat) :
    (Bitfield.ofFile f).get i = decide ((f.byte (i / 8)).toNat / 2 ^ (i % 8) % 2 = 1) := by
  have hsz : f.size - f.size % 4 = f.size := by rw [Spec.mod4_of_pageBytes hf, Nat.sub_zero]
  by_cases h : i < f.size * 8
  · rw [ofFile_get, hsz, decide_eq_true h, Bool.true_and]
  · have hle : f.size * 8 ≤ i := Nat.le_of_not_lt h
    rw [ofFile_get_of_le f i (by rw [hsz]; exact hle), File.byte,
      getD_of_size_le _ _ _ ((Nat.le_div_iff_mul_le (by decide)).mpr hle)]
    simp

def writePages (b : Bitfield) (f : File) (ps : List Nat) : File :=
  ps.foldl (fun f p => f.write (p * Spec.pageBytes) (b.pageBytes p)) f

theorem writePages_cons (b : Bitfield) (f : File) (p : Nat) (ps : List Nat) :
    writePages b f (p :: ps) = writePages b (f.write (p * Spec.pageBytes) (b.pageBytes p)) ps := by
  rw [writePages, List.foldl_cons, ← writePages]

theorem pageBytes_length (b : Bitfield) (p : Nat) : (b.pageBytes p).length = Spec.pageBytes := by
  simp [Bitfield.pageBytes]

theorem pageBytes_getD (b : Bitfield) (p k : Nat) (hk : k < Spec.pageBytes) :
    (b.pageBytes p).getD k 0 = bitsToByte b.bits ((p * Spec.pageBytes + k) * 8) := by
  simp [Bitfield.pageBytes, List.getD_eq_getElem?_getD, hk]

/-- the bytes after writing the first `t` bytes of page `p` (all of it if `t ≥ 4096`) -/
theorem byte_write_pagePrefix (b : Bitfield) (f : File) (p t k : Nat) :
    (f.write (p * Spec.pageBytes) ((b.pageBytes p).take t)).byte k
      = if p * Spec.pageBytes ≤ k ∧ k < p * Spec.pageBytes + min t Spec.pageBytes
          then bitsToByte b.bits (k * 8) else f.byte k := by
  rw [File.byte_write, List.length_take, pageBytes_length]
  split
  · next h =>
    have hj : k - p * Spec.pageBytes < min t Spec.pageBytes := (Nat.sub_lt_iff_lt_add' h.1).mpr h.2
    rw [List.getD_eq_getElem?_getD, List.getElem?_take, if_pos (Nat.lt_of_lt_of_le hj (Nat.min_le_left _ _)),
      ← List.getD_eq_getElem?_getD, pageBytes_getD b p _ (Nat.lt_of_lt_of_le hj (Nat.min_le_right _ _)),
      Nat.add_sub_cancel' h.1]
  · rfl

theorem byte_writePage (b : Bitfield) (f : File) (p k : Nat) :
    (f.write (p * Spec.pageBytes) (b.pageBytes p)).byte k
      = if k / Spec.pageBytes = p then bitsToByte b.bits (k * 8) else f.byte k := by
  have h := byte_write_pagePrefix b f p Spec.pageBytes k
  rw [List.take_of_length_le (Nat.le_of_eq (pageBytes_length b p)), Nat.min_self] at h
  have hiff : (p * Spec.pageBytes ≤ k ∧ k < p * Spec.pageBytes + Spec.pageBytes) ↔ k / Spec.pageBytes = p := by
    have hP : 0 < Spec.pageBytes := by decide
    rw [← Nat.succ_mul, ← Nat.le_div_iff_mul_le hP, ← Nat.div_lt_iff_lt_mul hP, Nat.lt_succ_iff, And.comm]
    exact Nat.le_antisymm_iff.symm
  rw [h]
  simp only [hiff]

theorem size_writePage (b : Bitfield) (f : File) (p : Nat) :
    (f.write (p * Spec.pageBytes) (b.pageBytes p)).size = max f.size ((p + 1) * Spec.pageBytes) := by
  rw [File.size_write, pageBytes_length, Nat.succ_mul]

theorem writePages_spec (b : Bitfield) (ps : List Nat) : ∀ (f : File), f.size % Spec.pageBytes = 0 →
    (writePages b f ps).size % Spec.pageBytes = 0 ∧ f.size ≤ (writePages b f ps).size
      ∧ (∀ p ∈ ps, (p + 1) * Spec.pageBytes ≤ (writePages b f ps).size)
      ∧ (∀ k, (writePages b f ps).byte k = if k / Spec.pageBytes ∈ ps then bitsToByte b.bits (k * 8) else f.byte k) := by
  induction ps with
  | nil => intro f hf; exact ⟨hf, Nat.le_refl _, fun p hp => (by cases hp), fun k => (by simp [writePages])⟩
  | cons p ps ih =>
    intro f hf
    have hsz := size_writePage b f p
    have hmod : (f.write (p * Spec.pageBytes) (b.pageBytes p)).size % Spec.pageBytes = 0 := by
      rw [hsz]
      rcases Nat.le_total f.size ((p + 1) * Spec.pageBytes) with h | h
      · rw [Nat.max_eq_right h]; exact Nat.mul_mod_left _ _
      · rw [Nat.max_eq_left h]; exact hf
    obtain ⟨i1, i2, i3, i4⟩ := ih (f.write (p * Spec.pageBytes) (b.pageBytes p)) hmod
    rw [hsz] at i2
    rw [writePages_cons]
    refine ⟨i1, Nat.le_trans (Nat.le_max_left _ _) i2, fun q hq => ?_, fun k => ?_⟩
    · rcases List.mem_cons.mp hq with rfl | hq
      · exact Nat.le_trans (Nat.le_max_right _ _) i2
      · exact i3 q hq
    · rw [i4 k, byte_writePage]
      by_cases hin : k / Spec.pageBytes ∈ ps
      · rw [if_pos hin, if_pos (List.mem_cons_of_mem _ hin)]
      · by_cases hkp : k / Spec.pageBytes = p
        · rw [if_neg hin, if_pos hkp, if_pos (List.mem_cons.mpr (Or.inl hkp))]
        · rw [if_neg hin, if_neg hkp, if_neg (fun hm => (List.mem_cons.mp hm).elim hkp hin)]

/-- the store after writing any list of pages: those pages hold the bits in memory, the others are
    untouched (the states a crash inside a flush can leave) -/
theorem writePages_bits (b : Bitfield) (f : File) (hf : f.size % Spec.pageBytes = 0) (ps : List Nat) :
    (∀ i, (Bitfield.ofFile (writePages b f ps)).get i = if i / Spec.pageBits ∈ ps then b.get i else (Bitfield.ofFile f).get i)
      ∧ (writePages b f ps).size % Spec.pageBytes = 0 := by
  obtain ⟨s1, -, -, s4⟩ := writePages_spec b ps f hf
  refine ⟨fun i => ?_, s1⟩
  rw [ofFile_get_aligned _ s1, s4, Spec.div8_div_pageBytes]
  by_cases hd : i / Spec.pageBits ∈ ps
  · rw [if_pos hd, if_pos hd, bitsToByte_get]
  · rw [if_neg hd, if_neg hd, ofFile_get_aligned f hf]

theorem flush_bits (b : Bitfield) (f : File) (hf : f.size % Spec.pageBytes = 0)
    (hdirty : ∀ i, b.get i ≠ (Bitfield.ofFile f).get i → i / Spec.pageBits ∈ b.dirty) :
    (∀ i, (Bitfield.ofFile (writePages b f b.dirty)).get i = b.get i)
      ∧ (writePages b f b.dirty).size % Spec.pageBytes = 0 := by
  obtain ⟨hbits, hsize⟩ := writePages_bits b f hf b.dirty
  refine ⟨fun i => ?_, hsize⟩
  rw [hbits]
  split
  · rfl
  · next hd => exact (Decidable.not_not.mp fun hne => hd (hdirty i hne)).symm

/-- a torn page write (only the first `t` bytes of the page arrive): every bit the store then decodes to is
    the bit it held before or the bit in memory -/
theorem tornPage_bits (b : Bitfield) (g : File) (hg : g.size % Spec.pageBytes = 0) (p t i : Nat) :
    (Bitfield.ofFile (g.write (p * Spec.pageBytes) ((b.pageBytes p).take t))).get i = (Bitfield.ofFile g).get i
      ∨ (Bitfield.ofFile (g.write (p * Spec.pageBytes) ((b.pageBytes p).take t))).get i = b.get i := by
  rw [ofFile_get, byte_write_pagePrefix]
  by_cases hlt : i < ((g.write (p * Spec.pageBytes) ((b.pageBytes p).take t)).size
      - (g.write (p * Spec.pageBytes) ((b.pageBytes p).take t)).size % 4) * 8
  · -- the byte holding bit `i` is the old one or the one in memory
    rw [decide_eq_true hlt, Bool.true_and]
    split
    · exact Or.inr (bitsToByte_get b i)
    · exact Or.inl (ofFile_get_aligned g hg i).symm
  · -- bit `i` is cut off in the new store, which is no shorter than the old one
    have hle : g.size ≤ (g.write (p * Spec.pageBytes) ((b.pageBytes p).take t)).size := by
      rw [File.size_write]; exact Nat.le_max_left _ _
    rw [decide_eq_false hlt, Bool.false_and]
    refine Or.inl (ofFile_get_of_le g i (Nat.le_trans ?_ (Nat.le_of_not_lt hlt))).symm
    rw [← Nat.div_mul_self_eq_mod_sub_self, ← Nat.div_mul_self_eq_mod_sub_self]
    exact Nat.mul_le_mul_right 8 (Nat.mul_le_mul_right 4 (Nat.div_le_div_right hle))

theorem rangeDiffers_true (bits : Array Bool) (v : Bool) : ∀ (n start i : Nat), start ≤ i → i < start + n →
    bits.getD i false ≠ v → Bitfield.rangeDiffers bits v start n = true := by
  intro n
  induction n with
  | zero => intro start i h1 h2; exact absurd h2 (Nat.not_lt_of_ge h1)
  | succ n ih =>
    intro start i h1 h2 hne
    rw [Bitfield.rangeDiffers, Bool.or_eq_true, bne_iff_ne]
    by_cases hi : i = start
    · subst hi; exact Or.inl hne
    · exact Or.inr (ih (start + 1) i (Nat.lt_of_le_of_ne h1 (Ne.symm hi)) (Nat.add_right_comm start 1 n ▸ h2) hne)

theorem mem_changedPages (bits : Array Bool) (v : Bool) {start len i : Nat} (h1 : start ≤ i) (h2 : i < start + len)
    (hne : bits.getD i false ≠ v) : i / Spec.pageBits ∈ Bitfield.changedPages bits v start len := by
  have hlen : len ≠ 0 := fun e => Nat.not_le_of_lt (by rwa [e] at h2) h1
  -- page `i / pageBits` lies between the first and the last page of the range
  have hfirst : start / Spec.pageBits ≤ i / Spec.pageBits := Nat.div_le_div_right h1
  have hlast : i / Spec.pageBits ≤ (start + len - 1) / Spec.pageBits := Nat.div_le_div_right (Nat.le_sub_one_of_lt h2)
  -- and `i` lies in the part of the range on that page
  have hlo : max start (i / Spec.pageBits * Spec.pageBits) ≤ i := Nat.max_le.mpr ⟨h1, Nat.div_mul_le_self i _⟩
  have hhi : i < min (start + len) ((i / Spec.pageBits + 1) * Spec.pageBits) :=
    Nat.lt_min.mpr ⟨h2, (Nat.div_lt_iff_lt_mul (by decide)).mp (Nat.lt_succ_self _)⟩
  rw [Bitfield.changedPages, if_neg hlen]
  refine List.mem_filterMap.mpr ⟨i / Spec.pageBits - start / Spec.pageBits,
    List.mem_range.mpr (Nat.lt_succ_of_le (Nat.sub_le_sub_right hlast _)), ?_⟩
  simp only [Nat.add_sub_cancel' hfirst]
  have hhi' : i < max start (i / Spec.pageBits * Spec.pageBits)
      + (min (start + len) ((i / Spec.pageBits + 1) * Spec.pageBits) - max start (i / Spec.pageBits * Spec.pageBits)) := by
    rw [Nat.add_sub_cancel' (Nat.le_trans hlo (Nat.le_of_lt hhi))]; exact hhi
  rw [rangeDiffers_true bits v _ _ i hlo hhi' hne, if_pos rfl]

theorem setRange_changed_dirty (b : Bitfield) (start len : Nat) (v : Bool) (i : Nat)
    (hne : (b.setRange start len v).get i ≠ b.get i) : i / Spec.pageBits ∈ (b.setRange start len v).dirty := by
  have hin : start ≤ i ∧ i < start + len := Decidable.by_contra fun h => hne (get_setRange_out b v h)
  rw [get_setRange_in b v hin.1 hin.2] at hne
  have hmem := mem_changedPages b.bits v hin.1 hin.2 (fun e => hne e.symm)
  rw [setRange_dirty_eq]
  by_cases hc : i / Spec.pageBits ∈ b.dirty
  · exact List.mem_append_left _ hc
  · exact List.mem_append_right _ (List.mem_filter.mpr ⟨hmem, by simpa using hc⟩)

/-- the dirty invariant survives a range update -/
theorem dirty_setRange (b : Bitfield) (f : File) (start len : Nat) (v : Bool)
    (h : ∀ i, b.get i ≠ (Bitfield.ofFile f).get i → i / Spec.pageBits ∈ b.dirty) :
    ∀ i, (b.setRange start len v).get i ≠ (Bitfield.ofFile f).get i → i / Spec.pageBits ∈ (b.setRange start len v).dirty := by
  intro i hne
  by_cases hsame : (b.setRange start len v).get i = b.get i
  · rw [setRange_dirty_eq]
    exact List.mem_append_left _ (h i (by rw [← hsame]; exact hne))
  · exact setRange_changed_dirty b start len v i hsame

end HC.BitfieldPages
