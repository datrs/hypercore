import HC.Proofs.Frame
/-! The oplog file as the JavaScript layout prescribes it (two padded header slots, then the entry frames), and one
    step of `readEntries` on it. -/
namespace HC.Oplog
open HC.Codec

/-- a header slot: checksummed frame of the header, zero padded to 4096 bytes -/
def slot (h : Header) (bit : Bool) : Bytes :=
  let fr := frame (encHeader h) bit false
  fr ++ List.replicate (Spec.headerSize - fr.length) 0

/-- the entry region: the frames of the entries, one after the other -/
def entryRegion (es : List (Entry × Bool)) (bit : Bool) : Bytes :=
  (es.map fun (e, p) => frame (encEntry e) bit p).flatten

def Fits (h : Header) : Prop := (encHeader h).length + 8 ≤ Spec.headerSize

theorem slot_length (h : Header) (bit : Bool) (hf : Fits h) : (slot h bit).length = Spec.headerSize := by
  simp only [slot, List.length_append, List.length_replicate, frame_length]
  unfold Fits at hf; omega

theorem encHeader_pos (h : Header) : 0 < (encHeader h).length := by
  simp [encHeader, versionFlags, Spec.headerVersionFlags]

theorem encEntry_pos (e : Entry) : 0 < (encEntry e).length := by
  simp [encEntry]

theorem readEntries_stop (bit : Bool) (fuel : Nat) (buf : Bytes)
    (h : validateLeader buf = none ∨ ∃ l, validateLeader buf = some l ∧ l.headerBit ≠ bit) :
    readEntries bit (fuel + 1) buf = .ok ([], 0) := by
  rcases h with h | ⟨l, h, hb⟩
  · simp only [readEntries, h]
  · simp only [readEntries, h, hb, ne_eq, not_false_eq_true, ite_true]

theorem readEntries_frame (bit : Bool) (fuel : Nat) (e : Entry) (pb : Bool) (rest : Bytes) (es : List (Entry × Bool)) (n : Nat)
    (wf : e.WF) (h30 : (encEntry e).length < 2 ^ 30) (h : readEntries bit fuel rest = .ok (es, n)) :
    readEntries bit (fuel + 1) (frame (encEntry e) bit pb ++ rest) = .ok ((e, pb) :: es, n + (8 + (encEntry e).length)) := by
  simp only [readEntries]
  rw [validateLeader_frame _ _ bit pb (encEntry_pos e) h30]
  simp only [ne_eq, not_true_eq_false, ite_false]
  rw [decEntry_enc e wf]
  simp only [h, List.length_append, frame_length, Nat.add_sub_cancel]

end HC.Oplog
