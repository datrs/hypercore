import HC.Proofs.BlockGrowWriter
import HC.Proofs.BlockGrowGen
/-!
The reference proof of `BlockNew` / `BlockGrowGen` — block of the new part + upgrade — is the **writer's own answer** (C03):
`create_valueless_proof` for the request "block `i` (any node count) and an upgrade from `m`" on a writer whose log has
`n > m` blocks, `m ≤ i < n`.  The sub tree is the block's leaf; in `upgrade_proof` the first root of the loop — or the first
right sibling of the "connect existing tree" walk — that contains it is not sent but handed to `block_and_seek_proof`,
which climbs from the leaf to that node.  `create_newblock_proof` rests on `Growth.rootWalk_up` (the root loop is
`treatAll` on the honest position list) and `treatAll_block` (what `treatAll` does on the writer's tree with the block's leaf as sub tree).
`loop_root_step`, `walk_step` (single rounds written out) and `tail_after`, `tail_sub`, `walk_none`, `walk_sub` (the two
loops from a point on) describe the model's loops in the same terms; the main theorem does not need them.
-/
namespace HC.NewBlockWriter
open HC HC.Codec HC.Flat HC.Tree HC.RefTree HC.RefProof HC.Sound HC.Offsets HC.TreeStore HC.Complete HC.UpgradeSound HC.CreateTotal HC.UpgradeComplete HC.FullRoots
  HC.Replica HC.Growth HC.HashReq HC.Pow2

/-- one round of the root loop of `upgrade_proof` once the upgrade has started (`hasUp = true`): the root `(d, o)` at leaf `s`
    is sent, or — if the local proof has no block section yet and the root contains the sub tree — handed over to
    `block_and_seek_proof` -/
theorem loop_root_step (C : Crypto) (bs : Array Bytes) (t : Tree) (f : File) (hNodes : NodesOK C bs t f) (hN : bs.size < 2 ^ 64)
    (frm : Nat) (ix : Option Indexed) (sub : Nat) (p : LocalProof) (d o : Nat) (rest : List (Nat × Nat)) (fuel s : Nat) (acc : List Node) (hasUp : Bool)
    (hc : Cover ((d, o) :: rest) s bs.size) (hdec : DecDepth ((d, o) :: rest)) (hal : Align s bs.size) (hfrm : frm ≤ 2 * s)
    (hnc : (!hasUp && (iat d o).contains (frm - 2)) = false) :
    t.upgradeLoop f true ix false frm (2 * bs.size) sub (fuel + 1) (iat 0 s) hasUp acc p
      = (if (p.nodes.isNone && p.seek.isNone && (iat d o).contains sub) = true then
          (match t.blockAndSeekProof f ix false sub (Flat.index d o) p with
           | .error e => .error e
           | .ok p' => t.upgradeLoop f true ix false frm (2 * bs.size) sub fuel (iat 0 (s + 2 ^ d)) true acc p')
        else t.upgradeLoop f true ix false frm (2 * bs.size) sub fuel (iat 0 (s + 2 ^ d)) true (acc ++ [nodeAt C bs d o]) p)
      ∧ Cover rest (s + 2 ^ d) bs.size ∧ Align (s + 2 ^ d) bs.size ∧ (o + 1) * 2 ^ d ≤ bs.size ∧ s = o * 2 ^ d := by
  obtain ⟨hfr, hnext, hs, hspan, hrest, -, hal'⟩ := fullRoot_cover hc hdec hal hN
  have hE : s + 2 ^ d = (o + 1) * 2 ^ d := by rw [hs, Pow2.succ_mul_pow]
  have hnoskip : ¬ (iat d o).index + (iat d o).factor / 2 < frm := fun h =>
    Nat.lt_irrefl _ (Nat.lt_of_le_of_lt (iat_skip_iff.mp h) (cover_noskip hc hfrm _ (List.mem_cons_self ..)))
  rw [hE]
  refine ⟨?_, hrest, hal', hspan, hs⟩
  rw [upgradeLoop_send hfr hnoskip hnc, hnext, treat_ref hNodes hspan]
  split
  · cases t.blockAndSeekProof f ix false sub (Flat.index d o) p <;> rfl
  · rfl

theorem bsp_at (C : Crypto) (bs : Array Bytes) (t : Tree) (f : File) (hNodes : NodesOK C bs t f) (hN : bs.size < 2 ^ 64) (i k nn sr : Nat) (p : LocalProof)
    (hk : (i / 2 ^ k + 1) * 2 ^ k ≤ bs.size) :
    t.blockAndSeekProof f (some ⟨true, i * 2, nn, i⟩) false sr (Flat.index k (i / 2 ^ k)) p = .ok { p with nodes := some (sibPath C bs 0 i k) } :=
  BlockGrowWriter.blockAndSeekProof_sibPath C bs t f hNodes hN i k nn sr p hk

/-- a list of positions of the writer's tree with the requested block's ancestor `(k, i / 2^k)` in it, none before it containing
    the block, on an empty local proof: that node becomes the block section — the sibling path up to it —, all others are sent -/
theorem treatAll_block {C : Crypto} {bs : Array Bytes} {t : Tree} {f : File} (hNodes : NodesOK C bs t f) (hN : bs.size < 2 ^ 64) {i k nn : Nat}
    {a b : List (Nat × Nat)} {acc : List Node} (hin : ∀ y ∈ a ++ (k, i / 2 ^ k) :: b, (y.2 + 1) * 2 ^ y.1 ≤ bs.size)
    (ha : ∀ y ∈ a, (iat y.1 y.2).contains (i * 2) = false) :
    t.treatAll f true (some ⟨true, i * 2, nn, i⟩) false (i * 2) (a ++ (k, i / 2 ^ k) :: b) acc {}
      = .ok (acc ++ (a ++ b).map (fun q => nodeAt C bs q.1 q.2), { nodes := some (sibPath C bs 0 i k) }) :=
  treatAll_split hNodes hin (fun y hy => by rw [ha y hy]; rfl)
    (by rw [Nat.mul_comm, iat_anc_contains]; rfl)
    (bsp_at C bs t f hNodes hN i k nn (i * 2) {} (hin _ (List.mem_append_right _ (List.mem_cons_self ..)))) rfl

/-- what stands before the block's ancestor in a cover does not contain the block -/
theorem before_not_contains {i k s e : Nat} {a b : List (Nat × Nat)} (hc : Cover (a ++ (k, i / 2 ^ k) :: b) s e) :
    ∀ y ∈ a, (iat y.1 y.2).contains (i * 2) = false := by
  intro y hy
  have hbefore : (y.2 + 1) * 2 ^ y.1 ≤ i / 2 ^ k * 2 ^ k := BlockNew.cover_before a (k, i / 2 ^ k) b s e hc y hy
  have h1 : i / 2 ^ k * 2 ^ k ≤ i := Nat.div_mul_le_self i (2 ^ k)
  rw [Nat.mul_comm, iat_contains_leaf]
  exact decide_eq_false fun h => Nat.lt_irrefl i (Nat.lt_of_lt_of_le h.2 (Nat.le_trans hbefore h1))

/-- once the local proof has its block section, the rest of the root loop sends every remaining root -/
theorem tail_after (C : Crypto) (bs : Array Bytes) (t : Tree) (f : File) (hNodes : NodesOK C bs t f) (hN : bs.size < 2 ^ 64)
    (frm : Nat) (ix : Option Indexed) (sub : Nat) (p : LocalProof) (hp : p.nodes.isNone = false)
    (rest : List (Nat × Nat)) (fuel s : Nat) (acc : List Node) (hc : Cover rest s bs.size) (hdec : DecDepth rest) (hal : Align s bs.size)
    (hfrm : frm ≤ 2 * s) (hfuel : rest.length < fuel) :
    t.upgradeLoop f true ix false frm (2 * bs.size) sub fuel (iat 0 s) true acc p
      = .ok (true, acc ++ rest.map (fun q => nodeAt C bs q.1 q.2), p) := by
  rw [upgradeLoop_rootWalk hN hc hdec hal hfuel, rootWalk_tail (cover_noskip hc hfrm), treatAll_plain hNodes hc.bound (fun _ _ => by rw [hp]; rfl)]
  rfl

/-- the tail of the root loop when one of the remaining roots contains the requested block: that root goes to the block
    section, all others are sent -/
theorem tail_sub (C : Crypto) (bs : Array Bytes) (t : Tree) (f : File) (hNodes : NodesOK C bs t f) (hN : bs.size < 2 ^ 64)
    (frm i k nn : Nat) (b : List (Nat × Nat)) :
    ∀ (a : List (Nat × Nat)) (fuel s : Nat) (acc : List Node) (hasUp : Bool), Cover (a ++ (k, i / 2 ^ k) :: b) s bs.size → DecDepth (a ++ (k, i / 2 ^ k) :: b) →
      Align s bs.size → frm ≤ 2 * s → (a ++ (k, i / 2 ^ k) :: b).length < fuel →
      (∀ d o rest', a ++ (k, i / 2 ^ k) :: b = (d, o) :: rest' → (!hasUp && (iat d o).contains (frm - 2)) = false) →
      t.upgradeLoop f true (some ⟨true, i * 2, nn, i⟩) false frm (2 * bs.size) (i * 2) fuel (iat 0 s) hasUp acc {}
        = .ok (true, acc ++ (a ++ b).map (fun q => nodeAt C bs q.1 q.2), { nodes := some (sibPath C bs 0 i k) }) := by
  intro a fuel s acc hasUp hc hdec hal hfrm hfuel H
  obtain ⟨⟨d, o⟩, rest, e⟩ : ∃ q rest, a ++ (k, i / 2 ^ k) :: b = q :: rest := by cases a <;> exact ⟨_, _, rfl⟩
  have hno := cover_noskip hc hfrm
  rw [upgradeLoop_rootWalk hN hc hdec hal hfuel]
  -- the first root is not skipped and starts no walk: from it on every root is treated
  rw [e] at hno ⊢
  rw [rootWalk_roots hno (H d o rest e), ← e, treatAll_block hNodes hN hc.bound (before_not_contains hc)]
  rfl

/-- one level of the "connect existing tree" walk from leaf `m − 1` towards the root `(D, O)` -/
theorem walk_step (C : Crypto) (bs : Array Bytes) (t : Tree) (f : File) (hN : NodesOK C bs t f) (m : Nat)
    (ix : Option Indexed) (sub : Nat) (p : LocalProof) (D O : Nat) (hR : (O + 1) * 2 ^ D ≤ bs.size)
    (gap j fuel : Nat) (acc : List Node) (hj : j + (gap + 1) = D) (hO : (m - 1) / 2 ^ (j + (gap + 1)) = O) :
    t.connectWalk f true ix false sub (Flat.index D O) (2 * (m - 1)) (fuel + 1) (iat j ((m - 1) / 2 ^ j)) acc p
      = (if (m - 1) / 2 ^ j % 2 = 0 then
          (if (p.nodes.isNone && p.seek.isNone && (iat j ((m - 1) / 2 ^ j + 1)).contains sub) = true then
            (match t.blockAndSeekProof f ix false sub (Flat.index j ((m - 1) / 2 ^ j + 1)) p with
             | .error e => .error e
             | .ok p' => t.connectWalk f true ix false sub (Flat.index D O) (2 * (m - 1)) fuel (iat (j + 1) ((m - 1) / 2 ^ (j + 1))) acc p')
          else t.connectWalk f true ix false sub (Flat.index D O) (2 * (m - 1)) fuel (iat (j + 1) ((m - 1) / 2 ^ (j + 1)))
                (acc ++ [nodeAt C bs j ((m - 1) / 2 ^ j + 1)]) p)
        else t.connectWalk f true ix false sub (Flat.index D O) (2 * (m - 1)) fuel (iat (j + 1) ((m - 1) / 2 ^ (j + 1))) acc p)
      ∧ ((m - 1) / 2 ^ j % 2 = 0 → ((m - 1) / 2 ^ j + 1 + 1) * 2 ^ j ≤ (O + 1) * 2 ^ D) := by
  have hb : (m - 1) / 2 ^ j % 2 = 0 → ((m - 1) / 2 ^ j + 1 + 1) * 2 ^ j ≤ (O + 1) * 2 ^ D := fun hev => by
    have := rightSibs_bound (gap + 1) j ((m - 1) / 2 ^ j) (j, (m - 1) / 2 ^ j + 1)
      (by rw [rightSibs, if_pos hev]; exact List.mem_append_left _ (List.mem_singleton_self _))
    rwa [Nat.div_div_eq_div_mul, ← Nat.pow_add, hO, hj] at this
  refine ⟨?_, hb⟩
  rw [← div_pow_succ' (m - 1) j, connectWalk_step (index_ne_root (hj ▸ Nat.lt_add_of_pos_right (Nat.succ_pos gap))) (Nat.div_mul_le_self _ _)
    (lt_succ_div_mul _ _ (pow_pos' j))]
  by_cases hev : (m - 1) / 2 ^ j % 2 = 0
  · rw [if_pos hev, if_pos hev, treatAll, treat_ref hN (Nat.le_trans (hb hev) hR)]
    split
    · cases t.blockAndSeekProof f ix false sub (Flat.index j ((m - 1) / 2 ^ j + 1)) p <;> rfl
    · rfl
  · rw [if_neg hev, if_neg hev]
    rfl

/-- the walk when no right sibling on the way contains the sub tree: all of them are sent -/
theorem walk_none (C : Crypto) (bs : Array Bytes) (t : Tree) (f : File) (hN : NodesOK C bs t f) (m : Nat)
    (ix : Option Indexed) (sub : Nat) (p : LocalProof) (D O : Nat) (hR : (O + 1) * 2 ^ D ≤ bs.size) :
    ∀ (gap j fuel : Nat) (acc : List Node), j + gap = D → (m - 1) / 2 ^ (j + gap) = O → gap < fuel →
      (∀ x ∈ rightSibs gap j ((m - 1) / 2 ^ j), (iat x.1 x.2).contains sub = false) →
      t.connectWalk f true ix false sub (Flat.index D O) (2 * (m - 1)) fuel (iat j ((m - 1) / 2 ^ j)) acc p
        = .ok (acc ++ (rightSibs gap j ((m - 1) / 2 ^ j)).map (fun q => nodeAt C bs q.1 q.2), p) := by
  intro gap j fuel acc hj hO hf hnc
  rw [connectWalk_treatAll hj hO hf]
  exact treatAll_plain hN (rightSibs_inside hR hj hO) fun x hx => by rw [hnc x hx, Bool.and_false]

/-- the walk when one right sibling on the way contains the requested block: it goes to the block section -/
theorem walk_sub (C : Crypto) (bs : Array Bytes) (t : Tree) (f : File) (hN : NodesOK C bs t f) (hsz : bs.size < 2 ^ 64) (m : Nat) (hm0 : 0 < m)
    (i k nn : Nat) (D O : Nat) (hR : (O + 1) * 2 ^ D ≤ bs.size) (c : List (Nat × Nat)) :
    ∀ (gap j fuel : Nat) (acc : List Node) (a : List (Nat × Nat)), j + gap = D → (m - 1) / 2 ^ (j + gap) = O → gap < fuel →
      rightSibs gap j ((m - 1) / 2 ^ j) = a ++ (k, i / 2 ^ k) :: c → (∀ x ∈ a, (iat x.1 x.2).contains (i * 2) = false) →
      t.connectWalk f true (some ⟨true, i * 2, nn, i⟩) false (i * 2) (Flat.index D O) (2 * (m - 1)) fuel (iat j ((m - 1) / 2 ^ j)) acc {}
        = .ok (acc ++ (a ++ c).map (fun q => nodeAt C bs q.1 q.2), { nodes := some (sibPath C bs 0 i k) }) := by
  intro gap j fuel acc a hj hO hf hsplit ha
  rw [connectWalk_treatAll hj hO hf, hsplit]
  exact treatAll_block hN hsz (hsplit ▸ rightSibs_inside hR hj hO) ha

/-- the root loop of `upgrade_proof` for "block `i` of the new part and an upgrade from `m`": the honest position list without
    the node that holds the block, and the block's sibling path up to that node as block section -/
theorem upgradeLoop_up_sub (C : Crypto) (bs : Array Bytes) (t : Tree) (f : File) (hNodes : NodesOK C bs t f) (hN : bs.size < 2 ^ 64)
    (m : Nat) (hm0 : 0 < m) (hmn : m < bs.size) (i k nn : Nat) :
    ∀ (ln : List (Nat × Nat)) (fuel s : Nat) (acc : List Node) (us a b : List (Nat × Nat)), Cover ln s bs.size → DecDepth ln → Align s bs.size →
      Up m s ln us → us = a ++ (k, i / 2 ^ k) :: b → ln.length < fuel →
      t.upgradeLoop f true (some ⟨true, i * 2, nn, i⟩) false (2 * m) (2 * bs.size) (i * 2) fuel (iat 0 s) false acc {}
        = .ok (true, acc ++ (a ++ b).map (fun q => nodeAt C bs q.1 q.2), { nodes := some (sibPath C bs 0 i k) }) := by
  intro ln fuel s acc us a b hc hdec hal hup hsplit hfuel
  obtain ⟨x, rfl⟩ := Nat.exists_eq_add_one_of_ne_zero (Nat.ne_of_gt hm0)
  -- the honest list covers `[m, size)`: what stands before the node with the block ends before the block
  have hcov := BlockNew.up_cover _ _ ln s us hc hup
  rw [hsplit] at hcov
  rw [upgradeLoop_rootWalk hN hc hdec hal hfuel, rootWalk_up hN hmn hc hup, hsplit, treatAll_block hNodes hN hcov.bound (before_not_contains hcov)]
  rfl

/-- **the writer's answer to "block `i` of the new part (any node count) and an upgrade from `m`"**: the block with its
    reference sibling path up to the node of the honest position list that holds it, and the rest of that list as
    upgrade section, with the signature -/
theorem create_newblock_proof (C : Crypto) (bs : Array Bytes) (t : Tree) (f : File) (hT : RootsOK C bs t.changeset)
    (hNodes : NodesOK C bs t f) (hN : bs.size < 2 ^ 64) (m : Nat) (hm0 : 0 < m) (hmn : m < bs.size) (sig : Bytes) (hsig : t.signature = some sig)
    (us : List (Nat × Nat)) (hup : Up m 0 (rootsStack bs.size).reverse us) (i nn : Nat) (hmi : m ≤ i)
    (a b : List (Nat × Nat)) (k : Nat) (hsplit : us = a ++ (k, i / 2 ^ k) :: b) :
    t.createValuelessProof f (some ⟨i, nn⟩) none none (some ⟨m, bs.size - m⟩)
      = .ok ⟨t.fork, some ⟨i, sibPath C bs 0 i k⟩, none, none,
          some ⟨m, bs.size - m, (a ++ b).map (fun q => nodeAt C bs q.1 q.2), [], sig⟩⟩ := by
  have hl64 : (rootsStack bs.size).reverse.length < 80 := by
    rw [List.length_reverse]; exact Nat.lt_of_le_of_lt (rootsStack_length_log 64 bs.size hN) (by decide)
  have hloop := upgradeLoop_up_sub C bs t f hNodes hN m hm0 hmn i k nn (rootsStack bs.size).reverse 80 0 [] us a b
    (cover_roots bs.size) (rootsStack_rev_dec bs.size) (align_zero _) hup hsplit hl64
  -- the block is not before `m`: no first stage, the sub tree is the block's leaf
  have h1 : stage1 t f (indexedOf (some ⟨i, nn⟩) none) none (some ⟨m, bs.size - m⟩) (2 * m) (2 * bs.size) (2 * bs.size)
      = .ok (i * 2, {}, false) := by
    simp only [stage1, indexedOf, Option.isSome_none, Option.isSome_some, Bool.false_and, Bool.false_eq_true, if_false,
      decide_eq_false (Nat.not_lt.mpr hmi), if_true]
  exact create_of_loop t f (some ⟨i, nn⟩) m bs.size hT.length hmn hsig h1 (decide_eq_false (Nat.ne_of_gt (Nat.mul_pos (by decide) hm0))).symm hloop (fun _ => rfl)

end HC.NewBlockWriter
