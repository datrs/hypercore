import HC.Proofs.Complete
import HC.Proofs.UpgradeComplete
/-!
Tree-level synchronisation (C03): a replica that knew nothing, after the writer's first upgrade answer and any sequence
of honest block answers, each verified *and committed* (`Reach`), is a `Sparse` replica of the writer's log at the
writer's length (`reach_sparse`) — which is exactly what `honest_block_accepted` needs, so the next honest block answer
is accepted again (`block_progress`): the state after applying an honest answer is again one on which honest answers
are accepted.
-/
namespace HC.Sync
open HC HC.Codec HC.Flat HC.Tree HC.RefTree HC.RefProof HC.Sound HC.Offsets HC.TreeStore HC.Complete HC.UpgradeSound

/-- inserting reference nodes inside the first `m'` blocks keeps a replica sparse (and lets it grow) -/
theorem sparse_insert (C : Crypto) (hC : HashWF C) (bs : Array Bytes) (m m' : Nat) (t t' : Tree) (f : File)
    (hS : Sparse C bs m t f) (hm : m ≤ m') (l : List Node)
    (hl : ∀ n ∈ l, ∃ d o, n = nodeAt C bs d o ∧ (o + 1) * 2 ^ d ≤ m')
    (hu : t'.unflushed = insertAll t.unflushed l) (hlen : t'.length = m')
    (hroots : ∀ p ∈ rootsStack m', (∃ n ∈ l, n.index = Flat.index p.1 p.2)
        ∨ t.node? f (Flat.index p.1 p.2) = some (nodeAt C bs p.1 p.2)) :
    Sparse C bs m' t' f := by
  have hlook := node?_insertAll C hC bs t t' f l (fun n hn => let ⟨d, o, e, _⟩ := hl n hn; ⟨d, o, e⟩) hu
  refine ⟨hlen, ?_, ?_⟩
  · intro i n hn
    rcases hlook i with ⟨d, o, hi, hmem, hget⟩ | ⟨_, he⟩
    · obtain ⟨d', o', e, hb⟩ := hl _ hmem
      obtain ⟨rfl, rfl⟩ := index_inj d o d' o' (congrArg Node.index e)
      exact ⟨d, o, hi, (Option.some.inj (hget.symm.trans hn)).symm, hb⟩
    · obtain ⟨d, o, hi, e, hb⟩ := hS.sound i n (he ▸ hn)
      exact ⟨d, o, hi, e, Nat.le_trans hb hm⟩
  · intro p hp
    rcases hlook (Flat.index p.1 p.2) with ⟨d, o, hi, _, hget⟩ | ⟨hmiss, he⟩
    · obtain ⟨rfl, rfl⟩ := index_inj p.1 p.2 d o hi
      exact hget
    · exact he ▸ (hroots p hp).resolve_left fun ⟨x, hx, hxi⟩ => hmiss x hx hxi

theorem block_commit_sparse (C : Crypto) (hC : HashWF C) (bs : Array Bytes) (m : Nat) (t : Tree) (f : File)
    (hS : Sparse C bs m t f) (cs : Changeset)
    (hall : ∀ n ∈ cs.rnodes, ∃ d o, n = nodeAt C bs d o ∧ (o + 1) * 2 ^ d ≤ m)
    (hu : cs.upgraded = false) (ho1 : cs.origLength = t.length) (ho2 : cs.origFork = t.fork) :
    ∃ t', t.commit cs = .ok t' ∧ Sparse C bs m t' f ∧ t'.roots = t.roots ∧ t'.fork = t.fork := by
  refine ⟨_, Tree.commit_plain t cs (Tree.commitable_of_orig t cs ho1 ho2) hu, ?_, rfl, rfl⟩
  · refine sparse_insert C hC bs m m t _ f hS (Nat.le_refl _) cs.nodes ?_ rfl hS.length (fun p hp => Or.inr (hS.roots p hp))
    intro n hn
    exact hall n (by simpa [Changeset.nodes] using hn)

theorem upgrade_commit_sparse (C : Crypto) (hC : HashWF C) (bs : Array Bytes) (t : Tree) (f : File)
    (hS : Sparse C bs 0 t f) (cs : Changeset)
    (hroots : cs.roots = RefTree.roots C bs) (hlen : cs.length = bs.size)
    (hrn : cs.rnodes = (RefTree.roots C bs).reverse) (hu : cs.upgraded = true)
    (ho1 : cs.origLength = t.length) (ho2 : cs.origFork = t.fork) (ha : cs.ancestors = t.length) :
    ∃ t', t.commit cs = .ok t' ∧ Sparse C bs bs.size t' f ∧ t'.roots = RefTree.roots C bs ∧ t'.fork = cs.fork
      ∧ t'.signature = cs.signature := by
  refine ⟨_, Tree.commit_upgrade t cs (Tree.commitable_of_orig t cs ho1 ho2) hu (by rw [ho1, ha]), ?_, hroots,
    rfl, rfl⟩
  · have hnodes : cs.nodes = Growth.rootsAt C bs bs.size := by
      rw [Changeset.nodes, hrn, List.reverse_reverse, Growth.roots_eq_rootsAt]
    exact sparse_insert C hC bs 0 bs.size t _ f hS (Nat.zero_le _) cs.nodes (hnodes ▸ Growth.rootsAt_inside C bs bs.size) rfl hlen
      fun p hp => Or.inl ⟨nodeAt C bs p.1 p.2, hnodes ▸ Growth.rootsAt_mem C bs hp, rfl⟩

/-- what the replica's tree can be after first contact and any number of honest block exchanges, each
    answer produced by the writer's `create_valueless_proof`, checked by the replica's `verify_proof` and
    committed -/
inductive Reach (C : Crypto) (bs : Array Bytes) (tw : Tree) (fw : File) (pk : Bytes) (fr : File) : Tree → Prop
  | first (tr : Tree) (vp : ValuelessProof) (cs : Changeset) (tr' : Tree) :
      Sparse C bs 0 tr fr → tr.roots = [] →
      tw.createValuelessProof fw none none none (some ⟨0, bs.size⟩) = .ok vp →
      tr.verifyProof C fr ⟨vp.fork, none, none, none, vp.upgrade⟩ pk = .ok cs →
      tr.commit cs = .ok tr' → Reach C bs tw fw pk fr tr'
  | block (tr : Tree) (i : Nat) (nodes : List Node) (cs : Changeset) (tr' : Tree) :
      Reach C bs tw fw pk fr tr → i < bs.size →
      tw.createValuelessProof fw (some ⟨i, tr.missingNodes fr (2 * i)⟩) none none none
        = .ok ⟨tw.fork, some ⟨i, nodes⟩, none, none, none⟩ →
      tr.verifyProof C fr ⟨tw.fork, some ⟨i, bs.getD i [], nodes⟩, none, none, none⟩ pk = .ok cs →
      tr.commit cs = .ok tr' → Reach C bs tw fw pk fr tr'

/-- the writer-side facts the exchange relies on (what `C01.live_refinement` maintains) -/
structure Writer (C : Crypto) (bs : Array Bytes) (tw : Tree) (fw : File) (pk sig : Bytes) : Prop where
  roots : RootsOK C bs tw.changeset
  nodes : NodesOK C bs tw fw
  small : bs.size < 2 ^ 64
  nonempty : 0 < bs.size
  hsig : tw.signature = some sig
  siglen : sig.length = 64
  verifies : C.verify pk (RefTree.signableOf C bs tw.fork) sig = true

/-- First contact below the commit: `verify_proof` of a replica without roots accepts the writer's answer with a changeset
    that adopts the writer's roots, length, fork and signature and was made from the replica's tree (its last three
    fields are what `commit` compares). -/
theorem first_upgrade_accepted (C : Crypto) (bs : Array Bytes) (tw : Tree) (fw : File) (tr : Tree) (fr : File) (pk sig : Bytes)
    (hW : Writer C bs tw fw pk sig) (hfresh : tr.roots = []) (hflen : tr.length = 0) :
    ∃ vp cs, tw.createValuelessProof fw none none none (some ⟨0, bs.size⟩) = .ok vp
      ∧ tr.verifyProof C fr ⟨vp.fork, none, none, none, vp.upgrade⟩ pk = .ok cs
      ∧ cs.roots = RefTree.roots C bs ∧ cs.length = bs.size ∧ cs.fork = tw.fork ∧ cs.signature = some sig
      ∧ cs.rnodes = (RefTree.roots C bs).reverse ∧ cs.upgraded = true
      ∧ cs.origLength = tr.length ∧ cs.origFork = tr.fork ∧ cs.ancestors = tr.length := by
  obtain ⟨cs, hacc, hroots, hlen, hfork, hsg, hrn, hup, horigL, horigF, hanc, _⟩ := UpgradeComplete.fresh_upgrade_accepted C bs hW.small
    hW.nonempty tw.fork pk sig tr.changeset hfresh hflen hW.siglen hW.verifies
  refine ⟨_, cs, UpgradeComplete.create_upgrade_from0 C bs tw fw hW.roots hW.nodes hW.small hW.nonempty sig hW.hsig, ?_, hroots, hlen,
    hfork, hsg, hrn.trans (List.append_nil _), hup, horigL, horigF, hanc⟩
  exact (Tree.upgrade_only_accepted C tr fr pk tw.fork _ true cs hacc hup horigL horigF hanc).1

/-- **First contact never gets stuck**: the writer answers, the replica accepts and commits, and what it
    then holds is a sparse replica of the writer's log at the writer's length, with the writer's roots,
    fork and signature. -/
theorem first_contact (C : Crypto) (hC : HashWF C) (bs : Array Bytes) (tw : Tree) (fw : File) (pk sig : Bytes)
    (hW : Writer C bs tw fw pk sig) (tr : Tree) (fr : File) (hS : Sparse C bs 0 tr fr) (hr : tr.roots = []) :
    ∃ vp cs tr', tw.createValuelessProof fw none none none (some ⟨0, bs.size⟩) = .ok vp
      ∧ tr.verifyProof C fr ⟨vp.fork, none, none, none, vp.upgrade⟩ pk = .ok cs
      ∧ tr.commit cs = .ok tr'
      ∧ Sparse C bs bs.size tr' fr ∧ tr'.roots = RefTree.roots C bs ∧ tr'.fork = tw.fork ∧ tr'.signature = some sig := by
  obtain ⟨vp, cs, hw, hv, hroots, hlen, hfork, hsg, hrn, hup, horigL, horigF, hanc⟩ :=
    first_upgrade_accepted C bs tw fw tr fr pk sig hW hr hS.length
  obtain ⟨tr', hc, hS', hr', hf', hs'⟩ := upgrade_commit_sparse C hC bs tr fr hS cs hroots hlen hrn hup horigL horigF hanc
  exact ⟨vp, cs, tr', hw, hv, hc, hS', hr', hf'.trans hfork, hs'.trans hsg⟩

theorem reach_sparse (C : Crypto) (hC : HashWF C) (bs : Array Bytes) (tw : Tree) (fw : File) (pk sig : Bytes)
    (hW : Writer C bs tw fw pk sig) (fr : File) (tr : Tree) (h : Reach C bs tw fw pk fr tr) :
    Sparse C bs bs.size tr fr ∧ tr.roots = RefTree.roots C bs ∧ tr.fork = tw.fork := by
  induction h with
  | first tr vp cs tr' hS hr hw hv hc =>
    obtain ⟨vp2, cs2, tr2, e1, e2, e3, r1, r2, r3, _⟩ := first_contact C hC bs tw fw pk sig hW tr fr hS hr
    rw [hw] at e1
    cases e1
    rw [hv] at e2
    cases e2
    rw [hc] at e3
    cases e3
    exact ⟨r1, r2, r3⟩
  | block tr i nodes cs tr' _ hi hw hv hc ih =>
    obtain ⟨hS, hr, hf⟩ := ih
    obtain ⟨nodes2, cs2, e1, e2, hall, hu, ho1, ho2⟩ := honest_block_accepted C bs tw fw tr fr bs.size hW.roots hW.nodes hW.small hS
      (Nat.le_refl _) i hi pk
    rw [hw] at e1
    cases e1
    rw [hv] at e2
    cases e2
    obtain ⟨t2, e3, r1, r2, r3⟩ := block_commit_sparse C hC bs bs.size tr fr hS cs hall hu ho1 ho2
    rw [hc] at e3
    cases e3
    exact ⟨r1, by rw [r2, hr], by rw [r3, hf]⟩

/-- **Honest block exchanges never get stuck**: from every reachable replica state and for every block of
    the log, the replica's request is answered by the writer, the answer is accepted, and the commit
    succeeds — giving a reachable state again. -/
theorem block_progress (C : Crypto) (hC : HashWF C) (bs : Array Bytes) (tw : Tree) (fw : File) (pk sig : Bytes)
    (hW : Writer C bs tw fw pk sig) (fr : File) (tr : Tree) (h : Reach C bs tw fw pk fr tr) (i : Nat) (hi : i < bs.size) :
    ∃ nodes cs tr', tw.createValuelessProof fw (some ⟨i, tr.missingNodes fr (2 * i)⟩) none none none
        = .ok ⟨tw.fork, some ⟨i, nodes⟩, none, none, none⟩
      ∧ tr.verifyProof C fr ⟨tw.fork, some ⟨i, bs.getD i [], nodes⟩, none, none, none⟩ pk = .ok cs
      ∧ tr.commit cs = .ok tr' ∧ Reach C bs tw fw pk fr tr' := by
  obtain ⟨hS, _, _⟩ := reach_sparse C hC bs tw fw pk sig hW fr tr h
  obtain ⟨nodes, cs, e1, e2, hall, hu, ho1, ho2⟩ := honest_block_accepted C bs tw fw tr fr bs.size hW.roots hW.nodes hW.small hS
    (Nat.le_refl _) i hi pk
  obtain ⟨t2, e3, _⟩ := block_commit_sparse C hC bs bs.size tr fr hS cs hall hu ho1 ho2
  exact ⟨nodes, cs, t2, e1, e2, e3, Reach.block tr i nodes cs t2 h hi e1 e2 e3⟩

end HC.Sync
