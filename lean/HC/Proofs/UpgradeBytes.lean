import HC.Proofs.UpgradeSound
import HC.Proofs.Reopen
/-!
The byte length a replica adopts with an upgrade (C04: "never a length or byte length the writer did not sign").
`append_root` adds the size of every appended node to the byte length, and merging two roots keeps the sum of
the roots' sizes; so `byte_length = Σ sizes of the roots` is an invariant of everything `verify_upgrade` does, and
once the adopted roots are the reference roots (`upgrade_sound`) the adopted byte length is the total size of
the signed prefix of the writer's log.
-/
namespace HC.UpgradeBytes
open HC HC.Codec HC.Flat HC.Tree HC.RefTree HC.RefProof HC.Sound HC.UpgradeSound

def SumOK (cs : Changeset) : Prop := cs.byteLength = (cs.roots.map (·.length)).sum

theorem mergeLoop_sum (C : Crypto) : ∀ (fuel : Nat) (rr nodes : List Node) (it : Iter),
    ((mergeLoop C fuel rr nodes it).1.map (·.length)).sum = (rr.map (·.length)).sum := fun fuel rr nodes it =>
  mergeLoop_inv C (fun r _ _ => (r.map (·.length)).sum = (rr.map (·.length)).sum) (fun _ _ _ h => h)
    (fun a b rest _ _ h => by
      rw [List.map_cons, List.map_cons, List.sum_cons, List.sum_cons] at h
      rw [List.map_cons, List.sum_cons]
      exact (Nat.add_assoc _ _ _).trans h)
    fuel rr nodes it rfl

theorem appendRoot_sum (C : Crypto) (cs : Changeset) (n : Node) (it : Iter) (h : SumOK cs) : SumOK (appendRoot C cs n it).1 := by
  unfold SumOK at h ⊢
  rw [appendRoot_roots, appendRoot_byteLength, List.map_reverse, List.sum_reverse, mergeLoop_sum, h]
  simp only [List.map_cons, List.sum_cons, List.map_reverse, List.sum_reverse]
  omega

theorem verifyUpgrade_sum (C : Crypto) {fork : Nat} {u : DataUpgrade} {blockRoot : Option Node} {pk : Bytes} {cs cs' : Changeset}
    {consumed : Bool} (h : verifyUpgrade C fork u blockRoot pk cs = .ok (consumed, cs')) (hs : SumOK cs) : SumOK cs' :=
  verifyUpgrade_inv C SumOK (appendRoot_sum C) (fun _ _ _ h => h) h hs


end HC.UpgradeBytes
