import HC.Proofs.Sound
import HC.Proofs.LiveRefine
/-!
Completeness of block proofs (C03): the honest answer to a block request — the block's bytes and the
reference siblings along the path, as many levels as the replica asked for — passes `verify_proof` on
every replica that stores the reference node at the top of that path.  The writer's
`create_valueless_proof` produces exactly that answer, and on a `Sparse` replica (what it stores are reference
nodes, and it stores its roots) the node count from its own `missing_nodes` leads to a node it stores.
`Replica.upPath`, `BlockUpgrade.parent_inside`, `root_over` and `HashReq.missingNodes_spec_node` (the
count for any tree node, not only a block) are stated here, where their ingredients are.
-/
namespace HC.Complete
open HC HC.Codec HC.Flat HC.Tree HC.RefTree HC.RefProof HC.Sound HC.Offsets HC.TreeStore HC.Pow2

/-- the reference siblings along the path from (d, o) upwards, `k` levels -/
def sibPath (C : Crypto) (bs : Array Bytes) : Nat → Nat → Nat → List Node
  | _, _, 0 => []
  | d, o, k+1 => nodeAt C bs d (sib o) :: sibPath C bs (d + 1) (o / 2) k

theorem sibPath_length (C : Crypto) (bs : Array Bytes) (d o k : Nat) : (sibPath C bs d o k).length = k := by
  induction k generalizing d o with
  | zero => rfl
  | succ k ih => simp [sibPath, ih]

theorem parentNode_ref (C : Crypto) (bs : Array Bytes) (d o : Nat) :
    parentNode C (Flat.index (d + 1) (o / 2)) (nodeAt C bs d o) (nodeAt C bs d (sib o)) = nodeAt C bs (d + 1) (o / 2) := by
  obtain ⟨q, hq, ⟨rfl, hs⟩ | ⟨rfl, hs⟩⟩ := sib_cases o
  · rw [hq, hs]; exact (parent_children C bs d q).1
  · rw [hq, hs]; exact (parent_children C bs d q).2

end HC.Complete

namespace HC.Replica
open HC HC.Codec HC.Flat HC.Tree HC.RefTree HC.RefProof HC.Sound HC.Offsets HC.TreeStore HC.Pow2

/-- nodes recorded by the climb of `k` levels from `(d, o)`, newest first -/
def upPath (C : Crypto) (bs : Array Bytes) : Nat → Nat → Nat → List Node
  | _, _, 0 => []
  | d, o, k+1 => upPath C bs (d + 1) (o / 2) k ++ [nodeAt C bs (d + 1) (o / 2), nodeAt C bs d (sib o)]

theorem mem_upPath (C : Crypto) (bs : Array Bytes) (n : Node) : ∀ (k d o : Nat),
    n ∈ upPath C bs d o k ↔ ∃ j, j < k ∧ (n = nodeAt C bs (d + j + 1) (o / 2 ^ (j + 1)) ∨ n = nodeAt C bs (d + j) (sib (o / 2 ^ j))) := by
  intro k
  induction k with
  | zero => intro d o; simp [upPath]
  | succ k ih =>
    intro d o
    -- level `j + 1` of the path from `(d, o)` is level `j` of the path from its parent
    rw [upPath, List.mem_append, ih, Nat.exists_lt_succ_left]
    simp only [div_pow_succ, Nat.add_right_comm d 1, ← Nat.add_assoc, List.mem_cons, List.not_mem_nil, or_false,
      Nat.add_zero, Nat.pow_zero, Nat.div_one, Nat.zero_add, Nat.pow_one]
    exact Or.comm

end HC.Replica

namespace HC.Complete
open HC HC.Codec HC.Flat HC.Tree HC.RefTree HC.RefProof HC.Sound HC.Offsets HC.TreeStore HC.Pow2 HC.Replica

/-- the climb of `verify_tree` over the honest sibling path reaches the reference ancestor and records exactly
    the siblings and parents along the path -/
theorem climb_path (C : Crypto) (bs : Array Bytes) : ∀ (k fuel d o : Nat) (rn : List Node), k < fuel →
    climb C fuel (plainQueue (sibPath C bs d o k)) (iat d o) (nodeAt C bs d o) rn
      = .ok (nodeAt C bs (d + k) (o / 2 ^ k), upPath C bs d o k ++ rn) := by
  intro k
  induction k with
  | zero =>
    intro fuel d o rn hf
    obtain ⟨fuel, rfl⟩ := Nat.exists_eq_add_one_of_ne_zero (Nat.ne_of_gt hf)
    rw [climb_succ, if_pos (show (plainQueue (sibPath C bs d o 0)).length = 0 from rfl), Nat.pow_zero, Nat.div_one]
    rfl
  | succ k ih =>
    intro fuel d o rn hf
    obtain ⟨fuel, rfl⟩ := Nat.exists_eq_add_one_of_ne_zero (Nat.ne_of_gt (Nat.lt_of_le_of_lt (Nat.zero_le _) hf))
    rw [sibPath, climb_succ, if_neg (show ¬ (plainQueue (_ :: _)).length = 0 from Nat.succ_ne_zero _), iat_sibling,
      shift_plain (nodeAt C bs d (sib o)) _ (iat d (sib o)).index rfl, ok_andThen, iat_parent, sib_half, iat_index,
      parentNode_ref, ih fuel (d + 1) (o / 2) _ (Nat.lt_of_succ_lt_succ hf), div_pow_succ, Nat.succ_add_eq_add_succ d k, upPath,
      List.append_assoc]
    rfl

theorem upPath_length (C : Crypto) (bs : Array Bytes) : ∀ (k d o : Nat), (upPath C bs d o k).length = 2 * k := by
  intro k
  induction k with
  | zero => intro d o; rfl
  | succ k ih => intro d o; rw [upPath, List.length_append, ih, Nat.mul_succ]; rfl

/-- every node on the path lies inside the span of the ancestor the climb arrives at -/
theorem upPath_bound (C : Crypto) (bs : Array Bytes) : ∀ (k d o : Nat), ∀ n ∈ upPath C bs d o k,
    ∃ dn on, n = nodeAt C bs dn on ∧ (on + 1) * 2 ^ dn ≤ (o / 2 ^ k + 1) * 2 ^ (d + k) := by
  intro k d o n hn
  obtain ⟨j, hj, rfl | rfl⟩ := (mem_upPath C bs n k d o).mp hn
  · exact ⟨_, _, rfl, anc_end_mono d o hj⟩
  · refine ⟨_, _, rfl, Nat.le_trans (sib_bound (o / 2 ^ j) (d + j)) ?_⟩
    rw [div_pow_succ']
    exact anc_end_mono d o hj

/-- `climb_path` and `upPath_bound` in one statement -/
theorem climb_complete (C : Crypto) (bs : Array Bytes) : ∀ (k fuel d o : Nat) (rn : List Node), k < fuel →
    ∃ rn', climb C fuel (plainQueue (sibPath C bs d o k)) (iat d o) (nodeAt C bs d o) rn
        = .ok (nodeAt C bs (d + k) (o / 2 ^ k), rn')
      ∧ (∀ n ∈ rn', n ∈ rn ∨ ∃ dn on, n = nodeAt C bs dn on ∧ (on + 1) * 2 ^ dn ≤ (o / 2 ^ k + 1) * 2 ^ (d + k)) :=
  fun k fuel d o rn hf => ⟨_, climb_path C bs k fuel d o rn hf, fun n hn =>
    (List.mem_append.mp hn).elim (fun h => Or.inr (upPath_bound C bs k d o n h)) Or.inl⟩

theorem verifyTree_block_path (C : Crypto) (bs : Array Bytes) (i k : Nat) (cs : Changeset) :
    verifyTree C (some ⟨i, bs.getD i [], sibPath C bs 0 i k⟩) none none cs
      = .ok (some (nodeAt C bs k (i / 2 ^ k)), { cs with rnodes := upPath C bs 0 i k ++ nodeAt C bs 0 i :: cs.rnodes }) := by
  have hleaf : blockNode C (i * 2) (bs.getD i []) = nodeAt C bs 0 i := by
    rw [Nat.mul_comm, ← index_zero]; rfl
  have hc := climb_path C bs k (k + 1) 0 i (nodeAt C bs 0 i :: cs.rnodes) (Nat.lt_succ_self k)
  rw [Nat.zero_add] at hc
  rw [verifyTree_block_noSeek C _ none none _ rfl]
  dsimp only
  rw [plainQueue_eq, new_even', hleaf, sibPath_length, hc, ok_andThen]

/-- the comparison at the end of `verify_proof` passes on a node the replica stores (in the shape
    `verifyProof_ok_iff` asks for) -/
theorem stored_root_ok (t : Tree) (f : File) (r : Node) (h : t.node? f r.index = some r) :
    ∀ r', some r = some r' → ∃ v, t.requiredNode f r'.index = .ok v ∧ v.hash = r'.hash := by
  rintro _ ⟨⟩
  exact ⟨r, (requiredNode_eq_ok_iff ..).mpr h, rfl⟩

theorem block_proof_path (C : Crypto) (bs : Array Bytes) (t : Tree) (f : File) (pk : Bytes) (i k fork : Nat)
    (hstored : t.node? f (Flat.index k (i / 2 ^ k)) = some (nodeAt C bs k (i / 2 ^ k))) :
    t.verifyProof C f ⟨fork, some ⟨i, bs.getD i [], sibPath C bs 0 i k⟩, none, none, none⟩ pk
      = .ok { t.changeset with rnodes := upPath C bs 0 i k ++ [nodeAt C bs 0 i] } :=
  (verifyProof_ok_iff ..).mpr ⟨_, _, verifyTree_block_path C bs i k t.changeset, Or.inl ⟨rfl, rfl, stored_root_ok t f _ hstored⟩⟩

/-- **C03, block proofs are accepted.**  On any replica that stores the reference node `k` levels above
    leaf `i`, the honest block proof (the block's bytes, `k` reference siblings, no seek, no upgrade)
    passes `verify_proof`; the resulting changeset keeps the tree's length and `upgraded` flag, and all its
    new nodes are reference nodes. -/
theorem block_proof_complete (C : Crypto) (bs : Array Bytes) (t : Tree) (f : File) (pk : Bytes) (i k fork : Nat)
    (hstored : t.node? f (Flat.index k (i / 2 ^ k)) = some (nodeAt C bs k (i / 2 ^ k))) :
    ∃ cs, t.verifyProof C f ⟨fork, some ⟨i, bs.getD i [], sibPath C bs 0 i k⟩, none, none, none⟩ pk = .ok cs
      ∧ cs.upgraded = t.changeset.upgraded ∧ cs.length = t.length
      ∧ (∀ n ∈ cs.rnodes, ∃ dn on, n = nodeAt C bs dn on ∧ (on + 1) * 2 ^ dn ≤ (i / 2 ^ k + 1) * 2 ^ k)
      ∧ cs.origLength = t.length ∧ cs.origFork = t.fork := by
  refine ⟨_, block_proof_path C bs t f pk i k fork hstored, rfl, rfl, fun n hn => ?_, rfl, rfl⟩
  rcases List.mem_append.mp hn with hn | hn
  · have := upPath_bound C bs k 0 i n hn
    rwa [Nat.zero_add] at this
  · have := span_le i 0 k
    rw [Nat.pow_zero, Nat.mul_one, Nat.zero_add] at this
    exact ⟨0, i, List.mem_singleton.mp hn, by rw [Nat.pow_zero, Nat.mul_one]; exact this⟩

/-! ### the writer's side: `create_valueless_proof` for a block request -/

/-- if the ancestor `k + 1` levels above `(j, o)` lies inside `n` leaves, so do the ancestor `k` levels above the
    parent (the same node) and the parent itself -/
theorem anc_inside {o j k n : Nat} (hb : (o / 2 ^ (k + 1) + 1) * 2 ^ (j + (k + 1)) ≤ n) :
    (o / 2 / 2 ^ k + 1) * 2 ^ (j + 1 + k) ≤ n ∧ (o / 2 + 1) * 2 ^ (j + 1) ≤ n := by
  rw [← div_pow_succ, ← Nat.succ_add_eq_add_succ j k] at hb
  exact ⟨hb, Nat.le_trans (span_le (o / 2) (j + 1) k) hb⟩

theorem nodesToRoot_go (n : Nat) : ∀ (k fuel j o : Nat), k ≤ fuel → (o / 2 ^ k + 1) * 2 ^ (j + k) ≤ n →
    nodesToRoot.go (2 * n) fuel k (iat j o) = .ok (Flat.index (j + k) (o / 2 ^ k)) := by
  intro k
  induction k with
  | zero =>
    intro fuel j o _ _
    rw [nodesToRoot.go, Nat.pow_zero, Nat.div_one]
    rfl
  | succ k ih =>
    intro fuel j o hf hb
    obtain ⟨fuel, rfl⟩ := Nat.exists_eq_add_one_of_ne_zero (Nat.ne_of_gt (Nat.lt_of_lt_of_le (Nat.succ_pos k) hf))
    obtain ⟨hb', hp1⟩ := anc_inside hb
    rw [nodesToRoot.go, iat_parent, if_neg (by rw [iat_contains_ge (Nat.mul_le_mul_left 2 hp1)]; decide),
      ih fuel (j + 1) (o / 2) (Nat.le_of_succ_le_succ hf) hb', div_pow_succ, Nat.succ_add_eq_add_succ j k]

theorem blockProof_go (C : Crypto) (bs : Array Bytes) (t : Tree) (f : File) (hN : NodesOK C bs t f) (seekRoot : Nat)
    (p : LocalProof) : ∀ (k fuel j o : Nat) (acc : List Node), k < fuel → (o / 2 ^ k + 1) * 2 ^ (j + k) ≤ bs.size →
      blockAndSeekProof.go t f false seekRoot (Flat.index (j + k) (o / 2 ^ k)) fuel (iat j o) acc p
        = .ok (acc ++ sibPath C bs j o k, p) := by
  intro k
  induction k with
  | zero =>
    intro fuel j o acc hf _
    obtain ⟨fuel, rfl⟩ := Nat.exists_eq_add_one_of_ne_zero (Nat.ne_of_gt hf)
    rw [blockAndSeekProof.go, Nat.pow_zero, Nat.div_one, Nat.add_zero, iat_index, if_pos rfl, sibPath, List.append_nil]
  | succ k ih =>
    intro fuel j o acc hf hb
    obtain ⟨fuel, rfl⟩ := Nat.exists_eq_add_one_of_ne_zero (Nat.ne_of_gt (Nat.lt_of_le_of_lt (Nat.zero_le _) hf))
    obtain ⟨hb', hp1⟩ := anc_inside hb
    have hne : ¬ ((iat j o).index = Flat.index (j + (k + 1)) (o / 2 ^ (k + 1))) :=
      fun e => Nat.ne_of_lt (Nat.lt_add_of_pos_right (Nat.succ_pos k)) (index_inj j o _ _ e).1
    have hsib : t.requiredNode f (iat j (sib o)).index = .ok (nodeAt C bs j (sib o)) :=
      (requiredNode_eq_ok_iff ..).mpr (hN j (sib o) (Nat.le_trans (sib_bound o j) hp1))
    have hstep := ih fuel (j + 1) (o / 2) (acc ++ [nodeAt C bs j (sib o)]) (Nat.lt_of_succ_lt_succ hf) hb'
    rw [div_pow_succ, Nat.succ_add_eq_add_succ j k, List.append_assoc] at hstep
    rw [blockAndSeekProof.go, if_neg hne]
    dsimp only
    rw [iat_sibling, Bool.false_and, Bool.false_and, if_neg Bool.false_ne_true, hsib, iat_parent, sib_half]
    exact hstep

/-- **C03, the writer's answer.**  For a block `i` below the length and a node count `k` such that the
    ancestor `k` levels up is a full node of the tree, `create_valueless_proof` returns the reference
    siblings along the path — exactly the proof `block_proof_complete` is about. -/
theorem create_block_proof (C : Crypto) (bs : Array Bytes) (t : Tree) (f : File) (hT : RootsOK C bs t.changeset)
    (hN : NodesOK C bs t f) (hs : bs.size < 2 ^ 64) (i k : Nat) (hi : i < bs.size)
    (hk : (i / 2 ^ k + 1) * 2 ^ k ≤ bs.size) :
    t.createValuelessProof f (some ⟨i, k⟩) none none none
      = .ok ⟨t.fork, some ⟨i, sibPath C bs 0 i k⟩, none, none, none⟩ := by
  have hlen : t.length = bs.size := hT.length
  have hk64 : k < 64 := depth_lt_of_span hk hs
  have hk0 : (i / 2 ^ k + 1) * 2 ^ (0 + k) ≤ bs.size := by rw [Nat.zero_add]; exact hk
  -- 80 is the model's fuel for both climbs; `k < 64` because the ancestor's span fits below `2^64`
  have hroot := nodesToRoot_go bs.size k 80 0 i (Nat.le_trans (Nat.le_of_lt hk64) (by decide)) hk0
  have hgo := blockProof_go C bs t f hN (2 * t.length) {} k 80 0 i [] (Nat.lt_trans hk64 (by decide)) hk0
  rw [Nat.zero_add] at hroot hgo
  rw [List.nil_append] at hgo
  have hcont : (iat k (i / 2 ^ k)).contains (i * 2) = true := by
    rw [Nat.mul_comm, iat_contains_leaf, decide_eq_true_eq]
    exact ⟨Nat.div_mul_le_self i (2 ^ k), Pow2.lt_succ_div_mul i _ (pow_pos' k)⟩
  have h0 : ¬ (0 ≥ 2 * t.length ∨ 2 * t.length > 2 * t.length) := by
    rw [hlen]
    exact fun h => h.elim (fun h => Nat.not_le_of_lt (Nat.mul_pos (by decide) (Nat.lt_of_le_of_lt (Nat.zero_le i) hi)) h)
      (Nat.lt_irrefl _)
  have hntr : nodesToRoot (i * 2) k (2 * t.length) = .ok (Flat.index k (i / 2 ^ k)) := by
    rw [nodesToRoot, new_even', hlen, hroot]
  have hbsp : t.blockAndSeekProof f (some ⟨true, i * 2, k, i⟩) false (2 * t.length) (Flat.index k (i / 2 ^ k)) {}
      = .ok { nodes := some (sibPath C bs 0 i k) } := by
    simp only [Tree.blockAndSeekProof, new_index k _ (Nat.le_of_lt hk64), hcont, Bool.not_true, Bool.false_eq_true,
      ite_false, new_even', hgo]
  unfold Tree.createValuelessProof
  simp only [h0, ite_false, Option.isSome_none, Bool.false_and, Bool.false_eq_true, ite_true, hntr, hbsp, Bool.not_true]

/-! ### the replica's side: how many nodes it asks for -/

/-- a sparse replica of the log `bs`, upgraded to length `m`: what it stores are reference nodes inside
    the first `m` blocks, and it stores its roots -/
structure Sparse (C : Crypto) (bs : Array Bytes) (m : Nat) (t : Tree) (f : File) : Prop where
  length : t.length = m
  sound : ∀ i n, t.node? f i = some n → ∃ d o, i = Flat.index d o ∧ n = nodeAt C bs d o ∧ (o + 1) * 2 ^ d ≤ m
  roots : ∀ p ∈ rootsStack m, t.node? f (Flat.index p.1 p.2) = some (nodeAt C bs p.1 p.2)

theorem Sparse.node_eq {C : Crypto} {bs : Array Bytes} {m : Nat} {t : Tree} {f : File} (hS : Sparse C bs m t f)
    {d o : Nat} {n : Node} (h : t.node? f (Flat.index d o) = some n) : n = nodeAt C bs d o ∧ (o + 1) * 2 ^ d ≤ m := by
  obtain ⟨d', o', hidx, hn, hb⟩ := hS.sound _ _ h
  obtain ⟨rfl, rfl⟩ := index_inj d o d' o' hidx
  exact ⟨hn, hb⟩

theorem missingNodes_go_stop (t : Tree) (f : File) (head fuel : Nat) (it : Iter) (c : Nat) (n : Node)
    (hc : it.contains head = false) (hn : t.node? f it.index = some n) :
    missingNodes.go t f head (fuel + 1) it c = c := by
  rw [missingNodes.go, if_neg (by rw [hc]; decide), hn]

theorem missingNodes_go_up (t : Tree) (f : File) (head fuel : Nat) (it : Iter) (c : Nat)
    (hc : it.contains head = false) (hn : t.node? f it.index = none) :
    missingNodes.go t f head (fuel + 1) it c = missingNodes.go t f head fuel it.parent (c + 1) := by
  rw [missingNodes.go, if_neg (by rw [hc]; decide), hn]

/-- The climb of `missing_nodes` from any node `(d, o)` inside the tree: it stops at the first stored ancestor,
    at the latest at a stored ancestor `gap` levels up that lies inside the tree. -/
theorem missingNodes_climb (C : Crypto) (bs : Array Bytes) (m : Nat) (t : Tree) (f : File) (hS : Sparse C bs m t f) :
    ∀ (gap d o fuel c : Nat),
      t.node? f (Flat.index (d + gap) (o / 2 ^ gap)) = some (nodeAt C bs (d + gap) (o / 2 ^ gap)) →
      (o / 2 ^ gap + 1) * 2 ^ (d + gap) ≤ m → gap < fuel →
      ∃ k, missingNodes.go t f (2 * m) fuel (iat d o) c = c + k ∧ k ≤ gap
        ∧ t.node? f (Flat.index (d + k) (o / 2 ^ k)) = some (nodeAt C bs (d + k) (o / 2 ^ k)) := by
  intro gap
  induction gap with
  | zero =>
    intro d o fuel c hroot hin hf
    obtain ⟨fuel, rfl⟩ := Nat.exists_eq_add_one_of_ne_zero (Nat.ne_of_gt hf)
    rw [Nat.pow_zero, Nat.div_one, Nat.add_zero] at hroot hin
    exact ⟨0, missingNodes_go_stop t f _ fuel _ c _ (iat_contains_ge (Nat.mul_le_mul_left 2 hin)) hroot, Nat.le_refl 0,
      by rw [Nat.pow_zero, Nat.div_one, Nat.add_zero]; exact hroot⟩
  | succ gap ih =>
    intro d o fuel c hroot hin hf
    obtain ⟨fuel, rfl⟩ := Nat.exists_eq_add_one_of_ne_zero (Nat.ne_of_gt (Nat.lt_of_le_of_lt (Nat.zero_le _) hf))
    have hnc : (iat d o).contains (2 * m) = false :=
      iat_contains_ge (Nat.mul_le_mul_left 2 (Nat.le_trans (span_le o d (gap + 1)) hin))
    cases hnode : t.node? f (Flat.index d o) with
    | some n =>
      refine ⟨0, missingNodes_go_stop t f _ fuel _ c n hnc hnode, Nat.zero_le _, ?_⟩
      rw [Nat.pow_zero, Nat.div_one, Nat.add_zero, hnode, (hS.node_eq hnode).1]
    | none =>
      rw [← div_pow_succ, ← Nat.succ_add_eq_add_succ d gap] at hroot hin
      obtain ⟨k, h1, h2, h3⟩ := ih (d + 1) (o / 2) fuel (c + 1) hroot hin (Nat.lt_of_succ_lt_succ hf)
      rw [div_pow_succ, Nat.succ_add_eq_add_succ d k] at h3
      exact ⟨k + 1, by rw [missingNodes_go_up t f _ fuel _ c hnc hnode, iat_parent, h1, Nat.add_assoc, Nat.add_comm 1 k],
        Nat.succ_le_succ h2, h3⟩

/-- the early return of `missing_nodes` does not fire for a node inside the tree; 70 is the model's fuel for the climb -/
theorem missingNodes_eq_go (t : Tree) (f : File) (d o : Nat) (h : (o + 1) * 2 ^ d ≤ t.length) (hl : t.length < 2 ^ 64) :
    t.missingNodes f (Flat.index d o) = missingNodes.go t f (2 * t.length) 70 (iat d o) 0 := by
  have hp := pow_pos' d
  have hfirst : ¬ ((iat d o).index + (iat d o).factor / 2 - 1 ≥ 2 * t.length) := by
    rw [iat_factor_half, iat_index, index_lo]
    rw [succ_mul_pow] at h
    omega
  rw [Tree.missingNodes, new_index_of_span h hl]
  exact if_neg hfirst

end HC.Complete

namespace HC.BlockUpgrade
open HC HC.RefTree HC.RefProof

/-- an aligned node inside the first `n` blocks that is not a root of `n` has its parent inside too: it is a right child,
    or its right sibling fits -/
theorem parent_inside (n d o : Nat) (hin : (o + 1) * 2 ^ d ≤ n) (hnr : (d, o) ∉ rootsStack n) : (o / 2 + 1) * 2 ^ (d + 1) ≤ n := by
  rcases Nat.mod_two_eq_zero_or_one o with he | ho
  · rw [Pow2.parent_end_even d o he]
    exact Nat.le_of_not_lt fun hlt => hnr ((RefProof.mem_rootsStack_span n d o).mpr ⟨he, hin, hlt⟩)
  · rw [Pow2.parent_end_odd d o ho]
    exact hin

end HC.BlockUpgrade

namespace HC.Complete
open HC HC.Codec HC.Flat HC.Tree HC.RefTree HC.RefProof HC.Sound HC.Offsets HC.TreeStore HC.Pow2

/-- a node inside a tree of `m` leaves lies under one of its roots (`n` bounds the levels still to climb:
    `2^d ≤ m`, so `n = m` serves at the call) -/
theorem root_over (m : Nat) : ∀ (n d o : Nat), m ≤ d + n → (o + 1) * 2 ^ d ≤ m → ∃ gap, (d + gap, o / 2 ^ gap) ∈ rootsStack m := by
  intro n
  induction n with
  | zero =>
    intro d o hn hin
    exact absurd (Nat.le_trans (Nat.le_mul_of_pos_left _ (Nat.succ_pos o)) (Nat.le_trans hin hn)) (Nat.not_le_of_lt Nat.lt_two_pow_self)
  | succ n ih =>
    intro d o hn hin
    by_cases hr : (d, o) ∈ rootsStack m
    · exact ⟨0, by rw [Nat.pow_zero, Nat.div_one]; exact hr⟩
    · obtain ⟨gap, hg⟩ := ih (d + 1) (o / 2) (by rw [Nat.add_assoc, Nat.add_comm 1 n]; exact hn)
        (BlockUpgrade.parent_inside m d o hin hr)
      exact ⟨gap + 1, by rw [← div_pow_succ, ← Nat.succ_add_eq_add_succ d gap]; exact hg⟩

end HC.Complete

namespace HC.HashReq
open HC HC.Codec HC.Flat HC.Tree HC.RefTree HC.RefProof HC.Sound HC.Offsets HC.TreeStore HC.Complete HC.Pow2

/-- the node count a replica asks for, for any tree node inside its tree, leads to a stored ancestor inside its tree
    (`d0 ≤ 64` is there for the callers that go on to `new_index`) -/
theorem missingNodes_spec_node (C : Crypto) (bs : Array Bytes) (m : Nat) (t : Tree) (f : File) (hS : Sparse C bs m t f)
    (hm : m < 2 ^ 64) (d0 o0 : Nat) (hin : (o0 + 1) * 2 ^ d0 ≤ m) :
    t.node? f (Flat.index (d0 + t.missingNodes f (Flat.index d0 o0)) (o0 / 2 ^ t.missingNodes f (Flat.index d0 o0)))
        = some (nodeAt C bs (d0 + t.missingNodes f (Flat.index d0 o0)) (o0 / 2 ^ t.missingNodes f (Flat.index d0 o0)))
      ∧ (o0 / 2 ^ t.missingNodes f (Flat.index d0 o0) + 1) * 2 ^ (d0 + t.missingNodes f (Flat.index d0 o0)) ≤ m
      ∧ d0 ≤ 64 := by
  -- the climb ends at the root above the node at the latest, whose depth is below 64: within the fuel 70
  obtain ⟨gap, hmem⟩ := root_over m m d0 o0 (Nat.le_add_left m d0) hin
  have hbound := rootsStack_bound m _ hmem
  obtain ⟨k, h1, _, h3⟩ := missingNodes_climb C bs m t f hS gap d0 o0 70 0 (hS.roots _ hmem) hbound
    (Nat.lt_of_le_of_lt (Nat.le_add_left gap d0) (Nat.lt_trans (depth_lt_of_span hbound hm) (by decide)))
  have hmn : t.missingNodes f (Flat.index d0 o0) = k := by
    rw [missingNodes_eq_go t f d0 o0 (hS.length ▸ hin) (hS.length ▸ hm), hS.length, h1, Nat.zero_add]
  rw [hmn]
  exact ⟨h3, (hS.node_eq h3).2, Nat.le_of_lt (depth_lt_of_span hin hm)⟩

end HC.HashReq

namespace HC.Complete
open HC HC.Codec HC.Flat HC.Tree HC.RefTree HC.RefProof HC.Sound HC.Offsets HC.TreeStore HC.Pow2 HC.Replica

theorem missingNodes_spec (C : Crypto) (bs : Array Bytes) (m : Nat) (t : Tree) (f : File) (hS : Sparse C bs m t f)
    (hm : m < 2 ^ 64) (i : Nat) (hi : i < m) :
    t.node? f (Flat.index (t.missingNodes f (2 * i)) (i / 2 ^ t.missingNodes f (2 * i)))
        = some (nodeAt C bs (t.missingNodes f (2 * i)) (i / 2 ^ t.missingNodes f (2 * i)))
      ∧ (i / 2 ^ t.missingNodes f (2 * i) + 1) * 2 ^ t.missingNodes f (2 * i) ≤ m := by
  have h := HashReq.missingNodes_spec_node C bs m t f hS hm 0 i (by rw [Nat.pow_zero, Nat.mul_one]; exact hi)
  rw [index_zero, Nat.zero_add] at h
  exact ⟨h.1, h.2.1⟩

/-- **C03, one honest block exchange.**  The replica asks for block `i` with the node count from its own
    `missing_nodes`; the writer answers with `create_valueless_proof` and the block's bytes; the replica's
    `verify_proof` accepts the answer. -/
theorem honest_block_accepted (C : Crypto) (bs : Array Bytes) (tw : Tree) (fw : File) (tr : Tree) (fr : File) (m : Nat)
    (hT : RootsOK C bs tw.changeset) (hN : NodesOK C bs tw fw) (hs : bs.size < 2 ^ 64)
    (hS : Sparse C bs m tr fr) (hm : m ≤ bs.size) (i : Nat) (hi : i < m) (pk : Bytes) :
    ∃ nodes cs, tw.createValuelessProof fw (some ⟨i, tr.missingNodes fr (2 * i)⟩) none none none
        = .ok ⟨tw.fork, some ⟨i, nodes⟩, none, none, none⟩
      ∧ tr.verifyProof C fr ⟨tw.fork, some ⟨i, bs.getD i [], nodes⟩, none, none, none⟩ pk = .ok cs
      ∧ (∀ n ∈ cs.rnodes, ∃ dn on, n = nodeAt C bs dn on ∧ (on + 1) * 2 ^ dn ≤ m)
      ∧ cs.upgraded = false ∧ cs.origLength = tr.length ∧ cs.origFork = tr.fork := by
  obtain ⟨h1, h2⟩ := missingNodes_spec C bs m tr fr hS (Nat.lt_of_le_of_lt hm hs) i hi
  have hc := create_block_proof C bs tw fw hT hN hs i (tr.missingNodes fr (2 * i)) (Nat.lt_of_lt_of_le hi hm)
    (Nat.le_trans h2 hm)
  obtain ⟨cs, hv, hu, _, hall, ho1, ho2⟩ := block_proof_complete C bs tr fr pk i (tr.missingNodes fr (2 * i)) tw.fork h1
  refine ⟨_, cs, hc, hv, fun n hn => ?_, hu, ho1, ho2⟩
  obtain ⟨dn, on, e, hb⟩ := hall n hn
  exact ⟨dn, on, e, Nat.le_trans hb h2⟩

end HC.Complete
