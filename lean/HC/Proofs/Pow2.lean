import Mathlib.Tactic.Ring
/-!
Arithmetic of dyadic spans.  The node at depth `d`, offset `o` of a binary tree over a row of leaves
covers the leaves `[o * 2^d, (o+1) * 2^d)`; its parent is `(d+1, o/2)` and its sibling `(d, sib o)`.
Everything here is a fact about `Nat`; after naming `2^d` such facts are linear.
-/
namespace HC.RefProof

theorem pow_succ2 (d : Nat) : 2 ^ (d + 1) = 2 * 2 ^ d := by rw [Nat.pow_succ, Nat.mul_comm]

theorem pow_pos' (d : Nat) : 0 < 2 ^ d := Nat.pow_pos (by decide)

end HC.RefProof

namespace HC.Pow2
open HC.RefProof

theorem lt_of_pow_lt {a b : Nat} (h : 2 ^ a < 2 ^ b) : a < b := (Nat.pow_lt_pow_iff_right (by decide)).mp h

theorem pow_sandwich {d d' n : Nat} (h1 : 2 ^ d ≤ n) (h2 : n < 2 ^ (d + 1)) (h1' : 2 ^ d' ≤ n) (h2' : n < 2 ^ (d' + 1)) : d = d' :=
  Nat.le_antisymm (Nat.le_of_lt_succ (lt_of_pow_lt (Nat.lt_of_le_of_lt h1 h2')))
    (Nat.le_of_lt_succ (lt_of_pow_lt (Nat.lt_of_le_of_lt h1' h2)))

theorem pow_succ_div_two (d : Nat) : 2 ^ (d + 1) / 2 = 2 ^ d := by
  rw [pow_succ2]; exact Nat.mul_div_cancel_left _ (by decide)

theorem succ_mul_pow (o d : Nat) : (o + 1) * 2 ^ d = o * 2 ^ d + 2 ^ d := Nat.succ_mul o (2 ^ d)

theorem mul_pow_succ (o d : Nat) : o * 2 ^ (d + 1) = 2 * (o * 2 ^ d) := by rw [pow_succ2]; ring

theorem succ_mul_pow_succ (o d : Nat) : (o + 1) * 2 ^ (d + 1) = 2 * ((o + 1) * 2 ^ d) := mul_pow_succ (o + 1) d

theorem bit_cases (n : Nat) : ∃ q, n = 2 * q ∨ n = 2 * q + 1 := ⟨n / 2, by omega⟩

theorem binary_induction {P : Nat → Prop} (zero : P 0) (double : ∀ q, q ≠ 0 → P q → P (2 * q))
    (double_succ : ∀ q, P q → P (2 * q + 1)) (n : Nat) : P n := by
  induction n using Nat.strongRecOn with
  | _ n ih =>
    obtain ⟨q, rfl | rfl⟩ := bit_cases n
    · by_cases h : q = 0
      · subst h; exact zero
      · exact double q h (ih q (by rw [Nat.two_mul]; exact Nat.lt_add_of_pos_right (Nat.pos_of_ne_zero h)))
    · exact double_succ q (ih q (Nat.lt_succ_of_le (Nat.le_mul_of_pos_left q (by decide))))

theorem double_succ_div (q : Nat) : (2 * q + 1) / 2 = q := by omega

theorem double_succ_mod (q : Nat) : (2 * q + 1) % 2 = 1 := Nat.mul_add_mod 2 q 1

theorem depth_lt_of_span {o d n k : Nat} (h : (o + 1) * 2 ^ d ≤ n) (hn : n < 2 ^ k) : d < k :=
  lt_of_pow_lt (Nat.lt_of_le_of_lt (Nat.le_trans (Nat.le_mul_of_pos_left _ (Nat.succ_pos o)) h) hn)

/-- the span of `(d+1, q)` ends where that of its right child `(d, 2q+1)` ends -/
theorem parent_end (d q : Nat) : (q + 1) * 2 ^ (d + 1) = (2 * q + 2) * 2 ^ d := by rw [pow_succ2]; ring

/-- the spans of the two children of `(d+1, q)`: the left one starts where the parent starts, the right one
    starts where the left one ends and ends where the parent ends -/
theorem child_spans (d q : Nat) :
    q * 2 ^ (d + 1) = 2 * q * 2 ^ d ∧ (2 * q + 1) * 2 ^ d = 2 * q * 2 ^ d + 2 ^ d
      ∧ (q + 1) * 2 ^ (d + 1) = (2 * q + 1) * 2 ^ d + 2 ^ d :=
  ⟨by rw [pow_succ2, Nat.mul_comm 2 q, Nat.mul_assoc], Nat.succ_mul _ _, by rw [parent_end]; exact Nat.succ_mul _ _⟩

theorem child_span_le (d o : Nat) : (o + 1) * 2 ^ d ≤ (o / 2 + 1) * 2 ^ (d + 1) := by
  rw [parent_end]; exact Nat.mul_le_mul_right _ (by omega)

theorem div_pow_succ (o k : Nat) : o / 2 / 2 ^ k = o / 2 ^ (k + 1) := by
  rw [Nat.div_div_eq_div_mul, Nat.pow_succ, Nat.mul_comm]

theorem div_eq_of_span (i d o : Nat) (h1 : o * 2 ^ d ≤ i) (h2 : i < (o + 1) * 2 ^ d) : i / 2 ^ d = o := by
  have hp := pow_pos' d
  apply Nat.le_antisymm
  · exact Nat.lt_succ_iff.mp ((Nat.div_lt_iff_lt_mul hp).mpr h2)
  · exact (Nat.le_div_iff_mul_le hp).mpr h1

theorem div_pow_succ' (i j : Nat) : i / 2 ^ j / 2 = i / 2 ^ (j + 1) := by rw [Nat.div_div_eq_div_mul, ← Nat.pow_succ]

theorem parent_start (d q : Nat) : q * 2 ^ (d + 1) = 2 * q * 2 ^ d := (Pow2.child_spans d q).1

theorem lt_succ_div_mul (i k : Nat) (hk : 0 < k) : i < (i / k + 1) * k :=
  (Nat.div_lt_iff_lt_mul hk).mp (Nat.lt_succ_self _)

theorem mult_gap (P a b : Nat) (ha : P ∣ a) (hb : P ∣ b) (h : a < b) : a + P ≤ b := by
  obtain ⟨x, rfl⟩ := ha
  obtain ⟨y, rfl⟩ := hb
  have : x < y := Nat.lt_of_mul_lt_mul_left h
  calc P * x + P = P * (x + 1) := (Nat.mul_succ P x).symm
    _ ≤ P * y := Nat.mul_le_mul_left _ this

theorem parent_end_odd (d o : Nat) (h : o % 2 = 1) : (o / 2 + 1) * 2 ^ (d + 1) = (o + 1) * 2 ^ d := by
  rw [parent_end, show 2 * (o / 2) + 2 = o + 1 from congrArg (· + 1) (by have := Nat.div_add_mod o 2; rwa [h] at this)]

theorem parent_end_even (d o : Nat) (h : o % 2 = 0) : (o / 2 + 1) * 2 ^ (d + 1) = (o + 2) * 2 ^ d := by
  rw [parent_end, show 2 * (o / 2) + 2 = o + 2 from congrArg (· + 2) (by have := Nat.div_add_mod o 2; rwa [h] at this)]

theorem end_child_le (d o o' : Nat) (h : o' / 2 = o) : (o' + 1) * 2 ^ d ≤ (o + 1) * 2 ^ (d + 1) :=
  h ▸ child_span_le d o'

/-- of the ancestors of `(d, o)`, the one `k` levels up ends at or after the one `j ≤ k` levels up -/
theorem anc_end_mono (d o : Nat) {j k : Nat} (h : j ≤ k) : (o / 2 ^ j + 1) * 2 ^ (d + j) ≤ (o / 2 ^ k + 1) * 2 ^ (d + k) := by
  induction k, h using Nat.le_induction with
  | base => exact Nat.le_refl _
  | succ k _ ih => exact Nat.le_trans ih (by rw [← div_pow_succ']; exact child_span_le (d + k) (o / 2 ^ k))

end HC.Pow2

namespace HC.RefProof

/-- a node strictly above depth `k` whose span ends where `(m+1)` spans of depth `k` end exists only
    when `m + 1` is even -/
theorem carry_even (k d o m : Nat) (hd : k < d) (h : (o + 1) * 2 ^ d = (m + 1) * 2 ^ k) : (m + 1) % 2 = 0 := by
  have h1 : 2 ^ (k + 1) ∣ (m + 1) * 2 ^ k := h ▸ Nat.dvd_mul_left_of_dvd (Nat.pow_dvd_pow 2 hd) _
  rw [pow_succ2] at h1
  exact Nat.mod_eq_zero_of_dvd (Nat.dvd_of_mul_dvd_mul_right (pow_pos' k) h1)

end HC.RefProof

namespace HC.Sound
open HC.Pow2

def sib (o : Nat) : Nat := if o % 2 = 0 then o + 1 else o - 1

end HC.Sound

namespace HC.Pow2
open HC.Sound

theorem sib_even {o : Nat} (h : o % 2 = 0) : sib o = o + 1 := if_pos h

theorem sib_odd {o : Nat} (h : o % 2 = 1) : sib o = o - 1 := if_neg (Nat.mod_two_ne_zero.mpr h)

theorem sib_cases (o : Nat) : ∃ q, o / 2 = q ∧ ((o = 2 * q ∧ sib o = 2 * q + 1) ∨ (o = 2 * q + 1 ∧ sib o = 2 * q)) := by
  have hm := Nat.div_add_mod o 2
  rcases Nat.mod_two_eq_zero_or_one o with h | h <;> rw [h] at hm
  · exact ⟨o / 2, rfl, Or.inl ⟨hm.symm, by rw [sib_even h]; exact congrArg (· + 1) hm.symm⟩⟩
  · exact ⟨o / 2, rfl, Or.inr ⟨hm.symm, by rw [sib_odd h]; exact Nat.sub_eq_of_eq_add hm.symm⟩⟩

theorem sib_half (o : Nat) : sib o / 2 = o / 2 := by
  obtain ⟨q, hq, ⟨_, hs⟩ | ⟨_, hs⟩⟩ := sib_cases o
  · rw [hs, hq]; exact double_succ_div q
  · rw [hs, hq]; exact Nat.mul_div_cancel_left q (by decide)

theorem sib_sib (o : Nat) : sib (sib o) = o := by
  by_cases h : o % 2 = 0
  · rw [sib_even h, sib_odd (Nat.succ_mod_two_eq_one_iff.mpr h)]; rfl
  · cases o with
    | zero => exact absurd rfl h
    | succ q =>
      have h1 : (q + 1) % 2 = 1 := Nat.mod_two_ne_zero.mp h
      rw [sib_odd h1]; exact sib_even (Nat.succ_mod_two_eq_one_iff.mp h1)

end HC.Pow2

namespace HC.Complete
open HC.Sound HC.Pow2

theorem sib_bound (o j : Nat) : (sib o + 1) * 2 ^ j ≤ (o / 2 + 1) * 2 ^ (j + 1) := by
  rw [← sib_half o]; exact child_span_le j (sib o)

theorem span_le (o d : Nat) : ∀ k, (o + 1) * 2 ^ d ≤ (o / 2 ^ k + 1) * 2 ^ (d + k) := fun k => by
  have := anc_end_mono d o (Nat.zero_le k)
  rwa [Nat.pow_zero, Nat.div_one, Nat.add_zero] at this

end HC.Complete

namespace HC.Pow2
open HC.Sound

theorem anc_step (i j : Nat) : (i / 2 ^ j + 1) * 2 ^ j ≤ (i / 2 ^ (j + 1) + 1) * 2 ^ (j + 1) := by
  rw [← div_pow_succ']; exact child_span_le j (i / 2 ^ j)

theorem parent_start_le (d o : Nat) : o / 2 * 2 ^ (d + 1) ≤ o * 2 ^ d := by
  rw [mul_pow_succ, ← Nat.mul_assoc]; exact Nat.mul_le_mul_right _ (Nat.mul_div_le o 2)

end HC.Pow2
